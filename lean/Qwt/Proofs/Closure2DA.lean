import Qwt.Proofs.DArrayBridge
import Qwt.Props.C19

/-!
The `DArray` built by `DA.new` is well-formed for the codec (`Codec.daWF`).

`InvSpec` (C07) gives the sizes of `blockInventory` and `subblockInventory` and pins the entries
that `select` reads, but not the size or the entries of `overflowPositions`, so the other bounds
are proved here by a *syntactic* invariant `Bnd N M` of the `flushBlock` fold: after flushing
groups with `M` positions in total, all of them `< N`,

* `overflowPositions` has at most `M` entries,
* every block entry `x` satisfies `-(M) - 1 ≤ x < N` (a first position, or `-(off) - 1` with
  `off` a former size of `overflowPositions`),
* every sub-block entry is `< 65536` (an offset `% 65536`, or the filler `65535`),
* every overflow position is `< N`.

With `N = nBits` and `M = |ps| ≤ nBits` this gives `invWF` whenever `nBits < 2 ^ 63`: block
entries are `i64`, a first position must be `< 2 ^ 63` and `-(off) - 1` must be `≥ -2 ^ 63`.
-/
namespace Qwt.Closure2
open Qwt Qwt.DA Qwt.BV Qwt.DAProofs

structure Bnd (N M : Nat) (inv : Inventories) : Prop where
  osize : inv.overflowPositions.size ≤ M
  blk : ∀ x ∈ inv.blockInventory.toList, -(Int.ofNat M) - 1 ≤ x ∧ x < Int.ofNat N
  sub : ∀ x ∈ inv.subblockInventory.toList, x < 65536
  ovf : ∀ x ∈ inv.overflowPositions.toList, x < N

theorem bnd_nil (N : Nat) : Bnd N 0 {} where
  osize := Nat.le_refl _
  blk := by intro x hx; simp at hx
  sub := by intro x hx; simp at hx
  ovf := by intro x hx; simp at hx

theorem bnd_flush {N M : Nat} {inv : Inventories} (h : Bnd N M inv) (c : List Nat)
    (hc : ∀ x ∈ c, x < N) : Bnd N (M + c.length) (flushBlock inv c) := by
  cases c with
  | nil => exact h
  | cons first rest =>
    have hfirst : first < N := hc first (List.mem_cons_self ..)
    rw [flushBlock_cons]
    refine ⟨?_, ?_, ?_, ?_⟩
    · show (inv.overflowPositions ++ _).size ≤ _
      rw [Array.size_append]
      refine Nat.add_le_add h.osize ?_
      by_cases hd : isDense (first :: rest)
      · rw [if_pos hd]
        exact Nat.zero_le _
      · rw [if_neg hd]
        exact Nat.le_refl _
    · -- a block entry is a first position, or `-(off) - 1` with `off` a former overflow size
      intro x hx
      rw [Array.toList_push, List.mem_append, List.mem_singleton] at hx
      have hM : -(Int.ofNat (M + (first :: rest).length)) - 1 ≤ -(Int.ofNat M) - 1 := by
        simp only [Int.ofNat_eq_natCast]
        omega
      rcases hx with hx | rfl
      · exact ⟨Int.le_trans hM (h.blk x hx).1, (h.blk x hx).2⟩
      · have := h.osize
        split <;> simp only [Int.ofNat_eq_natCast] <;> omega
    · intro x hx
      rw [Array.toList_append, List.mem_append] at hx
      rcases hx with hx | hx
      · exact h.sub x hx
      · split at hx
        · obtain ⟨p, _, rfl⟩ := List.mem_map.mp hx
          exact Nat.mod_lt _ (by decide)
        · rw [Array.toList_replicate] at hx
          rw [(List.mem_replicate.mp hx).2]
          decide
    · intro x hx
      rw [Array.toList_append, List.mem_append] at hx
      rcases hx with hx | hx
      · exact h.ovf x hx
      · split at hx
        · cases hx
        · exact hc x hx

theorem bnd_foldl {N : Nat} (cs : List (List Nat)) (hcs : ∀ x ∈ cs.flatten, x < N) :
    ∀ {M : Nat} {inv : Inventories}, Bnd N M inv →
      Bnd N (M + cs.flatten.length) (cs.foldl flushBlock inv) := by
  induction cs with
  | nil => intro M inv h; exact h
  | cons c cs ih =>
    intro M inv h
    rw [List.flatten_cons] at hcs
    have h1 := bnd_flush h c (fun x hx => hcs x (List.mem_append_left _ hx))
    have h2 := ih (fun x hx => hcs x (List.mem_append_right _ hx)) h1
    rwa [List.flatten_cons, List.length_append, ← Nat.add_assoc]

theorem bnd_chunks {N : Nat} (ps : List Nat) (hps : ∀ x ∈ ps, x < N) :
    Bnd N ps.length ((chunks 1024 ps).foldl flushBlock {}) := by
  have h := bnd_foldl (N := N) (chunks 1024 ps) (by rwa [chunks_flatten 1024 (by decide)])
    (bnd_nil N)
  rwa [chunks_flatten 1024 (by decide), Nat.zero_add] at h

theorem collect_bounds (bit : Bool) {b : BitVector} (hb : Inv b) :
    (∀ x ∈ PosIter.collect bit b (b.nBits + 1) PosIter.new, x < b.nBits) ∧
    (PosIter.collect bit b (b.nBits + 1) PosIter.new).length ≤ b.nBits := by
  rw [posIter_new_ok bit b hb]
  refine ⟨?_, ?_⟩
  · intro x hx
    have := (List.mem_filter.mp hx).1
    simpa using this
  · have := List.length_filter_le (fun i => decide ((abs b)[i]! = bit)) (List.range b.nBits)
    simpa using this

theorem invWF_of_build (bit : Bool) {b : BitVector} (hb : Inv b) (hn : b.nBits < 2 ^ 63) :
    Codec.invWF (invNew bit b) := by
  obtain ⟨hlt, hlen⟩ := collect_bounds bit hb
  obtain ⟨hsets, hspec⟩ := Qwt.Props.C07.invNew_spec bit b
  have hbs := hspec.bsize
  have hss := hspec.ssize
  have hB := bnd_chunks (N := b.nBits) _ hlt
  refine ⟨by omega, ⟨by omega, fun x hx => ?_⟩, ⟨by omega, hB.sub⟩,
    ⟨Nat.lt_of_le_of_lt hB.osize (by omega), fun x hx => ?_⟩⟩
  · have := hB.blk x hx
    simp only [Int.ofNat_eq_natCast] at this
    omega
  · have := hB.ovf x hx
    show x < 2 ^ 64
    omega

theorem new_bv (s0 : Bool) (b : BitVector) : (DA.new s0 b).bv = b := rfl

theorem daWF_of_new (s0 : Bool) {b : BV.BitVector} (hb : BV.Inv b) (hn : b.nBits < 2 ^ 63) :
    Codec.daWF (DA.new s0 b) := by
  have hn64 : b.nBits < 2 ^ 64 := by omega
  refine ⟨Qwt.Props.C19.bvWF_of_inv hb hn64, invWF_of_build true hb hn, ?_⟩
  show Codec.optAll Codec.invWF (if s0 then some (invNew false b) else none)
  cases s0
  · exact True.intro
  · exact invWF_of_build false hb hn

end Qwt.Closure2
