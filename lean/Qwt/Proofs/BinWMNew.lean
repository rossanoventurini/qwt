import Qwt.Proofs.BinWMSim
import Qwt.Proofs.WordBits

/-!
The constructor `BinWT.new` (plain variant) builds levels that represent the list-level
matrix, under `BinLevelLaw`.
-/

namespace Qwt.BinWM
open Qwt Qwt.BinWT Qwt.RSW

theorem lt_two_pow_bitlen (v : Nat) : v < 2 ^ Spec.bitlen v := Nat.lt_log2_self

theorem bitlen_le {W v : Nat} (hW : 0 < W) (hv : v < 2 ^ W) : Spec.bitlen v ≤ W := by
  unfold Spec.bitlen Spec.msb
  by_cases h0 : v = 0
  · subst h0; simp [Nat.log2_zero]; omega
  · have := (Nat.log2_lt h0).mpr hv; omega

theorem msb_ok {W v : Nat} (hW : 0 < W) (hv : v < 2 ^ W) : Utils.msb W v = .ok (Spec.msb v) :=
  Proofs.Word.msb_eq_log2 W v hv

theorem model_bit_eq_bitAt (L k s : Nat) :
    ((Utils.asUsize (s >>> (L - (k + 1))) &&& 1) == 1) = bitAt L k s := by
  rw [Nat.and_one_is_mod, Utils.asUsize, bitAt, Nat.mod_mod_of_dvd _ (by decide : 2 ∣ two64)]

theorem part2_fold (p : Nat → Bool) (l : List Nat) (z o : Array Nat) :
    l.foldl (fun (b : Array Nat × Array Nat) a =>
        if p a = false then (b.1.push a, b.2) else (b.1, b.2.push a)) (z, o) =
      (z ++ (l.filter (fun x => !p x)).toArray, o ++ (l.filter p).toArray) := by
  induction l generalizing z o with
  | nil => rfl
  | cons x xs ih =>
    simp only [List.foldl_cons]
    cases hx : p x
    · simp [ih, hx]
    · simp [ih, hx]

theorem stablePartitionOf2_ok (W L k : Nat) (l : List Nat) (hsh : L - (k + 1) < W) :
    Utils.stablePartitionOf2 W l.toArray (L - (k + 1)) = .ok (part (bitAt L k) l).toArray := by
  unfold Utils.stablePartitionOf2
  have e : (fun (b : Array Nat × Array Nat) a =>
        if (Utils.asUsize (a >>> (L - (k + 1))) &&& 1 == 0) = true then (b.1.push a, b.2)
        else (b.1, b.2.push a)) =
      (fun (b : Array Nat × Array Nat) a =>
        if bitAt L k a = false then (b.1.push a, b.2) else (b.1, b.2.push a)) := by
    funext b a
    rw [← model_bit_eq_bitAt, Nat.and_one_is_mod]
    rcases Nat.mod_two_eq_zero_or_one (Utils.asUsize (a >>> (L - (k + 1)))) with h | h <;>
      rw [h] <;> rfl
  rw [if_neg (fun hn => Nat.not_le.mpr hsh hn.1)]
  simp only [List.foldl_toArray', List.size_toArray]
  rw [e, part2_fold]
  simp [part]

theorem new_bv {bvm : BV.BitVector} {r : RSWide} (h : RSW.new bvm = .ok r) : r.bv = bvm := by
  unfold RSW.new at h
  simp only [bind, Except.bind, pure, Except.pure] at h
  split at h
  · cases h
  · split at h
    · cases h
    · cases h; rfl

theorem mkLevel_run {bits : List Bool} {r : RSWide} (hmk : RSW.mkLevel bits = .ok r)
    (hrep : RSW.Represents r bits) :
    ∃ bvm, bits.foldlM (fun (b : BV.BitVectorMut) x => BV.push b x) {} = .ok bvm ∧
      RSW.new bvm = .ok r ∧ bvm.nBits = bits.length := by
  unfold RSW.mkLevel at hmk
  cases hb : bits.foldlM (fun (b : BV.BitVectorMut) x => BV.push b x) {} with
  | error e => rw [hb] at hmk; cases hmk
  | ok bvm =>
    rw [hb, ok_bind] at hmk
    exact ⟨bvm, rfl, hmk, by rw [← new_bv hmk, hrep.len_eq]⟩

theorem levelStep_ok (c : Cfg) (hLaw : BinLevelLaw) (L k : Nat) (hk : k < L) (hLW : L ≤ c.W)
    (l : List Nat) (hl : l.length < 2 ^ 43) (bvs : Array RSWide) (lens : Array Nat) :
    ∃ r, RSW.Represents r (l.map (bitAt L k)) ∧
      levelStep c false L #[] { seq := l.toArray, shift := k + 1, bvs := bvs, lens := lens } =
        .ok { seq := (part (bitAt L k) l).toArray, shift := k + 2, bvs := bvs.push r,
              lens := lens.push l.length } := by
  obtain ⟨r, hmk, hrep⟩ := hLaw (l.map (bitAt L k)) (by simpa using hl)
  obtain ⟨bvm, hb, hnew, hnb⟩ := mkLevel_run hmk hrep
  rw [List.foldlM_map] at hb
  rw [List.length_map] at hnb
  refine ⟨r, hrep, ?_⟩
  unfold levelStep
  have hsh : L - (k + 1) < c.W :=
    Nat.lt_of_lt_of_le (Nat.sub_lt (Nat.zero_lt_of_lt hk) (Nat.succ_pos k)) hLW
  simp only [List.foldlM_toArray', Bool.false_eq_true, if_false, sub_ok (h := hk), ok_bind,
    if_neg (Nat.not_le.mpr hsh), model_bit_eq_bitAt, hb, hnew, stablePartitionOf2_ok c.W L k l hsh, hnb]
  rfl

theorem forall_push {α : Type} {P : Nat → α → Prop} {a : Array α} {r : α}
    (h : ∀ j (hj : j < a.size), P j a[j]) (hr : P a.size r) :
    ∀ j (hj : j < (a.push r).size), P j (a.push r)[j] := by
  intro j hj
  rw [Array.getElem_push]
  split
  · exact h j _
  · obtain rfl : j = a.size := by rw [Array.size_push] at hj; omega
    exact hr

/-- the level loop, given what one level does: level `k` turns the carried sequence `σ k` into
    `σ (k + 1)` and pushes a structure representing `B k` and the length `ℓ k` -/
theorem levels_loop (c : Cfg) (comp : Bool) (L : Nat) (codes : Array Huff.PrefixCode)
    (σ : Nat → List Nat) (B : Nat → List Bool) (ℓ : Nat → Nat) (n : Nat)
    (hstep : ∀ k, k < n → ∀ bvs lens, ∃ r, RSW.Represents r (B k) ∧
      levelStep c comp L codes { seq := (σ k).toArray, shift := k + 1, bvs := bvs, lens := lens } =
        .ok { seq := (σ (k + 1)).toArray, shift := k + 2, bvs := bvs.push r,
              lens := lens.push (ℓ k) })
    (k : Nat) (hk : k ≤ n) :
    ∃ st : LevelSt,
      (List.range k).foldlM (fun st _ => levelStep c comp L codes st)
        ({ seq := (σ 0).toArray, shift := 1 } : LevelSt) = .ok st ∧
      st.seq = (σ k).toArray ∧ st.shift = k + 1 ∧ st.bvs.size = k ∧ st.lens.size = k ∧
      (∀ j (h : j < st.bvs.size), RSW.Represents st.bvs[j] (B j)) ∧
      (∀ j (h : j < st.lens.size), st.lens[j] = ℓ j) := by
  induction k with
  | zero =>
    refine ⟨_, rfl, rfl, rfl, rfl, rfl, ?_, ?_⟩
    · intro j h; simp at h
    · intro j h; simp at h
  | succ k ih =>
    obtain ⟨st, h1, h2, h3, h4, h5, h6, h7⟩ := ih (Nat.le_of_succ_le hk)
    obtain ⟨seq, shift, bvs, lens⟩ := st
    simp only at h2 h3 h4 h5 h6 h7
    subst h2 h3
    obtain ⟨r, hrep, hs⟩ := hstep k hk bvs lens
    refine ⟨{ seq := (σ (k + 1)).toArray, shift := k + 2, bvs := bvs.push r,
              lens := lens.push (ℓ k) }, ?_, rfl, rfl, ?_, ?_, ?_, ?_⟩
    · rw [List.range_succ, List.foldlM_append, h1, ok_bind]
      simp only [List.foldlM_cons, List.foldlM_nil, hs]
      rfl
    · rw [Array.size_push, h4]
    · rw [Array.size_push, h5]
    · exact forall_push (P := fun j r => RSW.Represents r (B j)) h6 (by rw [h4]; exact hrep)
    · exact forall_push (P := fun j n => n = ℓ j) h7 (by rw [h5])

/-- the representation invariant of a plain binary wavelet matrix `t` for the sequence `S` -/
structure WMb (c : Cfg) (S : List Nat) (t : WT) : Prop where
  n_eq : t.n = S.length
  empty : S = [] → t = {}
  sigma_eq : S ≠ [] → t.sigma = some (Spec.maxNat S)
  nLevels_eq : S ≠ [] → t.nLevels = Spec.bitlen (Spec.maxNat S)
  nLevels_le : t.nLevels ≤ c.W
  levels : S ≠ [] → Levels t.nLevels S t.bvs
  codes : t.codesEncode = none ∧ t.codesDecode = none
  lens_eq : t.lens = Array.replicate t.nLevels S.length
  bound : ∀ x ∈ S, x < 2 ^ c.W
  len_lt : S.length < 2 ^ 43

theorem new_nil (c : Cfg) : BinWT.new c false ([] : List Nat).toArray [] = .ok {} := rfl

theorem new_ok (c : Cfg) (hW : 0 < c.W) (hLaw : BinLevelLaw) (S : List Nat)
    (hb : ∀ x ∈ S, x < 2 ^ c.W) (hS : S.length < 2 ^ 43) :
    ∃ t, BinWT.new c false S.toArray [] = .ok t ∧ WMb c S t := by
  cases hS0 : S with
  | nil =>
    refine ⟨{}, rfl, ⟨rfl, fun _ => rfl, fun h => absurd rfl h, fun h => absurd rfl h,
      Nat.zero_le _, fun h => absurd rfl h, ⟨rfl, rfl⟩, rfl, by simp, by simp⟩⟩
  | cons y ys =>
    rw [← hS0]
    have hne : S ≠ [] := by rw [hS0]; simp
    have hmax : Spec.maxNat S < 2 ^ c.W := Spec.maxNat_lt (Nat.pow_pos (by decide)) hb
    have hLW := bitlen_le hW hmax
    obtain ⟨st, h1, -, -, h4, h5, h6, h7⟩ :=
      levels_loop c false (Spec.bitlen (Spec.maxNat S)) #[]
        (lvl (bitAt (Spec.bitlen (Spec.maxNat S))) · S)
        (bitsAt (bitAt (Spec.bitlen (Spec.maxNat S))) · S) (fun _ => S.length) _
        (fun k hk bvs lens => by
          have := levelStep_ok c hLaw _ k hk hLW (lvl (bitAt (Spec.bitlen (Spec.maxNat S))) k S)
            (by rw [lvl_length]; exact hS) bvs lens
          rwa [lvl_length] at this) _ (Nat.le_refl _)
    rw [lvl] at h1
    have hlens : st.lens = Array.replicate (Spec.bitlen (Spec.maxNat S)) S.length :=
      Array.ext (by rw [h5, Array.size_replicate])
        (fun j hj _ => by rw [h7 j hj, Array.getElem_replicate])
    have hemp : S.toArray.isEmpty = false := by rw [hS0]; rfl
    have hfold : S.toArray.foldl max 0 = Spec.maxNat S := by simp [Spec.maxNat]
    refine ⟨{ n := S.length, nLevels := Spec.bitlen (Spec.maxNat S), sigma := some (Spec.maxNat S),
              bvs := st.bvs, lens := st.lens }, ?_, ?_⟩
    · unfold BinWT.new
      simp only [hemp, Bool.false_eq_true, if_false, hfold, msb_ok hW hmax, ok_bind, pure_bind']
      have : Spec.msb (Spec.maxNat S) + 1 = Spec.bitlen (Spec.maxNat S) := rfl
      simp only [this, Option.getD_none, h1, ok_bind]
      rfl
    · exact ⟨rfl, fun h => absurd h hne, fun _ => rfl, fun _ => rfl, hLW,
        fun _ => ⟨h4, h6⟩, ⟨rfl, rfl⟩, hlens, hb, hS⟩

end Qwt.BinWM
