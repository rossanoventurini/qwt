import Qwt.Proofs.BinHWMInv
import Qwt.Proofs.HQWMBits

/-!
Size of the level data of the Huffman-shaped *binary* wavelet tree (mirror of
`Qwt/Proofs/HQWMBits.lean`): the levels hold, in total, one bit per (element, code bit), i.e.
`Σ_k lens[k] = Σ_{x ∈ S} len(code x)`.  This ties the entropy bound C15 (stated over
`cost f ℓ`) to the model of `WaveletTree<_, _, true>`.
-/

namespace Qwt.BinWM
open Qwt Qwt.BinWT
open Qwt.Huff (PrefixCode)

theorem part_countP (p P : Nat → Bool) (l : List Nat) : (part p l).countP P = l.countP P :=
  (List.perm_append_comm.trans (List.filter_append_perm p l)).countP_eq P

/-- the live elements of level `k` are, up to order, the elements with more than `k` bits -/
theorem lvlH_countP (β : Nat → Nat → Bool) (len : Nat → Nat) (S : List Nat)
    (hpos : ∀ x ∈ S, 0 < len x) (P : Nat → Bool) (k : Nat) :
    (lvlH β len k S).countP P = S.countP (fun x => P x && decide (k < len x)) := by
  induction k generalizing P with
  | zero =>
    rw [lvlH]
    apply List.countP_congr
    intro x hx
    have := hpos x hx
    simp [this]
  | succ k ih =>
    rw [lvlH, List.countP_filter, part_countP, ih]
    apply List.countP_congr
    intro x hx
    by_cases h1 : k + 1 < len x
    · have h2 : k < len x := by omega
      simp [h1, h2]
    · simp [h1]

theorem lvlH_length_eq (β : Nat → Nat → Bool) (len : Nat → Nat) (S : List Nat)
    (hpos : ∀ x ∈ S, 0 < len x) (k : Nat) :
    (lvlH β len k S).length = S.countP (fun x => decide (k < len x)) := by
  have h := lvlH_countP β len S hpos (fun _ => true) k
  rw [List.countP_true] at h
  rw [h]
  apply List.countP_congr
  intro x _
  simp

/-- total number of bits stored in the levels of the Huffman-shaped binary tree -/
theorem invH_level_bits {c : Cfg} {S : List Nat} {codes : Array PrefixCode} {t : WT}
    (h : HWMb c S codes t) :
    t.lens.toList.sum = (S.map (fun x => codes[x]!.len)).sum := by
  have hl : t.lens.toList = (List.range t.nLevels).map
      (fun k => (lvlH (cbit codes) (clen codes) k S).length) := by
    apply List.ext_getElem
    · simp [h.levels.lens_size]
    · intro i h1 h2
      simp only [Array.length_toList] at h1
      simp only [Array.getElem_toList, List.getElem_map, List.getElem_range]
      exact h.levels.lens_eq i h1
  have hfun : (fun k => (lvlH (cbit codes) (clen codes) k S).length) =
      (fun k => S.countP (fun x => decide (k < clen codes x))) := by
    funext k
    exact lvlH_length_eq _ _ S h.hok.pos k
  rw [hl, hfun, Qwt.HQWM.sum_levels]
  refine congrArg List.sum (List.map_congr_left fun x hx => ?_)
  have h1 := h.levels.len_le x hx
  rw [Nat.min_eq_right h1]
  rfl

end Qwt.BinWM
