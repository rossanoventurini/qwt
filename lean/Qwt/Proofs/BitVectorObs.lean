import Qwt.Proofs.BitVectorOps

/-!
The observers read `abs`: single bits, bit slices (`Spec.ofBits` of a slice of `abs`), whole words, the
counters; and two vectors satisfying the invariant are equal iff their `abs` are.
-/
namespace Qwt.BV
open Qwt

theorem ofBits_testBit (l : List Bool) : ∀ k, (Spec.ofBits l).testBit k = l.getD k false := by
  induction l with
  | nil => intro k; simp [Spec.ofBits]
  | cons a l ih =>
    intro k
    cases k with
    | zero =>
      rw [Nat.testBit_zero, Spec.ofBits]
      cases a <;> simp <;> omega
    | succ k =>
      rw [Nat.testBit_succ, Spec.ofBits]
      have : ((if a = true then 1 else 0) + 2 * Spec.ofBits l) / 2 = Spec.ofBits l := by
        cases a <;> simp <;> omega
      rw [this, ih]; simp

theorem eq_ofBits_of_testBit (v : Nat) (l : List Bool) (h : ∀ k, v.testBit k = l.getD k false) :
    v = Spec.ofBits l := by
  apply Nat.eq_of_testBit_eq
  intro k; rw [h, ofBits_testBit]

/-- beyond `nBits` the words hold zeros, as `getD` does -/
theorem Inv.getD_abs {b : BitVector} (hb : Inv b) (x : Nat) : (abs b).getD x false = bitAt b x := by
  rw [List.getD_eq_getElem?_getD, abs_getElem?]
  split
  · rfl
  · rename_i h
    exact (hb.pad x (Nat.le_of_not_lt h)).symm

theorem Inv.slice_getD {b : BitVector} (hb : Inv b) (i len k : Nat) :
    (((abs b).drop i).take len).getD k false = (decide (k < len) && bitAt b (i + k)) := by
  rw [List.getD_eq_getElem?_getD, List.getElem?_take]
  by_cases hk : k < len
  · rw [if_pos hk, List.getElem?_drop, ← List.getD_eq_getElem?_getD, hb.getD_abs, decide_eq_true hk]
    rfl
  · rw [if_neg hk, decide_eq_false hk]
    rfl

theorem get_ok (b : BitVector) (hb : Inv b) (i : Nat) : get b i = .ok (abs b)[i]? := by
  unfold get
  rw [abs_getElem?]
  by_cases h : i < b.nBits
  · rw [if_neg (Nat.not_le_of_lt h), if_pos h, getUnchecked_ok hb h]; rfl
  · rw [if_pos (Nat.le_of_not_lt h), if_neg h]; rfl

theorem len_ok (b : BitVector) : len b = (abs b).length := (abs_length b).symm

theorem countOnes_ok (b : BitVector) (hb : Inv b) : countOnes b = (abs b).count true := hb.ones

theorem countZeros_ok (b : BitVector) (hb : Inv b) : countZeros b = .ok ((abs b).count false) := by
  have h := count_true_add_false (abs b)
  rw [abs_length, ← hb.ones] at h
  rw [countZeros, sub_ok (h ▸ Nat.le_add_right _ _), Nat.sub_eq_of_eq_add (by rw [Nat.add_comm]; exact h.symm)]

/-- the mask of `get_bits_slice`, `(1 << len) - 1` or `u64::MAX`, followed by the rest `k` of the function -/
theorem mask_ok {α} (len : Nat) (h1 : len ≤ 64) (k : Nat → M α) :
    (do
      let mask ← if len == 64 then pure mask64 else do
        let s ← shl64 1 len
        sub s 1
      k mask) = k (2 ^ len - 1) := by
  by_cases h : len = 64
  · subst h; rfl
  · have : ¬ (len == 64) = true := by simp [h]
    rw [if_neg this]
    have hlt : len < 64 := Nat.lt_of_le_of_ne h1 h
    have hp : 2 ^ len < 2 ^ 64 := Nat.pow_lt_pow_right (by decide) hlt
    unfold shl64
    rw [if_pos hlt, ok_bind, Nat.one_shiftLeft, two64_eq, Nat.mod_eq_of_lt hp]
    rw [sub_ok (Nat.two_pow_pos len), ok_bind]

/-- reading `len` bits at offset `s` of word `q`; they may continue in word `q + 1` -/
theorem getBitsSlice_spec (d : Array Nat) (q s len : Nat) (hs : s < 64) (h1 : 1 ≤ len) (h2 : len ≤ 64)
    (hr : 64 * q + s + len ≤ 64 * d.size) (hw : ∀ j, wordAt d j < 2 ^ 64) :
    ∃ v, getBitsSlice d (64 * q + s) len = .ok v ∧
      ∀ k, v.testBit k = (decide (k < len) && bitD d (64 * q + s + k)) := by
  unfold getBitsSlice
  dsimp only
  rw [mask_ok len h2, shr6, and63, Nat.mul_add_div (by decide), Nat.mul_add_mod, Nat.div_eq_of_lt hs,
    Nat.mod_eq_of_lt hs, Nat.add_zero]
  have hq : q < d.size := by omega
  have hhigh : ∀ k, 64 ≤ s + k → (wordAt d q).testBit (s + k) = false :=
    fun k hk => testBit_of_lt_two_pow (hw _) hk
  by_cases hsl : s + len ≤ 64
  · rw [if_pos hsl, idx_wordAt hq, ok_bind]
    refine ⟨_, rfl, fun k => ?_⟩
    rw [Nat.testBit_and, Nat.testBit_two_pow_sub_one, Nat.testBit_shiftRight, Bool.and_comm]
    by_cases hk : k < len
    · rw [Nat.add_assoc, bitD_mul_add d q (Nat.lt_of_lt_of_le (Nat.add_lt_add_left hk s) hsl)]
    · rw [decide_eq_false hk]; rfl
  · rw [if_neg hsl, idx_wordAt hq, ok_bind, idx_wordAt (show q + 1 < d.size by omega), ok_bind]
    unfold shl64
    rw [if_pos (show 64 - s < 64 by omega), ok_bind]
    refine ⟨_, rfl, fun k => ?_⟩
    rw [Nat.testBit_or, Nat.testBit_and, Nat.testBit_two_pow_sub_one, Nat.testBit_shiftRight,
      two64_eq, Nat.testBit_mod_two_pow, Nat.testBit_shiftLeft]
    by_cases hk : k < len
    · rw [decide_eq_true hk, Bool.and_true, Bool.true_and]
      by_cases hlo : s + k < 64
      · rw [Nat.add_assoc, bitD_mul_add d q hlo, decide_eq_false (show ¬ k ≥ 64 - s by omega)]
        simp only [Bool.false_and, Bool.and_false, Bool.or_false]
      · have e : 64 * q + s + k = 64 * (q + 1) + (k - (64 - s)) := by omega
        have hk64 : k < 64 := Nat.lt_of_lt_of_le hk h2
        rw [e, bitD_mul_add d (q + 1) (Nat.lt_of_le_of_lt (Nat.sub_le _ _) hk64),
          hhigh k (Nat.le_of_not_lt hlo), decide_eq_true hk64, decide_eq_true (show k ≥ 64 - s by omega)]
        rfl
    · rw [decide_eq_false hk, hhigh k (by omega)]
      simp only [Bool.and_false, Bool.or_false, Bool.false_and]

theorem getBitsUnchecked_ok (b : BitVector) (hb : Inv b) (i len : Nat) (h1 : 1 ≤ len)
    (h2 : len ≤ 64) (h3 : i + len ≤ b.nBits) :
    getBitsUnchecked b i len = .ok (Spec.ofBits (((abs b).drop i).take len)) := by
  have hs := hb.size
  obtain ⟨v, hv, hbits⟩ := getBitsSlice_spec b.data (i / 64) (i % 64) len (Nat.mod_lt _ (by decide))
    h1 h2 (by rw [Nat.div_add_mod]; omega) hb.wordAt_lt
  rw [Nat.div_add_mod] at hv hbits
  unfold getBitsUnchecked
  rw [hv]
  congr 1
  apply eq_ofBits_of_testBit
  intro k
  rw [hbits, hb.slice_getD]; rfl

/-- both `get_bits` are `get_bits_unchecked` behind a guard `c`; they differ in the guard only -/
theorem getBits_of_guard {b : BitVector} (hb : Inv b) (i len : Nat) (c : Bool) (P : Prop) [Decidable P]
    (hc : c = true ↔ ¬ P) (hP : P → 1 ≤ len ∧ len ≤ 64 ∧ i + len ≤ b.nBits) :
    (if c = true then pure none else do let v ← getBitsUnchecked b i len; pure (some v) : M (Option Nat)) =
      .ok (if P then some (Spec.ofBits (((abs b).drop i).take len)) else none) := by
  by_cases h : P
  · rw [if_neg (fun hc' => hc.mp hc' h), if_pos h,
      getBitsUnchecked_ok b hb i len (hP h).1 (hP h).2.1 (hP h).2.2]
    rfl
  · rw [if_pos (hc.mpr h), if_neg h]; rfl

/-- `BitVectorMut::get_bits` as pinned by the crate's test-suite: strict inequality -/
theorem getBitsMut_pinned (b : BitVector) (hb : Inv b) (i len : Nat) :
    getBitsMut b i len = .ok (if 1 ≤ len ∧ len ≤ 64 ∧ i + len < b.nBits
      then some (Spec.ofBits (((abs b).drop i).take len)) else none) :=
  getBits_of_guard hb i len _ _
    (by simp only [Bool.or_eq_true, beq_iff_eq, decide_eq_true_eq]; omega)
    (fun h => ⟨h.1, h.2.1, Nat.le_of_lt h.2.2⟩)

theorem getWord_guard {b : BitVector} (hb : Inv b) (w : Nat) :
    w >>> 3 < nLines b ↔ w < 8 * ((b.nBits + 511) / 512) := by
  rw [shr3, nLines, hb.size, Nat.mul_div_cancel_left _ (by decide), Nat.div_lt_iff_lt_mul (by decide),
    Nat.mul_comm]

theorem getWord_ok (b : BitVector) (hb : Inv b) (w : Nat) (hw : w < 8 * ((b.nBits + 511) / 512)) :
    getWord b w = .ok (Spec.ofBits (((abs b).drop (64 * w)).take 64)) := by
  unfold getWord
  rw [if_pos ((getWord_guard hb w).mpr hw)]
  have hw : w < b.data.size := hb.size ▸ hw
  rw [Array.getElem?_eq_getElem hw]
  show Except.ok b.data[w] = _
  congr 1
  apply eq_ofBits_of_testBit
  intro k
  rw [hb.slice_getD, ← wordAt_of_lt hw]
  by_cases hk : k < 64
  · rw [decide_eq_true hk, bitAt, bitD_mul_add _ _ hk]; rfl
  · rw [decide_eq_false hk, testBit_of_lt_two_pow (hb.wordAt_lt w) (Nat.le_of_not_lt hk)]; rfl

theorem eq_iff_abs (s t : BitVector) (hs : Inv s) (ht : Inv t) : s = t ↔ abs s = abs t := by
  constructor
  · intro h; rw [h]
  · intro h
    have hn : s.nBits = t.nBits := by rw [← abs_length s, ← abs_length t, h]
    have ho : s.nOnes = t.nOnes := by rw [hs.ones, ht.ones, h]
    have hsz : s.data.size = t.data.size := by rw [hs.size, ht.size, hn]
    have hd : s.data = t.data := by
      apply Array.ext hsz
      intro j h1 h2
      apply eq_of_testBit_lt (hs.words j h1) (ht.words j h2)
      intro k hk
      rw [← wordAt_of_lt h1, ← wordAt_of_lt h2, ← bitD_mul_add _ _ hk, ← bitD_mul_add _ _ hk]
      show bitAt s _ = bitAt t _
      rw [← hs.getD_abs, ← ht.getD_abs, h]
    cases s; cases t
    simp only at hn ho hd
    subst hn; subst ho; subst hd; rfl

end Qwt.BV
