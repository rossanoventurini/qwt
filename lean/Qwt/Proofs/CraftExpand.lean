import Qwt.Proofs.CraftDigits
/-! C02: the child-expansion loops `expand4` / `expand2` of `craft_wm_codes`: no fault under the
stated bounds, and the resulting array in closed form (`ExpSpec`).  Both loops are sequences of
single writes `c[(m - j) * k + r] = c[r] | (D - 1 - k) << l`; one lemma (`ExpInv.write`) covers
every such write, for any arity `D`.  It takes the index and the value as variables `p`, `v` with
equations `p = (m - j) * K + r`, `v = c[r] + a * P`, so that the call sites can hand it the terms
the model writes (`d * 3 + r`, `cr ||| s1`) and discharge the equations there. -/
namespace Qwt.Proofs.Craft
open Qwt Qwt.Huff Qwt.Props.C02

theorem getD_set!_eq {α} {c : Array α} {i : Nat} (v d : α) (h : i < c.size) :
    (c.set! i v).getD i d = v := by
  simp [Array.getD_eq_getD_getElem?, Array.set!_eq_setIfInBounds, h]

theorem getD_set!_ne {α} (c : Array α) {i k : Nat} (v d : α) (h : i ≠ k) :
    (c.set! i v).getD k d = c.getD k d := by
  simp [Array.getD_eq_getD_getElem?, Array.set!_eq_setIfInBounds, Array.getElem?_setIfInBounds_ne h]

theorem setIdx_ok {c : Array Nat} {i v : Nat} (h : i < c.size) : setIdx c i v = .ok (c.set! i v) :=
  if_pos h

/-- copy `k` of the window `[j, m)` occupies the positions `(m - j) * k + t`, `j ≤ t < m`: the copies
    do not overlap and lie in the order of `k` -/
theorem blk_lt_of_lt {j m k k' t t' : Nat} (hk : k < k') (ht : j ≤ t) (ht' : t' < m) :
    (m - j) * k + t' < (m - j) * k' + t := by
  have := Nat.mul_le_mul_left (m - j) hk
  rw [Nat.mul_succ] at this
  omega

theorem blk_lt {j m k t k' t' : Nat} (ht : j ≤ t) (ht' : t' < m)
    (h : (m - j) * k + t < (m - j) * k' + t') : k < k' ∨ (k = k' ∧ t < t') := by
  rcases Nat.lt_trichotomy k k' with hk | rfl | hk
  · exact Or.inl hk
  · exact Or.inr ⟨rfl, Nat.lt_of_add_lt_add_left h⟩
  · exact absurd h (Nat.lt_asymm (blk_lt_of_lt hk ht ht'))

theorem blk_inj {j m k t k' t' : Nat} (ht : j ≤ t) (ht2 : t < m) (ht' : j ≤ t') (ht2' : t' < m)
    (h : (m - j) * k + t = (m - j) * k' + t') : k = k' ∧ t = t' := by
  rcases Nat.lt_trichotomy k k' with hk | rfl | hk
  · exact absurd h (Nat.ne_of_lt (blk_lt_of_lt hk ht' ht2))
  · exact ⟨rfl, Nat.add_left_cancel h⟩
  · exact absurd h.symm (Nat.ne_of_lt (blk_lt_of_lt hk ht ht2'))

/-- result of the `for r in j..m` loop, for generic arity: copy `k` of the block `c[j..m)`
    carries the digit `D - 1 - k` at weight `P` -/
structure ExpSpec (D j m P : Nat) (c c' : Array Nat) : Prop where
  size : c'.size = c.size
  low : ∀ i, i < j → c'.getD i 0 = c.getD i 0
  blk : ∀ k t, k < D → j ≤ t → t < m →
    c'.getD ((m - j) * k + t) 0 = c.getD t 0 + (D - 1 - k) * P

/-- The loop before the write to copy `K - 1` of column `r`: all copies of the columns
    `j ≤ t < r` and the copies `K ≤ k < D` of column `r` are written.  Copy 0 overwrites the
    source block, so it comes last (`K` counts down) and `rest` says what is still unwritten. -/
structure ExpInv (D j m P r K : Nat) (c c' : Array Nat) : Prop where
  jr : j ≤ r
  rm : r ≤ m
  size : c'.size = c.size
  low : ∀ i, i < j → c'.getD i 0 = c.getD i 0
  rest : ∀ t, j ≤ t → t < m → r < t ∨ (t = r ∧ 0 < K) → c'.getD t 0 = c.getD t 0
  blk : ∀ k t, k < D → j ≤ t → t < m → t < r ∨ (t = r ∧ K ≤ k) →
    c'.getD ((m - j) * k + t) 0 = c.getD t 0 + (D - 1 - k) * P

theorem ExpInv.init {j m : Nat} (D P : Nat) (c : Array Nat) (hjm : j ≤ m) : ExpInv D j m P j D c c :=
  ⟨Nat.le_refl j, hjm, rfl, fun _ _ => rfl, fun _ _ _ _ => rfl, fun _ _ _ _ _ _ => by omega⟩

theorem ExpInv.next {D j m P r : Nat} {c c' : Array Nat} (h : ExpInv D j m P r 0 c c') (hr : r < m) :
    ExpInv D j m P (r + 1) D c c' :=
  ⟨Nat.le_succ_of_le h.jr, hr, h.size, h.low, fun t h1 h2 h3 => h.rest t h1 h2 (by omega),
    fun k t hk h1 h2 h3 => h.blk k t hk h1 h2 (by omega)⟩

theorem ExpInv.done {D j m P : Nat} {c c' : Array Nat} (h : ExpInv D j m P m D c c') :
    ExpSpec D j m P c c' :=
  ⟨h.size, h.low, fun k t hk h1 h2 => h.blk k t hk h1 h2 (Or.inl h2)⟩

theorem ExpInv.write {D j m P r K a p v : Nat} {c c' : Array Nat}
    (h : ExpInv D j m P r (K + 1) c c') (hr : r < m) (ha : a + K + 1 = D)
    (hsz : j + D * (m - j) ≤ c.size) (hp : p = (m - j) * K + r) (hv : v = c.getD r 0 + a * P) :
    ∃ c'', setIdx c' p v = .ok c'' ∧ ExpInv D j m P r K c c'' := by
  subst hp hv
  have hjr := h.jr
  have hK : (m - j) * (K + 1) ≤ (m - j) * D :=
    Nat.mul_le_mul_left _ (ha ▸ Nat.succ_le_succ (Nat.le_add_left K a))
  rw [Nat.mul_succ, Nat.mul_comm _ D] at hK
  have hlt : (m - j) * K + r < c'.size := by rw [h.size]; omega
  have hne : ∀ k t, j ≤ t → t < m → ¬(K = k ∧ r = t) → (m - j) * K + r ≠ (m - j) * k + t :=
    fun k t h1 h2 hn e => hn (blk_inj hjr hr h1 h2 e)
  refine ⟨_, setIdx_ok hlt, hjr, h.rm, (Array.size_setIfInBounds ..).trans h.size, ?_, ?_, ?_⟩
  · intro i hi
    have hi' : i < (m - j) * K + r := Nat.lt_of_lt_of_le hi (Nat.le_trans hjr (Nat.le_add_left ..))
    rw [getD_set!_ne _ _ _ (Nat.ne_of_gt hi')]
    exact h.low i hi
  · intro t h1 h2 h3
    have := hne 0 t h1 h2 (by omega)
    rw [Nat.mul_zero, Nat.zero_add] at this
    rw [getD_set!_ne _ _ _ this]
    exact h.rest t h1 h2 (h3.imp_right fun ⟨e, _⟩ => ⟨e, Nat.succ_pos K⟩)
  · intro k t hk h1 h2 h3
    by_cases e : K = k ∧ r = t
    · obtain ⟨rfl, rfl⟩ := e
      rw [getD_set!_eq _ _ hlt, show D - 1 - K = a by omega]
    · rw [getD_set!_ne _ _ _ (hne k t h1 h2 e)]
      exact h.blk k t hk h1 h2 (by omega)

/-- A `for r in _..m` loop of the model is a function `F fuel r s` that, while `r < m`, runs the body
    and goes on with `F (fuel - 1) (r + 1)`.  With enough fuel an invariant kept by the body holds
    at `m`. -/
theorem for_loop {σ : Type} {F : Nat → Nat → σ → M σ} {I : Nat → σ → Prop} {m : Nat}
    (hrm : ∀ r s, I r s → r ≤ m) (h0 : ∀ r s, F 0 r s = .ok s)
    (hge : ∀ f r s, ¬r < m → F (f + 1) r s = .ok s)
    (hlt : ∀ f r s, r < m → I r s → ∃ s', F (f + 1) r s = F f (r + 1) s' ∧ I (r + 1) s') :
    ∀ f r s, m ≤ f + r → I r s → ∃ s', F f r s = .ok s' ∧ I m s' := by
  intro f
  induction f with
  | zero =>
    intro r s hf h
    obtain rfl : r = m := Nat.le_antisymm (hrm r s h) (Nat.zero_add r ▸ hf)
    exact ⟨s, h0 r s, h⟩
  | succ f ih =>
    intro r s hf h
    by_cases hr : r < m
    · obtain ⟨s', e, h'⟩ := hlt f r s hr h
      rw [e]
      exact ih (r + 1) s' (by omega) h'
    · obtain rfl : r = m := Nat.le_antisymm (hrm r s h) (Nat.le_of_not_lt hr)
      exact ⟨s, hge f r s hr, h⟩

theorem expand4_body {j m l : Nat} {c : Array Nat} (hsz : j + 4 * (m - j) ≤ c.size)
    (hl : l + 2 ≤ 32) (hb : ∀ t, j ≤ t → t < m → c.getD t 0 < 2 ^ l) (f r : Nat) (c' : Array Nat)
    (hr : r < m) (h : ExpInv 4 j m (2 ^ l) r 4 c c') :
    ∃ c'', expand4 j m l (f + 1) r c' = expand4 j m l f (r + 1) c'' ∧
      ExpInv 4 j m (2 ^ l) (r + 1) 4 c c'' := by
  have hjr := h.jr
  have hs := h.size
  have hcr : c'.getD r 0 = c.getD r 0 := h.rest r hjr hr (.inr ⟨rfl, Nat.succ_pos 3⟩)
  have hsh : ∀ a, a < 2 ^ 2 → shl32 a l = .ok (a * 2 ^ l) := fun a ha => shl32_ok ha (by decide) hl
  have hv : ∀ a, c'.getD r 0 ||| a * 2 ^ l = c.getD r 0 + a * 2 ^ l := fun a => by
    rw [hcr, or_shl (hb r hjr hr)]
  obtain ⟨c3, e3, h3⟩ := h.write (a := 0) (v := c'.getD r 0) hr rfl hsz rfl
    (by rw [hcr, Nat.zero_mul, Nat.add_zero])
  obtain ⟨c2, e2, h2⟩ := h3.write hr rfl hsz rfl (hv 1)
  obtain ⟨c1, e1, h1⟩ := h2.write hr rfl hsz rfl (hv 2)
  obtain ⟨c0, e0, h0⟩ := h1.write (p := r) hr rfl hsz (by rw [Nat.mul_zero, Nat.zero_add]) (hv 3)
  refine ⟨c0, ?_, h0.next hr⟩
  rw [expand4, if_pos hr, idx_getD 0 (by omega), ok_bind, sub_ok (Nat.le_trans hjr h.rm), ok_bind,
    e3, ok_bind, hsh 1 (by decide), ok_bind, e2, ok_bind, hsh 2 (by decide), ok_bind, e1, ok_bind,
    hsh 3 (by decide), ok_bind, e0, ok_bind]

theorem expand2_body {j m l : Nat} {c : Array Nat} (hsz : j + 2 * (m - j) ≤ c.size)
    (hl : l + 1 ≤ 32) (hb : ∀ t, j ≤ t → t < m → c.getD t 0 < 2 ^ l) (f r : Nat) (c' : Array Nat)
    (hr : r < m) (h : ExpInv 2 j m (2 ^ l) r 2 c c') :
    ∃ c'', expand2 j m l (f + 1) r c' = expand2 j m l f (r + 1) c'' ∧
      ExpInv 2 j m (2 ^ l) (r + 1) 2 c c'' := by
  have hjr := h.jr
  have hs := h.size
  have hcr : c'.getD r 0 = c.getD r 0 := h.rest r hjr hr (.inr ⟨rfl, Nat.succ_pos 1⟩)
  obtain ⟨c1, e1, h1⟩ := h.write (a := 0) (v := c'.getD r 0) hr rfl hsz rfl
    (by rw [hcr, Nat.zero_mul, Nat.add_zero])
  obtain ⟨c0, e0, h0⟩ := h1.write (a := 1) (p := r) (v := c'.getD r 0 ||| 1 * 2 ^ l)
    hr rfl hsz (by rw [Nat.mul_zero, Nat.zero_add]) (by rw [hcr, or_shl (hb r hjr hr)])
  refine ⟨c0, ?_, h0.next hr⟩
  rw [expand2, if_pos hr, idx_getD 0 (by omega), ok_bind, sub_ok (Nat.le_trans hjr h.rm), ok_bind,
    e1, ok_bind, shl32_ok (b := 1) (by decide) (by decide) hl, ok_bind, e0, ok_bind]

/-- the expansion as `grow` calls it, `b` bits per fragment -/
theorem expand_spec {D b : Nat} (hpar : (D = 4 ∧ b = 2) ∨ (D = 2 ∧ b = 1)) {j m l : Nat}
    {c : Array Nat} (hjm : j ≤ m) (hsz : j + D * (m - j) ≤ c.size) (hl : l + b ≤ 32)
    (hb : ∀ t, j ≤ t → t < m → c.getD t 0 < 2 ^ l) :
    ∃ c', (if D == 4 then expand4 j m l (m + 1 - j) j c else expand2 j m l (m + 1 - j) j c) = .ok c' ∧
      ExpSpec D j m (2 ^ l) c c' := by
  have hf : m ≤ m + 1 - j + j := by omega
  rcases hpar with ⟨rfl, rfl⟩ | ⟨rfl, rfl⟩
  · obtain ⟨c', h1, h2⟩ := for_loop (fun _ _ h => h.rm) (fun _ _ => rfl)
      (fun f r s hr => by rw [expand4, if_neg hr]; rfl) (expand4_body hsz hl hb) _ j c hf
      (.init _ _ c hjm)
    exact ⟨c', h1, h2.done⟩
  · obtain ⟨c', h1, h2⟩ := for_loop (fun _ _ h => h.rm) (fun _ _ => rfl)
      (fun f r s hr => by rw [expand2, if_neg hr]; rfl) (expand2_body hsz hl hb) _ j c hf
      (.init _ _ c hjm)
    exact ⟨c', h1, h2.done⟩

theorem blk_decomp {D j m i : Nat} (h1 : j ≤ i) (h2 : i < j + D * (m - j)) :
    ∃ k t, k < D ∧ j ≤ t ∧ t < m ∧ i = (m - j) * k + t := by
  have hd : 0 < m - j := Nat.pos_of_ne_zero (fun h0 => by rw [h0] at h2; omega)
  have hmod := Nat.mod_lt (i - j) hd
  have hdm := Nat.div_add_mod (i - j) (m - j)
  refine ⟨(i - j) / (m - j), j + (i - j) % (m - j), ?_, Nat.le_add_right .., by omega, by omega⟩
  exact (Nat.div_lt_iff_lt_mul hd).mpr (by omega)

theorem ExpSpec.val {D j m P : Nat} {c c' : Array Nat} (he : ExpSpec D j m P c c') {i : Nat}
    (h1 : j ≤ i) (h2 : i < j + D * (m - j)) : ∃ k t, k < D ∧ j ≤ t ∧ t < m ∧
      i = (m - j) * k + t ∧ c'.getD i 0 = c.getD t 0 + (D - 1 - k) * P := by
  obtain ⟨k, t, hk, ht1, ht2, rfl⟩ := blk_decomp h1 h2
  exact ⟨k, t, hk, ht1, ht2, rfl, he.blk k t hk ht1 ht2⟩

theorem digit_lt {x P a a' : Nat} (hx : x < P) (ha : a < a') : x + a * P < a' * P := by
  have := Nat.mul_le_mul_right P ha
  rw [Nat.add_one_mul] at this
  omega

theorem ExpSpec.lt {D j m P : Nat} {c c' : Array Nat} (he : ExpSpec D j m P c c')
    (hb : ∀ t, j ≤ t → t < m → c.getD t 0 < P) {i : Nat} (h1 : j ≤ i) (h2 : i < j + D * (m - j)) :
    c'.getD i 0 < D * P := by
  obtain ⟨k, t, hk, ht1, ht2, _, hv⟩ := he.val h1 h2
  rw [hv]
  exact digit_lt (hb t ht1 ht2) (by omega)

/-- children of the same digit keep the (strictly decreasing) order of their parents, and the
    copies are laid out by decreasing digit -/
theorem ExpSpec.decr {D j m P : Nat} {c c' : Array Nat} (he : ExpSpec D j m P c c')
    (hb : ∀ t, j ≤ t → t < m → c.getD t 0 < P)
    (hord : ∀ t t', j ≤ t → t < t' → t' < m → c.getD t' 0 < c.getD t 0) {i i' : Nat}
    (h1 : j ≤ i) (hii' : i < i') (h2 : i' < j + D * (m - j)) : c'.getD i' 0 < c'.getD i 0 := by
  obtain ⟨k, t, hk, ht1, ht2, rfl, hv⟩ := he.val h1 (Nat.lt_trans hii' h2)
  obtain ⟨k', t', hk', ht1', ht2', rfl, hv'⟩ := he.val (Nat.le_trans h1 (Nat.le_of_lt hii')) h2
  rw [hv, hv']
  rcases blk_lt ht1 ht2' hii' with hkk | ⟨rfl, htt⟩
  · exact Nat.lt_of_lt_of_le (digit_lt (hb t' ht1' ht2') (by omega)) (Nat.le_add_left ..)
  · exact Nat.add_lt_add_right (hord t t' ht1 htt ht2') _

end Qwt.Proofs.Craft
