import Qwt.Proofs.BitVectorIter

/-!
Histories of mutating operations, run in the model (`run`) and on the plain sequence (`runSpec`), and the
preconditions `HistPre` under which the two agree through `abs` (`C08.reachable_from`).
-/
namespace Qwt.BV
open Qwt

/-- the mutating operations of `BitVectorMut` -/
inductive Op where
  | push (bit : Bool)
  | appendBits (bits len : Nat)
  | extendWithZeros (n : Nat)
  | set (i : Nat) (bit : Bool)
  | setBits (i len bits : Nat)
  | extendBools (bs : List Bool)
  | extendPositions (ps : List Nat)
  deriving Repr, DecidableEq

def Op.apply : Op → BitVector → M BitVector
  | .push bit, b => BV.push b bit
  | .appendBits bits len, b => BV.appendBits b bits len
  | .extendWithZeros n, b => BV.extendWithZeros b n
  | .set i bit, b => BV.set b i bit
  | .setBits i len bits, b => BV.setBits b i len bits
  | .extendBools bs, b => BV.extendBools b bs
  | .extendPositions ps, b => BV.extendPositions b ps

def Op.spec : Op → List Bool → List Bool
  | .push bit, l => l ++ [bit]
  | .appendBits bits len, l => l ++ Spec.bitsOf bits len
  | .extendWithZeros n, l => l ++ List.replicate n false
  | .set i bit, l => l.set i bit
  | .setBits i len bits, l => l.take i ++ Spec.bitsOf bits len ++ l.drop (i + len)
  | .extendBools bs, l => l ++ bs
  | .extendPositions ps, l => ps.foldl specSetPos l

/-- documented preconditions plus the explicit `usize` overflow guard, on the plain sequence
    (`p + 512` for a position `p`: the length `p + 1` rounded up to whole lines) -/
def Op.Pre : Op → List Bool → Prop
  | .push _, l => l.length + 1 < two64
  | .appendBits bits len, l => len ≤ 64 ∧ bits < 2 ^ len ∧ l.length + len < two64
  | .extendWithZeros n, l => l.length + n + 511 < two64
  | .set i _, l => i < l.length
  | .setBits i len bits, l => i + len ≤ l.length ∧ len ≤ 64 ∧ bits < 2 ^ len
  | .extendBools bs, l => l.length + bs.length < two64
  | .extendPositions ps, _ => ∀ p ∈ ps, p + 512 < two64

instance (op : Op) (l : List Bool) : Decidable (op.Pre l) := by
  cases op <;> unfold Op.Pre <;> infer_instance

def run (h : List Op) (b : BitVector) : M BitVector := h.foldlM (fun b op => op.apply b) b

def runSpec (h : List Op) (l : List Bool) : List Bool := h.foldl (fun l op => op.spec l) l

/-- every operation of the history meets its precondition when it is issued -/
def HistPre : List Op → List Bool → Prop
  | [], _ => True
  | op :: h, l => op.Pre l ∧ HistPre h (op.spec l)

instance instDecidableHistPre : (h : List Op) → (l : List Bool) → Decidable (HistPre h l)
  | [], _ => isTrue trivial
  | op :: h, l =>
    have := instDecidableHistPre h (op.spec l)
    by unfold HistPre; infer_instance

end Qwt.BV
