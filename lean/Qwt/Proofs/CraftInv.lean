import Qwt.Proofs.CraftExpand
import Qwt.Proofs.CraftRev
import Qwt.Proofs.WordBits

/-! C02: the loop invariant of `craft_wm_codes`, to be read next to the Rust text.

* `Ctx` is what the `for j` loop does not change: the sorted table `f` (`Ctx.sy i`, `Ctx.tl i` = symbol
  and length in bits of `f[i]`), the arity `D` with `b` bits per fragment, `sigma`, the size of `c`.
* `Inv X j st` is the state at the top of iteration `j`; `st.c`, `st.m`, `st.l` are `c`, `m`, `l`.
  `c[0..j)` are the nodes given to `f[0..j)`, `c[j..m)` the still-free nodes, all of depth `l`;
  `lev X j l i` is the depth of `c[i]` either way.
* "`c[j..m)` strictly decreasing, exactly the free nodes of depth `l`" is `Inv.ord` and `Inv.bnd` on
  `[j, m)` (`Inv.free_decr`, `Inv.free_lt`) and `Inv.count` (how many there are: free nodes and
  assigned codes make a complete Kraft sum).  On `[0, j)` the same two fields say that a later node,
  cut to the depth of an earlier one, is smaller: prefix-freeness and matrix order of the table.
* Then one lemma per step of the loop body: `Inv.assign` (`assignments[f[j].0] = …`, `j` becomes
  `j + 1`), `Inv.expand` (the `for r in j..m` block with `m = …; l += …`), `Inv.grow` (the
  `while f[j].1 > l`); `craftStep_spec` is one iteration and `craft_loop_inv` the loop. -/
namespace Qwt.Proofs.Craft
open Qwt Qwt.Huff Qwt.Props.C02

/-- `Σ 2^(T − tlen)` -/
def ksum (T : Nat) (f : List (Nat × Nat)) : Nat := (f.map (fun p => 2 ^ (T - p.2))).sum

/-- what one run of `craft_wm_codes` does not change -/
structure Ctx where
  D : Nat
  b : Nat
  f : List (Nat × Nat)     -- sorted `(symbol, length in bits)`
  T : Nat                  -- maximal length in bits
  sigma : Nat
  slots : Nat
  slack : Nat              -- Kraft deficit allowed for

/-- length in bits of the `i`-th symbol in sorted order -/
def Ctx.tl (X : Ctx) (i : Nat) : Nat := (X.f.getD i (0, 0)).2
/-- the `i`-th symbol in sorted order -/
def Ctx.sy (X : Ctx) (i : Nat) : Nat := (X.f.getD i (0, 0)).1

/-- what the theorems assume of a run: `D`/`b` one of the two routines, sorted lengths of whole
    fragments and at most 32 bits, one entry per symbol, Kraft sum within `slack` of complete -/
structure Ctx.OK (X : Ctx) : Prop where
  par : (X.D = 4 ∧ X.b = 2) ∨ (X.D = 2 ∧ X.b = 1)
  sorted : ∀ i i', i ≤ i' → i' < X.f.length → X.tl i ≤ X.tl i'
  inj : ∀ i i', i < X.f.length → i' < X.f.length → X.sy i = X.sy i' → i = i'
  dvd : ∀ i, i < X.f.length → X.b ∣ X.tl i
  leT : ∀ i, i < X.f.length → X.tl i ≤ X.T
  T32 : X.T ≤ 32
  kraft_le : ksum X.T X.f ≤ 2 ^ X.T
  near : 2 ^ X.T ≤ ksum X.T X.f + X.slack
  sym_le : ∀ i, i < X.f.length → X.sy i ≤ X.sigma
  slots_ok : 0 < X.f.length → X.f.length + X.slack ≤ X.slots

theorem Ctx.OK.D_eq {X : Ctx} (h : X.OK) : X.D = 2 ^ X.b := by
  rcases h.par with ⟨h1, h2⟩ | ⟨h1, h2⟩ <;> rw [h1, h2] <;> rfl

theorem Ctx.OK.b_eq {X : Ctx} (h : X.OK) : X.b = bitsOf X.D := by
  rcases h.par with ⟨h1, h2⟩ | ⟨h1, h2⟩ <;> rw [h1, h2] <;> rfl

theorem Ctx.OK.b_pos {X : Ctx} (h : X.OK) : 0 < X.b := by
  rcases h.par with ⟨_, h2⟩ | ⟨_, h2⟩ <;> omega

theorem Ctx.tl_eq (X : Ctx) {i : Nat} (hi : i < X.f.length) : X.tl i = X.f[i].2 := by
  rw [Ctx.tl, getD_of_lt hi]

theorem Ctx.sy_eq (X : Ctx) {i : Nat} (hi : i < X.f.length) : X.sy i = X.f[i].1 := by
  rw [Ctx.sy, getD_of_lt hi]

/-- depth (in bits) of the node stored at index `i`: its code length once assigned, the
    current depth `l` while free -/
def lev (X : Ctx) (j l i : Nat) : Nat := if i < j then X.tl i else l

theorem lev_lt {X : Ctx} {j l i : Nat} (h : i < j) : lev X j l i = X.tl i := if_pos h
theorem lev_ge {X : Ctx} {j l i : Nat} (h : j ≤ i) : lev X j l i = l := if_neg (Nat.not_lt.mpr h)

/-- the state after `j` symbols: `c[0..j)` are the assigned nodes, node `i` of depth `tl i`;
    `c[j..m)` are the free nodes, all of depth `l` -/
structure Inv (X : Ctx) (j : Nat) (st : CraftSt) : Prop where
  /-- `c` and `assignments` keep their allocated sizes -/
  csize : st.c.size = X.slots
  asize : st.assignments.size = X.sigma + 1
  jm : j ≤ st.m
  /-- at most `alph + slack` nodes are ever in use -/
  mle : st.m ≤ X.f.length + X.slack
  ldvd : X.b ∣ st.l
  /-- `f` is sorted and `l` only grows up to `f[j].1`: `l` lies between the lengths already served
      and those to come -/
  l_ge : ∀ i, i < j → X.tl i ≤ st.l
  l_le : ∀ i, j ≤ i → i < X.f.length → st.l ≤ X.tl i
  /-- sharp accounting: `m − j` free nodes of depth `l` -/
  count : (st.m - j) * 2 ^ (X.T - st.l) + ksum X.T (X.f.take j) = 2 ^ X.T
  bnd : ∀ i, i < st.m → st.c.getD i 0 < 2 ^ lev X j st.l i
  /-- every later node, cut at the depth of an earlier one, is smaller; on the free part
      `c[j..m)` this says: strictly decreasing -/
  ord : ∀ i i', i < i' → i' < st.m → st.c.getD i' 0 % 2 ^ lev X j st.l i < st.c.getD i 0
  /-- `assignments` holds the reversed node of every symbol served so far and is empty elsewhere -/
  asg : ∀ i, i < j →
    st.assignments.getD (X.sy i) {} = ⟨revDigits X.D (X.tl i / X.b) (st.c.getD i 0), X.tl i⟩
  nasg : ∀ s, (∀ i, i < j → X.sy i ≠ s) → st.assignments.getD s {} = {}

theorem Inv.free_lt {X : Ctx} {j : Nat} {st : CraftSt} (h : Inv X j st) (t : Nat) (h1 : j ≤ t)
    (h2 : t < st.m) : st.c.getD t 0 < 2 ^ st.l := by
  have := h.bnd t h2
  rwa [lev_ge h1] at this

theorem Inv.free_decr {X : Ctx} {j : Nat} {st : CraftSt} (h : Inv X j st) (t t' : Nat)
    (h1 : j ≤ t) (h2 : t < t') (h3 : t' < st.m) : st.c.getD t' 0 < st.c.getD t 0 := by
  have := h.ord t t' h2 h3
  rwa [lev_ge h1, Nat.mod_eq_of_lt (h.free_lt t' (Nat.le_trans h1 (Nat.le_of_lt h2)) h3)] at this

theorem ksum_append (T : Nat) (f g : List (Nat × Nat)) : ksum T (f ++ g) = ksum T f + ksum T g := by
  simp [ksum, List.sum_append]

theorem ksum_split (T : Nat) (f : List (Nat × Nat)) (j : Nat) :
    ksum T f = ksum T (f.take j) + ksum T (f.drop j) := by
  rw [← ksum_append, List.take_append_drop]

theorem ksum_take_succ (X : Ctx) {j : Nat} (hj : j < X.f.length) :
    ksum X.T (X.f.take (j + 1)) = ksum X.T (X.f.take j) + 2 ^ (X.T - X.tl j) := by
  rw [List.take_succ_eq_append_getElem hj, ksum_append, X.tl_eq hj]
  simp [ksum]

theorem ksum_drop_ge (X : Ctx) {j : Nat} (hj : j < X.f.length) :
    2 ^ (X.T - X.tl j) ≤ ksum X.T (X.f.drop j) := by
  rw [List.drop_eq_getElem_cons hj, X.tl_eq hj]
  exact Nat.le_add_right _ _

theorem ksum_le_of_ge (T l : Nat) (L : List (Nat × Nat)) (h : ∀ p ∈ L, l ≤ p.2) :
    ksum T L ≤ L.length * 2 ^ (T - l) := by
  have := Proofs.Word.sum_le_mul (2 ^ (T - l)) (L.map fun p => 2 ^ (T - p.2)) (fun x hx => by
    obtain ⟨p, hp, rfl⟩ := List.mem_map.mp hx
    exact Nat.pow_le_pow_right (by decide) (Nat.sub_le_sub_left (h p hp) T))
  rwa [List.length_map] at this

theorem ksum_drop_le (X : Ctx) {j l : Nat} (h : ∀ i, j ≤ i → i < X.f.length → l ≤ X.tl i) :
    ksum X.T (X.f.drop j) ≤ (X.f.length - j) * 2 ^ (X.T - l) := by
  rw [← List.length_drop]
  apply ksum_le_of_ge
  intro p hp
  obtain ⟨i, hi, rfl⟩ := List.mem_iff_getElem.mp hp
  rw [List.length_drop] at hi
  have hji : j + i < X.f.length := Nat.add_lt_of_lt_sub' hi
  have := h (j + i) (Nat.le_add_right j i) hji
  rwa [X.tl_eq hji, ← List.getElem_drop] at this

/-- the array bound: while the depth does not exceed the remaining lengths there are at most
    `alph − j + slack` free nodes -/
theorem free_bound {X : Ctx} (hX : X.OK) {j m l : Nat} (hj : j ≤ X.f.length) (hjm : j ≤ m)
    (hl : ∀ i, j ≤ i → i < X.f.length → l ≤ X.tl i)
    (hc : (m - j) * 2 ^ (X.T - l) + ksum X.T (X.f.take j) = 2 ^ X.T) :
    m ≤ X.f.length + X.slack := by
  have h1 := hX.near
  rw [ksum_split X.T X.f j] at h1
  have h2 := ksum_drop_le X hl
  have hQ : 0 < 2 ^ (X.T - l) := Nat.pow_pos (by decide)
  have h3 : X.slack ≤ X.slack * 2 ^ (X.T - l) := Nat.le_mul_of_pos_right _ hQ
  have h4 : (m - j) * 2 ^ (X.T - l) ≤ (X.f.length - j + X.slack) * 2 ^ (X.T - l) := by
    rw [Nat.add_mul]; omega
  have h5 := Nat.le_of_mul_le_mul_right h4 hQ
  omega

/-- while a symbol remains, a free node remains (Kraft sum `≤ 1`) -/
theorem free_pos {X : Ctx} (hX : X.OK) {j m l : Nat} (hj : j < X.f.length)
    (hc : (m - j) * 2 ^ (X.T - l) + ksum X.T (X.f.take j) = 2 ^ X.T) : j < m := by
  have h1 := hX.kraft_le
  rw [ksum_split X.T X.f j] at h1
  have h2 := ksum_drop_ge X hj
  have hQ : 0 < 2 ^ (X.T - X.tl j) := Nat.pow_pos (by decide)
  have : 0 < (m - j) * 2 ^ (X.T - l) := by omega
  have := Nat.pos_of_mul_pos_right this   -- 0 < m - j
  omega

/-- `assignments[f[j].0] = PrefixCode { content: reversed_code, len: l }` once `l` has reached the
    length of `f[j]`: node `j` leaves the free part -/
theorem Inv.assign {X : Ctx} (hX : X.OK) {j : Nat} (hj : j < X.f.length) {st : CraftSt}
    (h : Inv X j st) (hl : st.l = X.tl j) :
    Inv X (j + 1) ⟨st.c, st.m, st.l,
      st.assignments.set! (X.sy j) ⟨revDigits X.D (st.l / X.b) (st.c.getD j 0), st.l⟩⟩ := by
  have hsym : X.sy j < st.assignments.size := h.asize ▸ Nat.lt_succ_of_le (hX.sym_le j hj)
  -- node `j` is assigned at exactly the current depth, so no node changes its level
  have hlev : ∀ i, lev X (j + 1) st.l i = lev X j st.l i := by
    intro i
    by_cases h1 : i < j
    · rw [lev_lt h1, lev_lt (Nat.lt_succ_of_lt h1)]
    · by_cases h2 : i = j
      · rw [h2, lev_lt (Nat.lt_succ_self j), lev_ge (Nat.le_refl j), hl]
      · have h3 : j + 1 ≤ i := Nat.lt_of_le_of_ne (Nat.le_of_not_lt h1) (Ne.symm h2)
        rw [lev_ge h3, lev_ge (Nat.le_of_not_lt h1)]
  refine ⟨h.csize, ?_, free_pos hX hj h.count, h.mle, h.ldvd, ?_, ?_, ?_, ?_, ?_, ?_, ?_⟩
  · exact (Array.size_setIfInBounds ..).trans h.asize
  · intro i hi
    by_cases h2 : i = j
    · subst h2
      exact Nat.le_of_eq hl.symm
    · exact h.l_ge i (Nat.lt_of_le_of_ne (Nat.le_of_lt_succ hi) h2)
  · intro i h1 h2
    exact hl ▸ hX.sorted j i (Nat.le_of_succ_le h1) h2
  · have hjm := free_pos hX hj h.count
    show (st.m - (j + 1)) * 2 ^ (X.T - st.l) + _ = _
    rw [ksum_take_succ X hj, ← hl, ← h.count, show st.m - j = (st.m - (j + 1)) + 1 by omega,
      Nat.succ_mul, Nat.add_assoc, Nat.add_comm (ksum ..)]
  · intro i hi; rw [hlev]; exact h.bnd i hi
  · intro i i' h1 h2; rw [hlev]; exact h.ord i i' h1 h2
  · intro i hi
    show (st.assignments.set! (X.sy j) _).getD (X.sy i) {} = _
    by_cases h2 : i = j
    · rw [h2, getD_set!_eq _ _ hsym, hl]
    · have hij := Nat.lt_of_le_of_ne (Nat.le_of_lt_succ hi) h2
      rw [getD_set!_ne _ _ _ (fun e => h2 (hX.inj i j (Nat.lt_trans hij hj) hj e.symm))]
      exact h.asg i hij
  · intro s hs
    show (st.assignments.set! (X.sy j) _).getD s {} = _
    rw [getD_set!_ne _ _ _ (hs j (Nat.lt_succ_self j))]
    exact h.nasg s (fun i hi => hs i (Nat.lt_succ_of_lt hi))

theorem mod_add_mul_pow {x a l lam : Nat} (h : lam ≤ l) : (x + a * 2 ^ l) % 2 ^ lam = x % 2 ^ lam := by
  have : 2 ^ l = 2 ^ lam * 2 ^ (l - lam) := by rw [← Nat.pow_add, Nat.add_sub_cancel' h]
  rw [this, ← Nat.mul_assoc, Nat.mul_comm a, Nat.mul_assoc, Nat.add_mul_mod_self_left]

/-- what an expansion needs and yields besides the array: one more fragment still fits the
    next length, `Inv.count` of the next state (`m' = j + D * (m - j)`, `l' = l + b`) as `Inv.expand`
    needs it, and room for the `m'` nodes -/
theorem Inv.expand_pre {X : Ctx} (hX : X.OK) {j : Nat} {st : CraftSt} (h : Inv X j st)
    (hj : j < X.f.length) (hl : st.l < X.tl j) :
    st.l + X.b ≤ X.tl j ∧
    (j + X.D * (st.m - j) - j) * 2 ^ (X.T - (st.l + X.b)) + ksum X.T (X.f.take j) = 2 ^ X.T ∧
    j + X.D * (st.m - j) ≤ X.f.length + X.slack := by
  have hlb : st.l + X.b ≤ X.tl j := by
    obtain ⟨x, hx⟩ := h.ldvd
    obtain ⟨y, hy⟩ := hX.dvd j hj
    rw [hx, hy] at hl ⊢
    exact Nat.mul_succ .. ▸ Nat.mul_le_mul_left _ (Nat.lt_of_mul_lt_mul_left hl)
  have hc : (j + X.D * (st.m - j) - j) * 2 ^ (X.T - (st.l + X.b)) + ksum X.T (X.f.take j)
      = 2 ^ X.T := by
    have hT := hX.leT j hj
    rw [Nat.add_sub_cancel_left, hX.D_eq, Nat.mul_comm (2 ^ X.b), Nat.mul_assoc, ← Nat.pow_add,
      show X.b + (X.T - (st.l + X.b)) = X.T - st.l by omega]
    exact h.count
  exact ⟨hlb, hc, free_bound hX (Nat.le_of_lt hj) (Nat.le_add_right ..)
    (fun i h1 h2 => Nat.le_trans hlb (hX.sorted j i h1 h2)) hc⟩

/-- the `for r in j..m` block together with `m = D * m - (D - 1) * j; l += b` -/
theorem Inv.expand {X : Ctx} (hX : X.OK) {j : Nat} {st : CraftSt} (h : Inv X j st)
    (hj : j < X.f.length) (hl : st.l < X.tl j) {c' : Array Nat}
    (he : ExpSpec X.D j st.m (2 ^ st.l) st.c c') :
    Inv X j ⟨c', j + X.D * (st.m - j), st.l + X.b, st.assignments⟩ := by
  obtain ⟨hlb, hcount, hroom⟩ := h.expand_pre hX hj hl
  have hjm := h.jm
  have hpow : 2 ^ (st.l + X.b) = X.D * 2 ^ st.l := by rw [hX.D_eq, Nat.pow_add, Nat.mul_comm]
  refine ⟨he.size.trans h.csize, h.asize, Nat.le_add_right .., hroom,
    (Nat.dvd_add_right h.ldvd).mpr (Nat.dvd_refl _),
    fun i hi => Nat.le_trans (h.l_ge i hi) (Nat.le_add_right ..),
    fun i h1 h2 => Nat.le_trans hlb (hX.sorted j i h1 h2), hcount, ?_, ?_, ?_, h.nasg⟩
  · intro i hi
    show c'.getD i 0 < 2 ^ lev X j (st.l + X.b) i
    by_cases hij : i < j
    · have := h.bnd i (Nat.lt_of_lt_of_le hij hjm)
      rw [lev_lt hij] at this ⊢
      rwa [he.low i hij]
    · rw [lev_ge (Nat.le_of_not_lt hij), hpow]
      exact he.lt h.free_lt (Nat.le_of_not_lt hij) hi
  · intro i i' hii' hi'
    show c'.getD i' 0 % 2 ^ lev X j (st.l + X.b) i < c'.getD i 0
    by_cases hi'j : i' < j
    · have hij := Nat.lt_trans hii' hi'j
      have := h.ord i i' hii' (Nat.lt_of_lt_of_le hi'j hjm)
      rw [lev_lt hij] at this ⊢
      rwa [he.low i' hi'j, he.low i hij]
    · by_cases hij : i < j
      · obtain ⟨k, t, _, ht1, ht2, _, hv⟩ := he.val (Nat.le_of_not_lt hi'j) hi'
        have := h.ord i t (Nat.lt_of_lt_of_le hij ht1) ht2
        rw [lev_lt hij] at this ⊢
        rwa [he.low i hij, hv, mod_add_mul_pow (h.l_ge i hij)]
      · exact Nat.lt_of_le_of_lt (Nat.mod_le _ _)
          (he.decr h.free_lt h.free_decr (Nat.le_of_not_lt hij) hii' hi')
  · intro i hi
    show _ = PrefixCode.mk (revDigits _ _ (c'.getD i 0)) _
    rw [he.low i hi]
    exact h.asg i hi

/-- the new `m` as the code computes it (`4 * m - 3 * j`, `2 * m - j`): `j` plus the children of
    the `m − j` free nodes -/
theorem succ_mul_sub {a m j : Nat} (hjm : j ≤ m) : (a + 1) * m - a * j = j + (a + 1) * (m - j) := by
  obtain ⟨d, rfl⟩ := Nat.exists_eq_add_of_le hjm
  rw [Nat.add_sub_cancel_left, Nat.mul_add, Nat.add_one_mul a j, Nat.add_assoc,
    Nat.add_sub_cancel_left]

theorem grow_step {D b : Nat} (hpar : (D = 4 ∧ b = 2) ∨ (D = 2 ∧ b = 1)) {j target fuel : Nat}
    {st : CraftSt} (hl : st.l < target) (hjm : j ≤ st.m) {c' : Array Nat}
    (he : (if D == 4 then expand4 j st.m st.l (st.m + 1 - j) j st.c
      else expand2 j st.m st.l (st.m + 1 - j) j st.c) = .ok c') :
    grow D j target (fuel + 1) st =
      grow D j target fuel ⟨c', j + D * (st.m - j), st.l + b, st.assignments⟩ := by
  rw [grow, if_pos hl]
  rcases hpar with ⟨rfl, rfl⟩ | ⟨rfl, rfl⟩
  · simp only [show ((4 : Nat) == 4) = true from rfl, if_true] at he ⊢
    rw [he, ok_bind, sub_ok (Nat.mul_le_mul (by decide) hjm), ok_bind,
      show 4 * st.m - 3 * j = j + 4 * (st.m - j) from succ_mul_sub hjm]
  · have hm : 2 * st.m - j = j + 2 * (st.m - j) := by
      have := succ_mul_sub (a := 1) hjm
      rwa [Nat.one_mul] at this
    simp only [show ((2 : Nat) == 4) = false from rfl, Bool.false_eq_true, if_false] at he ⊢
    rw [he, ok_bind, sub_ok (by omega), ok_bind, hm]

theorem grow_done {D j target fuel : Nat} {st : CraftSt} (hl : ¬ st.l < target) :
    grow D j target fuel st = .ok st := by
  unfold grow
  split
  · rfl
  · rw [if_neg hl]; rfl

/-- `while f[j].1 > l { … }`: the expansions stop exactly at the length of `f[j]` -/
theorem Inv.grow {X : Ctx} (hX : X.OK) {j : Nat} (hj : j < X.f.length) :
    ∀ fuel (st : CraftSt), Inv X j st → X.tl j - st.l < fuel →
      ∃ st', grow X.D j (X.tl j) fuel st = .ok st' ∧ Inv X j st' ∧ st'.l = X.tl j := by
  intro fuel
  induction fuel with
  | zero => exact fun st _ hf => absurd hf (Nat.not_lt_zero _)
  | succ fuel ih =>
    intro st h hf
    by_cases hl : st.l < X.tl j
    · obtain ⟨hlb, _, hroom⟩ := h.expand_pre hX hj hl
      have hsz : j + X.D * (st.m - j) ≤ st.c.size :=
        h.csize ▸ Nat.le_trans hroom (hX.slots_ok (Nat.zero_lt_of_lt hj))
      have hl32 : st.l + X.b ≤ 32 := Nat.le_trans hlb (Nat.le_trans (hX.leT j hj) hX.T32)
      obtain ⟨c', e1, e2⟩ := expand_spec hX.par h.jm hsz hl32 h.free_lt
      rw [grow_step hX.par hl h.jm e1]
      have := hX.b_pos
      exact ih _ (Inv.expand hX h hj hl e2) (by show X.tl j - (st.l + X.b) < fuel; omega)
    · exact ⟨st, grow_done hl, h, Nat.le_antisymm (h.l_le j (Nat.le_refl _) hj) (Nat.le_of_not_lt hl)⟩

/-- one iteration of the `for j in 0..alph_size` loop -/
def craftStep (D : Nat) (f : List (Nat × Nat)) (st : CraftSt) (j : Nat) : M CraftSt := do
  let (sym, tlen) := f.getD j (0, 0)
  let st ← grow D j tlen (tlen + 1) st
  let cj ← idx st.c j
  let rev ← reverseCode D cj st.l
  if sym ≥ st.assignments.size then throw Fault.indexPanic
  pure { st with assignments := st.assignments.set! sym { content := rev, len := st.l } }

theorem craftStep_spec {X : Ctx} (hX : X.OK) {j : Nat} (hj : j < X.f.length) {st : CraftSt}
    (h : Inv X j st) : ∃ st', craftStep X.D X.f st j = .ok st' ∧ Inv X (j + 1) st' := by
  obtain ⟨st1, g1, g2, g3⟩ := Inv.grow hX hj (X.tl j + 1) st h (Nat.lt_succ_of_le (Nat.sub_le ..))
  have hjm : j < st1.m := free_pos hX hj g2.count
  have hsz : st1.m ≤ st1.c.size :=
    g2.csize ▸ Nat.le_trans g2.mle (hX.slots_ok (Nat.zero_lt_of_lt hj))
  have hl32 : st1.l ≤ 32 := g3 ▸ Nat.le_trans (hX.leT j hj) hX.T32
  have r1 := reverseCode_spec hX.par g2.ldvd hl32 (st1.c.getD j 0)
  have hsym : X.sy j < st1.assignments.size := g2.asize ▸ Nat.lt_succ_of_le (hX.sym_le j hj)
  refine ⟨_, ?_, g2.assign hX hj g3⟩
  show (do
    let st ← grow X.D j (X.tl j) (X.tl j + 1) st
    let cj ← idx st.c j
    let rev ← reverseCode X.D cj st.l
    if X.sy j ≥ st.assignments.size then throw Fault.indexPanic
    pure { st with assignments := st.assignments.set! (X.sy j) { content := rev, len := st.l } }) = _
  rw [g1, ok_bind, idx_getD 0 (Nat.lt_of_lt_of_le hjm hsz), ok_bind, r1, ok_bind,
    if_neg (Nat.not_le.mpr hsym)]
  rfl

def initSt (X : Ctx) : CraftSt :=
  { c := Array.replicate X.slots 0, assignments := Array.replicate (X.sigma + 1) {} }

theorem getD_replicate {α} (n i : Nat) (a : α) : (Array.replicate n a).getD i a = a := by
  rw [Array.getD_eq_getD_getElem?, Array.getElem?_replicate]
  split <;> rfl

theorem Inv.init {X : Ctx} (hX : X.OK) : Inv X 0 (initSt X) := by
  have hcount : (1 - 0) * 2 ^ (X.T - 0) + ksum X.T (X.f.take 0) = 2 ^ X.T := by simp [ksum]
  refine ⟨Array.size_replicate .., Array.size_replicate .., Nat.zero_le _, ?_, Nat.dvd_zero _,
    fun i hi => absurd hi (Nat.not_lt_zero i), fun _ _ _ => Nat.zero_le _, hcount, ?_, ?_,
    fun i hi => absurd hi (Nat.not_lt_zero i),
    fun s _ => getD_replicate ..⟩
  · exact free_bound hX (l := 0) (Nat.zero_le _) (Nat.zero_le 1) (fun _ _ _ => Nat.zero_le _) hcount
  · intro i _
    show (Array.replicate X.slots 0).getD i 0 < _
    rw [getD_replicate]
    exact Nat.pow_pos (by decide)
  · intro i i' h1 h2
    exact absurd (Nat.lt_of_lt_of_le h1 (Nat.le_of_lt_succ h2)) (Nat.not_lt_zero i)

theorem craft_loop_inv {X : Ctx} (hX : X.OK) : ∀ n, n ≤ X.f.length →
    ∃ st, (List.range n).foldlM (craftStep X.D X.f) (initSt X) = .ok st ∧ Inv X n st := by
  intro n
  induction n with
  | zero => intro _; exact ⟨initSt X, rfl, Inv.init hX⟩
  | succ n ih =>
    intro hn
    obtain ⟨st, h1, h2⟩ := ih (Nat.le_of_succ_le hn)
    obtain ⟨st', h3, h4⟩ := craftStep_spec hX hn h2
    refine ⟨st', ?_, h4⟩
    rw [List.range_succ, List.foldlM_append, h1, ok_bind, List.foldlM_cons, h3]
    rfl

end Qwt.Proofs.Craft
