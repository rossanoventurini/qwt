import Qwt.Proofs.Basic
import Qwt.Proofs.Space
import Qwt.Proofs.RSQBuild
import Qwt.Proofs.RSQHolds
import Qwt.Proofs.RSBinWide
import Qwt.Proofs.RSBinNarrow

/-! Buffer sizes of the rank/select vectors (C14, C16): the size hypotheses of
`Qwt/Proofs/Space.lean` (`RSQSize`, `RSWSize`, `selectSamples.size = 4 / 2`) derived from the
construction invariants of `RSQVector::from`, `RSWide::new`, `RSNarrow::new`.

The select sampling periods (`rsqSelectNumSamples`, `narrow*PerHint`, `wide*PerHint`) are
extracted from the crate; the size facts are stated with the extracted NAMES (`RSQSizeP`:
`n / rsqSelectNumSamples + 8` sample entries, `RSWSize'`: `n / widePer + 5`), and the numeric
bounds use only the side conditions of section "side conditions" below
(`4096 ≤ rsqSelectNumSamples`, `4096 ≤ widePer`, `1024 ≤ narrowPer`), decided on the extracted
values: a larger period only makes the structures smaller. -/
namespace Qwt.SpaceSizes
open Qwt Qwt.Space

theorem div_add_div_le (a b P : Nat) (hP : 0 < P) : a / P + b / P ≤ (a + b) / P := by
  rw [Nat.le_div_iff_mul_le hP, Nat.add_mul]
  exact Nat.add_le_add (Nat.div_mul_le_self a P) (Nat.div_mul_le_self b P)

theorem ceil_le_succ (k P : Nat) (hP : 0 < P) : (k + P - 1) / P ≤ k / P + 1 := by
  rw [← Nat.add_div_right k hP]
  exact Nat.div_le_div_right (Nat.sub_le _ _)

theorem eq_ceil_of_iff {n c P : Nat} (hP : 0 < P) (h : ∀ t, t < n ↔ t * P < c) :
    n = (c + P - 1) / P := by
  have hc : c ≤ n * P := Nat.le_of_not_lt fun hlt => Nat.lt_irrefl n ((h n).2 hlt)
  refine (Nat.div_eq_of_lt_le ?_ ?_).symm
  · cases n with
    | zero => rw [Nat.zero_mul]; exact Nat.zero_le _
    | succ m =>
      have := (h m).1 (Nat.lt_succ_self m)
      rw [Nat.succ_mul]
      omega
  · rw [Nat.succ_mul]; omega

theorem div4_le {a b c d n P : Nat} (hP : 0 < P) (h : a + b + c + d ≤ n) :
    a / P + b / P + c / P + d / P ≤ n / P :=
  Nat.le_trans (Nat.le_trans (Nat.add_le_add_right (Nat.le_trans
    (Nat.add_le_add_right (div_add_div_le a b P hP) _) (div_add_div_le (a + b) c P hP)) _)
    (div_add_div_le (a + b + c) d P hP)) (Nat.div_le_div_right h)

/-! ### side conditions on the extracted sampling periods

Everything below uses the extracted constants only through these facts. -/

section side
open Qwt.Extracted

/-- `RSSupportPlain`: one select sample per `rsqSelectNumSamples` occurrences -/
theorem rsqPer_ge : 4096 ≤ rsqSelectNumSamples := by decide

/-- the smaller of the two hint periods of `RSWide` -/
def widePer : Nat := min wideOnesPerHint wideZerosPerHint
theorem widePer_ge : 4096 ≤ widePer := by decide
theorem widePer_le (bit : Bool) : widePer ≤ RSW.per bit := by
  cases bit
  · exact Nat.min_le_right _ _
  · exact Nat.min_le_left _ _

/-- the smaller of the two hint periods of `RSNarrow` -/
def narrowPer : Nat := min narrowOnesPerHint narrowZerosPerHint
theorem narrowPer_ge : 1024 ≤ narrowPer := by decide
theorem narrowPer_le (bit : Bool) : narrowPer ≤ RSN.per bit := by
  cases bit
  · exact Nat.min_le_right _ _
  · exact Nat.min_le_left _ _

theorem widePer_8192 (h1 : wideOnesPerHint = 8192) (h0 : wideZerosPerHint = 8192) : widePer = 8192 := by
  unfold widePer; rw [h1, h0]; rfl
theorem narrowPer_1024 (h1 : narrowOnesPerHint = 1024) (h0 : narrowZerosPerHint = 1024) :
    narrowPer = 1024 := by
  unfold narrowPer; rw [h1, h0]; rfl

/-- hints of both kinds over `c0 + c1 = m` counted bits: at most `m / P` in total, `P` the
    smaller period -/
theorem hints_le {c0 c1 m P0 P1 P : Nat} (hP : 0 < P) (h0 : P ≤ P0) (h1 : P ≤ P1) (hm : c1 + c0 = m) :
    c0 / P0 + c1 / P1 ≤ m / P := by
  have a0 := Nat.div_le_div_left (a := c0) h0 hP
  have a1 := Nat.div_le_div_left (a := c1) h1 hP
  have := div_add_div_le c0 c1 P hP
  rw [← hm, Nat.add_comm c1 c0]
  omega

end side

section rsq
open Qwt.RSQ Qwt.RSQP Qwt.QV Qwt.Extracted

/-- the sample arrays of the result are the loop's arrays, padded and closed by a sentinel `k`
    (whose value plays no part in the sizes) -/
theorem rsNew_samples {dbg : Bool} {B : Nat} {q : QVector} {rs : RSSupportPlain}
    (h : rsNew dbg B q = .ok rs) :
    ∃ st k, (List.range (QV.len q + 1)).foldlM (buildStep dbg B q) {} = .ok st ∧
      rs.selectSamples = st.samples.map (fun s => (if s.isEmpty then s.push 0 else s).push k) := by
  unfold rsNew at h
  obtain ⟨_, _, h⟩ := bind_ok_inv h
  obtain ⟨_, _, h⟩ := bind_ok_inv h
  obtain ⟨st, hst, h⟩ := bind_ok_inv h
  dsimp only at h
  split at h
  · obtain ⟨sbs, _, h⟩ := bind_ok_inv h
    obtain ⟨nsb1, _, h⟩ := bind_ok_inv h
    cases h
    exact ⟨st, _, hst, rfl⟩
  · obtain ⟨sbs, _, h⟩ := bind_ok_inv h
    obtain ⟨nsb1, _, h⟩ := bind_ok_inv h
    cases h
    exact ⟨st, _, hst, rfl⟩

/-- the loop never changes the number of sample arrays (no semantic hypothesis needed) -/
theorem buildStep_samples_size {dbg : Bool} {B : Nat} {q : QVector} {st st' : BuildSt} {i : Nat}
    (h : buildStep dbg B q st i = .ok st') : st'.samples.size = st.samples.size := by
  rw [buildStep_eq] at h
  obtain ⟨st2, h2, h3⟩ := bind_ok_inv h
  have e1 : (phase1 B st i).samples = st.samples := by
    unfold phase1; split <;> rfl
  have e2 : st2.samples = st.samples := by
    unfold phase2 at h2
    split at h2
    · obtain ⟨sbs, _, h2⟩ := bind_ok_inv h2
      cases h2; exact e1
    · cases h2; exact e1
  rw [← e2]
  unfold phase3 at h3
  split at h3
  · obtain ⟨sym, _, h3⟩ := bind_ok_inv h3
    obtain ⟨o, _, h3⟩ := bind_ok_inv h3
    split at h3
    · obtain ⟨_, _, h3⟩ := bind_ok_inv h3
      obtain ⟨_, _, h3⟩ := bind_ok_inv h3
      cases h3
      simp [bump]
    · cases h3
      simp [bump]
  · cases h3; rfl

theorem rsNew_samples4 {dbg : Bool} {B : Nat} {q : QVector} {rs : RSSupportPlain}
    (h : rsNew dbg B q = .ok rs) : rs.selectSamples.size = 4 := by
  obtain ⟨st, k, hst, e⟩ := rsNew_samples h
  have := foldlM_inv (fun _ (st : BuildSt) => st.samples.size = 4) (buildStep dbg B q)
    (fun k st a st' hP hs => by rw [buildStep_samples_size hs]; exact hP) _ 0 {} st rfl hst
  rw [e, Array.size_map]; exact this

theorem fromQV_rs {dbg : Bool} {B : Nat} {q : QVector} {r : RSQVector}
    (h : fromQV dbg B q = .ok r) : rsNew dbg B q = .ok r.rs ∧ r.qv = q := by
  unfold fromQV at h
  obtain ⟨rs, h1, h⟩ := bind_ok_inv h
  obtain ⟨cnt, _, h⟩ := bind_ok_inv h
  cases h
  exact ⟨h1, rfl⟩

theorem fromQV_samples4 {dbg : Bool} {B : Nat} {q : QVector} {r : RSQVector}
    (h : fromQV dbg B q = .ok r) : r.rs.selectSamples.size = 4 :=
  rsNew_samples4 (fromQV_rs h).1

/-- number of entries of the sample array of a symbol occurring `k` times: one per started
    group of `rsqSelectNumSamples` occurrences (at least one), plus the sentinel -/
def sampLen (k : Nat) : Nat := max 1 ((k + rsqSelectNumSamples - 1) / rsqSelectNumSamples) + 1

theorem sampLen_8192 (h : rsqSelectNumSamples = 8192) (k : Nat) :
    sampLen k = max 1 ((k + 8191) / 8192) + 1 := by
  unfold sampLen; rw [h, Nat.add_sub_assoc (by decide)]

theorem sampLen_le (k : Nat) : sampLen k ≤ k / rsqSelectNumSamples + 2 := by
  unfold sampLen
  have h := ceil_le_succ k rsqSelectNumSamples P_pos
  generalize (k + rsqSelectNumSamples - 1) / rsqSelectNumSamples = a at *
  generalize k / rsqSelectNumSamples = b at *
  omega

/-- the sample arrays have exactly the sizes the construction loop gives them -/
structure RSQSamples (r : RSQVector) (s : List Nat) : Prop where
  size4 : r.rs.selectSamples.size = 4
  len : ∀ c, c < 4 → (r.rs.selectSamples.getD c #[]).size = sampLen (s.count c)

theorem size_padded (L : Array Nat) (k : Nat) :
    ((if L.isEmpty then L.push 0 else L).push k).size = max 1 L.size + 1 := by
  rw [Array.size_push]
  by_cases h0 : L.size = 0
  · rw [if_pos (by simpa using h0), Array.size_push, h0]; rfl
  · rw [if_neg (by simpa using h0)]; omega

theorem fromQV_samples {dbg : Bool} {B : Nat} {q : QVector} {r : RSQVector} {s : List Nat}
    (hB : B = 256 ∨ B = 512) (hq : Holds q s) (hs : ∀ x ∈ s, x < 4) (hlen : s.length < 2 ^ 43)
    (h : fromQV dbg B q = .ok r) : RSQSamples r s := by
  obtain ⟨st, k, hst, e⟩ := rsNew_samples (fromQV_rs h).1
  obtain ⟨st', hst', hinv⟩ := build_fold dbg hB hq hs hlen (s.length + 1)
  rw [holds_len hq, hst'] at hst
  cases hst
  refine ⟨fromQV_samples4 h, fun c hc => ?_⟩
  -- the loop's array has `⌈count c / P⌉` entries: `t < size ↔ t·P < count c`
  have hsi := (hinv.samples c hc).size_iff
  rw [Spec.rank_of_ge c s (Nat.le_succ _)] at hsi
  rw [e, getD_map _ _ _ #[] #[] (by rw [hinv.samples_size]; exact hc), size_padded,
    eq_ceil_of_iff P_pos hsi]
  rfl

theorem toList4 {α : Type} (a : Array α) (d : α) (h : a.size = 4) :
    a.toList = [a.getD 0 d, a.getD 1 d, a.getD 2 d, a.getD 3 d] := by
  obtain ⟨l⟩ := a
  rcases l with _ | ⟨x0, _ | ⟨x1, _ | ⟨x2, _ | ⟨x3, _ | ⟨x4, l⟩⟩⟩⟩⟩ <;> simp at h
  rfl

theorem toList2 {α : Type} (a : Array α) (d : α) (h : a.size = 2) :
    a.toList = [a.getD 0 d, a.getD 1 d] := by
  obtain ⟨l⟩ := a
  rcases l with _ | ⟨x0, _ | ⟨x1, _ | ⟨x2, l⟩⟩⟩ <;> simp at h
  rfl

theorem count4_le (s : List Nat) : s.count 0 + s.count 1 + s.count 2 + s.count 3 ≤ s.length := by
  induction s with
  | nil => exact Nat.le_refl 0
  | cons x xs ih =>
    simp only [List.count_cons, List.length_cons]
    have : (if (x == 0) = true then 1 else 0) + (if (x == 1) = true then 1 else 0) +
        (if (x == 2) = true then 1 else 0) + (if (x == 3) = true then 1 else 0) ≤ 1 := by
      match x with
      | 0 | 1 | 2 | 3 => decide
      | _ + 4 => simp
    omega

/-- sizes of the buffers of a rank/select quad vector over `n` symbols with block size `B`:
    `Space.RSQSize` with the sampling period of the crate (`rsqSelectNumSamples`) in place of the
    literal 8192 -/
structure RSQSizeP (B n : Nat) (r : RSQVector) : Prop where
  lines : r.qv.data.size = 4 * ((n + 255) / 256)
  sbs : r.rs.superblocks.size = 4 * (n / (8 * B) + 1)
  samples : (r.rs.selectSamples.toList.map Array.size).sum ≤ n / rsqSelectNumSamples + 8

/-- for every period of at least 8192 these are the size facts
    of `Space.RSQSize` -/
theorem RSQSizeP.toRSQSize {B n : Nat} {r : RSQVector} (h : RSQSizeP B n r)
    (hP : 8192 ≤ rsqSelectNumSamples) : RSQSize B n r :=
  ⟨h.lines, h.sbs, Nat.le_trans h.samples
    (Nat.add_le_add_right (Nat.div_le_div_left hP (by decide)) 8)⟩

theorem RSQSizeP.of_eq {B n : Nat} {r : RSQVector} (h : RSQSizeP B n r)
    (hP : rsqSelectNumSamples = 8192) : RSQSize B n r :=
  h.toRSQSize (Nat.le_of_eq hP.symm)

/-- and conversely, for every period of at most 8192 -/
theorem RSQSizeP.ofRSQSize {B n : Nat} {r : RSQVector} (h : RSQSize B n r)
    (hP : rsqSelectNumSamples ≤ 8192) : RSQSizeP B n r :=
  ⟨h.lines, h.sbs, Nat.le_trans h.samples
    (Nat.add_le_add_right (Nat.div_le_div_left hP P_pos) 8)⟩

theorem RSQSizeP.samples_le {B n : Nat} {r : RSQVector} (h : RSQSizeP B n r) :
    (r.rs.selectSamples.toList.map Array.size).sum ≤ n / 4096 + 8 :=
  Nat.le_trans h.samples (Nat.add_le_add_right (Nat.div_le_div_left rsqPer_ge (by decide)) 8)

theorem RSQSizeP.level_bits_256 {n : Nat} {r : RSQVector} (h : RSQSizeP 256 n r) :
    800 * ((rsq r).heap + (rsq r).self_) ≤ 227 * n + 260000 :=
  Space.level_bits_256 h.lines h.sbs h.samples_le

theorem RSQSizeP.level_bits_512 {n : Nat} {r : RSQVector} (h : RSQSizeP 512 n r) :
    1600 * ((rsq r).heap + (rsq r).self_) ≤ 428 * n + 520000 :=
  Space.level_bits_512 h.lines h.sbs h.samples_le

/-- the three size facts, from `Holds`, the support invariant and the sample sizes -/
theorem rsqSize_of {B : Nat} {r : RSQVector} {s : List Nat} (hq : Holds r.qv s) (hrs : RSInv B r.rs s)
    (hsm : RSQSamples r s) : RSQSizeP B s.length r := by
  refine ⟨hq.size_eq, hrs.sbs_size, ?_⟩
  rw [toList4 _ #[] hsm.size4]
  simp only [List.map_cons, List.map_nil, List.sum_cons, List.sum_nil]
  rw [hsm.len 0 (by decide), hsm.len 1 (by decide), hsm.len 2 (by decide), hsm.len 3 (by decide)]
  have l0 := sampLen_le (s.count 0)
  have l1 := sampLen_le (s.count 1)
  have l2 := sampLen_le (s.count 2)
  have l3 := sampLen_le (s.count 3)
  have := div4_le P_pos (count4_le s)
  omega

theorem fromQV_sizes {dbg : Bool} {B : Nat} {q : QVector} {r : RSQVector} {s : List Nat}
    (hB : B = 256 ∨ B = 512) (hq : Holds q s) (hs : ∀ x ∈ s, x < 4) (hlen : s.length < 2 ^ 43)
    (h : fromQV dbg B q = .ok r) : RSQSizeP B s.length r := by
  have hinv := of_exists_ok (fromQV_ok dbg hB hq hs hlen) h
  exact rsqSize_of hinv.holds hinv.rs (fromQV_samples hB hq hs hlen h)

end rsq

section rsbin
open Qwt.BV Qwt.RSBin

theorem C_pair (s : List Bool) (i : Nat) : C true s i + C false s i = i := by
  have := C_le true s i
  simp only [C, if_true, Bool.false_eq_true, if_false, Z] at this ⊢
  omega

/-- sizes of the buffers of `RSWide` over `n` bits.  The zero counter of the construction loop
    runs over the padded last line, so the two sample arrays hold together up to
    `⌈n/512⌉·512 / P + 4 ≤ n/P + 5` entries, `P = widePer` the (smaller) hint period
    (`RSWSize.samples` of `Qwt/Proofs/Space.lean` asks for `2·(n/8192) + 4`,
    which fails e.g. for 8000 zero bits). -/
structure RSWSize' (n : Nat) (r : RSW.RSWide) : Prop where
  lines : r.bv.data.size = 8 * ((n + 511) / 512)
  sm : r.superblockMetadata.size = (n + 4095) / 4096 + 1
  ssize : r.selectSamples.size = 2
  samples : (r.selectSamples.toList.map Array.size).sum ≤ n / widePer + 5

theorem RSWSize'.samples_8192 {n : Nat} {r : RSW.RSWide} (h : RSWSize' n r)
    (h1 : Extracted.wideOnesPerHint = 8192) (h0 : Extracted.wideZerosPerHint = 8192) :
    (r.selectSamples.toList.map Array.size).sum ≤ n / 8192 + 5 := by
  have := h.samples
  rwa [widePer_8192 h1 h0] at this

theorem RSWSize'.samples_le {n : Nat} {r : RSW.RSWide} (h : RSWSize' n r) :
    (r.selectSamples.toList.map Array.size).sum ≤ n / 4096 + 5 :=
  Nat.le_trans h.samples (Nat.add_le_add_right (Nat.div_le_div_left widePer_ge (by decide)) 5)

/-- two sample arrays kept under `HintInv` over the same `n` positions and closed by a sentinel
    hold one entry per hint, the leading zero and the sentinel -/
theorem samples_sum {a : Array (Array Nat)} (h2 : a.size = 2) {D : Bool → Nat → Nat} {P : Bool → Nat}
    {n x : Nat} (h : ∀ bit, ∃ smp hint, a.getD (if bit then 1 else 0) #[] = smp.push x ∧
      HintInv (D bit) (P bit) n smp hint) :
    (a.toList.map Array.size).sum = D false n / P false + D true n / P true + 4 := by
  obtain ⟨smp0, hint0, e0, i0⟩ := h false
  obtain ⟨smp1, hint1, e1, i1⟩ := h true
  rw [toList2 a #[] h2, if_neg Bool.false_ne_true] at *
  rw [if_pos rfl] at e1
  simp only [List.map_cons, List.map_nil, List.sum_cons, List.sum_nil, e0, e1, Array.size_push,
    i0.size, i1.size, i0.hint_eq, i1.hint_eq]
  omega

theorem samples_sum_le {a : Array (Array Nat)} (h2 : a.size = 2) {D : Bool → Nat → Nat} {P : Bool → Nat}
    {n x : Nat} (h : ∀ bit, ∃ smp hint, a.getD (if bit then 1 else 0) #[] = smp.push x ∧
      HintInv (D bit) (P bit) n smp hint)
    {p m : Nat} (hp : 0 < p) (hP : ∀ bit, p ≤ P bit) (hm : D true n + D false n = m) :
    (a.toList.map Array.size).sum ≤ m / p + 4 := by
  rw [samples_sum h2 h]
  exact Nat.add_le_add_right (hints_le hp (hP false) (hP true) hm) 4

/-- the exact number of sample entries of `RSWide`: both counters run over the padded last line -/
theorem rsw_samples_eq {r : RSW.RSWide} {s : List Bool} (h : RSW.Inv r s) :
    (r.selectSamples.toList.map Array.size).sum =
      C false s (512 * nLines r.bv) / RSW.per false + C true s (512 * nLines r.bv) / RSW.per true + 4 :=
  samples_sum h.ssize (D := fun bit m => C bit s (512 * m)) h.samples

theorem rsw_samples_zeros {r : RSW.RSWide} {s : List Bool} (h : RSW.Inv r s) (hz : s.count true = 0) :
    (r.selectSamples.toList.map Array.size).sum = 512 * nLines r.bv / RSW.per false + 4 := by
  rw [rsw_samples_eq h, C, C, if_neg Bool.false_ne_true, if_pos rfl, Z, R_of_ge _ _ h.holds.len_le, hz,
    Nat.sub_zero, Nat.zero_div, Nat.add_zero]

theorem RSWSize'.of_inv {r : RSW.RSWide} {s : List Bool} (h : RSW.Inv r s) : RSWSize' s.length r := by
  have hl := h.holds.nLines_eq
  refine ⟨h.holds.size, ?_, h.ssize, ?_⟩
  · rw [h.smSize]; unfold RSW.nsb; rw [hl]; omega
  · -- `(padded length) / P ≤ (n + P) / P = n / P + 1`
    have hP : 0 < widePer := Nat.lt_of_lt_of_le (by decide) widePer_ge
    have hs := samples_sum_le h.ssize (D := fun bit m => C bit s (512 * m)) h.samples hP widePer_le
      (C_pair s _)
    have hd := Nat.div_le_div_right (c := widePer)
      (show 512 * nLines r.bv ≤ s.length + widePer from hl ▸ Nat.le_trans (Nat.mul_div_le _ _)
        (Nat.add_le_add_left (Nat.le_trans (by decide) widePer_ge) _))
    rw [Nat.add_div_right _ hP] at hd
    exact Nat.le_trans hs (Nat.add_le_add_right hd 4)

theorem RSWSize'.bits {n : Nat} {r : RSW.RSWide} (h : RSWSize' n r) :
    512 * ((rsw r).heap + (rsw r).self_) ≤ 67 * n + 384000 :=
  Space.rsw_bits h.lines h.sm h.samples_le

/-- sizes of the buffers of `RSNarrow` over `m` bits (the bound on the samples holds for every
    hint period `≥ 1024`) -/
structure RSNSize (m : Nat) (r : RSN.RSNarrow) : Prop where
  lines : r.bv.data.size = 8 * ((m + 511) / 512)
  brp : r.blockRankPairs.size ≤ 2 * ((m + 511) / 512) + 4
  ssize : r.selectSamples.size = 2
  samples : (r.selectSamples.toList.map Array.size).sum ≤ (m + 511) / 512 / 2 + 4

theorem RSNSize.of_inv {r : RSN.RSNarrow} {s : List Bool} (h : RSN.Inv r s) : RSNSize s.length r := by
  have hl := h.holds.nLines_eq
  refine ⟨h.holds.size, ?_, h.ssize, ?_⟩
  · rw [h.brpSize, ← hl]; unfold RSN.sentN; split <;> omega
  · -- `(padded length) / P ≤ (padded length) / 1024 = lines / 2`, for periods `≥ 1024`
    have hP : 0 < narrowPer := Nat.lt_of_lt_of_le (by decide) narrowPer_ge
    have hs := samples_sum_le h.ssize (D := fun bit m => C bit s (64 * m)) h.samples hP narrowPer_le
      (C_pair s _)
    have hd : 64 * (8 * nLines r.bv) / narrowPer ≤ nLines r.bv / 2 :=
      Nat.le_trans (Nat.div_le_div_left narrowPer_ge (by decide))
        (Nat.le_of_eq (by rw [← Nat.mul_assoc, Nat.mul_div_mul_left _ 2 (by decide : 0 < 512)]))
    rw [← hl]
    exact Nat.le_trans hs (Nat.add_le_add_right hd 4)

/-- heap bytes of one `RSNarrow` over `m` bits: `84·⌈m/512⌉ + 64` -/
theorem rsn_heap_le (m : Nat) (r : RSN.RSNarrow) (h : RSNSize m r) :
    (rsn r).heap ≤ 84 * ((m + 511) / 512) + 64 := by
  rw [rsn_heap, h.lines, Nat.mul_div_cancel_left _ (by decide)]
  have := h.samples
  have := h.brp
  omega

theorem rsn_new_samples2 {b : BitVector} {r : RSN.RSNarrow} (h : RSN.new b = .ok r) :
    r.selectSamples.size = 2 := by
  unfold RSN.new at h
  obtain ⟨_, _, h⟩ := bind_ok_inv h
  cases h; rfl

theorem rsw_new_samples2 {b : BitVector} {r : RSW.RSWide} (h : RSW.new b = .ok r) :
    r.selectSamples.size = 2 := by
  unfold RSW.new at h
  obtain ⟨_, _, h⟩ := bind_ok_inv h
  obtain ⟨_, _, h⟩ := bind_ok_inv h
  cases h; rfl

end rsbin

end Qwt.SpaceSizes
