import Qwt.Proofs.WordBits
import Qwt.Proofs.WordDigits
import Qwt.Proofs.WordSwar
import Qwt.Proofs.WordTable
import Qwt.Proofs.WordSelect
import Qwt.Proofs.WordPart
import Qwt.Proofs.WordRemap

/-!
The lemmas behind property C17 (`src/utils/mod.rs`).  `select_in_word` (Vigna's broadword select) is
verified on a word written as a list of base-256 digits: every broadword step acts on the list
digit by digit, so each is proved by induction on the list from a fact about one byte.
-/
