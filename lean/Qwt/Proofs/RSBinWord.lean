import Qwt.Proofs.Basic
import Qwt.Proofs.WordBits

/-! Word-level facts used by the rank/select bit-vector proofs (C06): `popc` of prefixes of a
word, complement words, `Spec.bitsOf`, the list specifications `Spec.rank` / `Spec.select` with the
counts `R`, `Z`, `C` of the zero-padded sequence, packed counter fields, and array reads of the
fault monad with the `getD` the invariants are stated in. -/
namespace Qwt.RSBin
open Qwt Qwt.Proofs.Word

theorem mono_of_le_succ {f : Nat → Nat} (h : ∀ i, f i ≤ f (i + 1)) {i j : Nat} (hij : i ≤ j) : f i ≤ f j := by
  induction hij with
  | refl => exact Nat.le_refl _
  | step _ ih => exact Nat.le_trans ih (h _)

theorem add_le_of_succ_le {f : Nat → Nat} (h : ∀ i, f (i + 1) ≤ f i + 1) (i k : Nat) : f (i + k) ≤ f i + k := by
  induction k with
  | zero => exact Nat.le_refl _
  | succ k ih => exact Nat.le_trans (h _) (Nat.succ_le_succ ih)

theorem specPopc_eq (w : Nat) : Spec.popc w = popc w := (popc_eq_spec w).symm

theorem popc_lt_two (w : Nat) (h : w < 2) : popc w = w := by
  rw [popc_step]
  have : w / 2 = 0 := by omega
  rw [this, popc_zero]; omega

theorem popc_mod_succ (w t : Nat) :
    popc (w % 2 ^ (t + 1)) = popc (w % 2 ^ t) + w / 2 ^ t % 2 := by
  induction t generalizing w with
  | zero =>
    have h1 : w % 2 ^ 0 = 0 := by simp [Nat.mod_one]
    rw [h1, popc_zero]
    simp only [Nat.zero_add, Nat.pow_one, Nat.pow_zero, Nat.div_one]
    exact popc_lt_two _ (Nat.mod_lt _ (by decide))
  | succ t ih =>
    rw [popc_step (w % 2 ^ (t + 1 + 1)), popc_step (w % 2 ^ (t + 1))]
    have e1 : ∀ n, w % 2 ^ (n + 1) % 2 = w % 2 := by
      intro n
      rw [Nat.pow_succ, Nat.mul_comm]
      exact Nat.mod_mul_right_mod _ _ _
    have e2 : ∀ n, w % 2 ^ (n + 1) / 2 = w / 2 % 2 ^ n := by
      intro n
      rw [Nat.pow_succ, Nat.mul_comm]
      exact Nat.mod_mul_right_div_self _ _ _
    rw [e1, e1, e2, e2, ih (w / 2)]
    have e3 : w / 2 / 2 ^ t = w / 2 ^ (t + 1) := by
      rw [Nat.div_div_eq_div_mul, Nat.pow_succ, Nat.mul_comm]
    rw [e3]; omega

theorem popc_mod_le (w t : Nat) : popc (w % 2 ^ t) ≤ t := by
  have := add_le_of_succ_le (f := fun t => popc (w % 2 ^ t))
    (fun t => by rw [popc_mod_succ]; exact Nat.add_le_add_left (Nat.le_of_lt_succ (Nat.mod_lt _ (by decide))) _) 0 t
  rwa [Nat.zero_add, Nat.pow_zero, Nat.mod_one, popc_zero, Nat.zero_add] at this

theorem popc_mod_mono (w t u : Nat) (h : t ≤ u) : popc (w % 2 ^ t) ≤ popc (w % 2 ^ u) :=
  mono_of_le_succ (f := fun t => popc (w % 2 ^ t)) (fun t => by rw [popc_mod_succ]; exact Nat.le_add_right _ _) h

theorem popc_le_of_lt (w n : Nat) (h : w < 2 ^ n) : popc w ≤ n := by
  have := popc_mod_le w n
  rwa [Nat.mod_eq_of_lt h] at this

theorem popc_two_mul (x : Nat) : popc (2 * x) = popc x := by
  rw [popc_step (2 * x)]
  have h1 : 2 * x % 2 = 0 := by omega
  have h2 : 2 * x / 2 = x := by omega
  rw [h1, h2]; omega

theorem popc_mul_two_pow (x k : Nat) : popc (x * 2 ^ k) = popc x := by
  induction k with
  | zero => simp
  | succ k ih =>
    have : x * 2 ^ (k + 1) = 2 * (x * 2 ^ k) := by
      rw [Nat.pow_succ]; simp [Nat.mul_comm, Nat.mul_left_comm]
    rw [this, popc_two_mul, ih]

theorem popc_and_mask (w t : Nat) : popc (w &&& ((1 <<< t) - 1)) = popc (w % 2 ^ t) := by
  rw [Nat.shiftLeft_eq, Nat.one_mul, Nat.and_two_pow_sub_one_eq_mod]

theorem and_mask64 (w : Nat) (h : w < 2 ^ 64) : w &&& mask64 = w := by
  have : mask64 = 2 ^ 64 - 1 := by decide
  rw [this, Nat.and_two_pow_sub_one_eq_mod, Nat.mod_eq_of_lt h]

theorem not64_eq (w : Nat) (h : w < 2 ^ 64) : not64 w = 2 ^ 64 - 1 - w := by
  unfold not64 mask64 two64
  rw [Nat.mod_eq_of_lt (by simpa using h)]

theorem compl_div_mod (n w t : Nat) (h : w < 2 ^ n) (ht : t < n) :
    (2 ^ n - 1 - w) / 2 ^ t % 2 = 1 - w / 2 ^ t % 2 := by
  have h1 := Nat.testBit_two_pow_sub_succ h t
  rw [Nat.testBit_eq_decide_div_mod_eq, Nat.testBit_eq_decide_div_mod_eq, decide_eq_true ht, Bool.true_and,
    Nat.add_comm, ← Nat.sub_sub] at h1
  rcases Nat.mod_two_eq_zero_or_one (w / 2 ^ t) with e | e <;> rw [e] at h1 ⊢ <;> simpa using h1

theorem popc_compl_mod (n w t : Nat) (h : w < 2 ^ n) (ht : t ≤ n) :
    popc ((2 ^ n - 1 - w) % 2 ^ t) = t - popc (w % 2 ^ t) := by
  induction t with
  | zero => simp [Nat.mod_one, popc_zero]
  | succ t ih =>
    rw [popc_mod_succ, popc_mod_succ, ih (by omega), compl_div_mod n w t h (by omega)]
    have := popc_mod_le w t
    have : w / 2 ^ t % 2 < 2 := Nat.mod_lt _ (by decide)
    omega

abbrev R (s : List Bool) (i : Nat) : Nat := Spec.rank true i s

theorem rank_succ (c : Bool) (s : List Bool) (i : Nat) :
    Spec.rank c (i + 1) s = Spec.rank c i s + (if s[i]? = some c then 1 else 0) := by
  unfold Spec.rank
  rw [List.take_add_one, List.count_append]
  cases h : s[i]? with
  | none => simp
  | some b => cases b <;> cases c <;> simp

theorem R_succ (s : List Bool) (i : Nat) :
    R s (i + 1) = R s i + (if s.getD i false then 1 else 0) := by
  unfold R
  rw [rank_succ, List.getD_eq_getElem?_getD]
  cases h : s[i]? with
  | none => simp
  | some b => cases b <;> simp

theorem rank_add_le (c : Bool) (s : List Bool) (i k : Nat) :
    Spec.rank c (i + k) s ≤ Spec.rank c i s + k := by
  have := Spec.rank_sub_le c s (Nat.le_add_right i k)
  rwa [Nat.add_sub_cancel_left] at this

theorem rank_false_add (s : List Bool) (i : Nat) (h : i ≤ s.length) :
    Spec.rank false i s + Spec.rank true i s = i := by
  induction i with
  | zero => simp [Spec.rank_zero]
  | succ i ih =>
    have := ih (by omega)
    rw [rank_succ, rank_succ]
    have hi : i < s.length := by omega
    rw [List.getElem?_eq_getElem hi]
    cases s[i] <;> simp <;> omega

/-- number of zeros of the zero-padded sequence in `[0, i)` -/
def Z (s : List Bool) (i : Nat) : Nat := i - R s i

theorem Z_eq_rank (s : List Bool) (i : Nat) (h : i ≤ s.length) : Z s i = Spec.rank false i s := by
  have := rank_false_add s i h
  unfold Z R; omega

theorem Z_succ (s : List Bool) (i : Nat) :
    Z s (i + 1) = Z s i + (if s.getD i false then 0 else 1) := by
  unfold Z
  rw [R_succ]
  have := Spec.rank_le true s i
  split <;> (unfold R; omega)

theorem Z_add (s : List Bool) (x U ones : Nat) (h : R s (x + U) = R s x + ones) :
    Z s (x + U) = Z s x + (U - ones) := by
  have h1 := Spec.rank_le true s x
  have h2 := rank_add_le true s x U
  unfold Z; unfold R at *; omega

/-- cumulative count of `bit` in the zero-padded sequence -/
def C (bit : Bool) (s : List Bool) (i : Nat) : Nat := if bit then R s i else Z s i

theorem C_zero (bit : Bool) (s : List Bool) : C bit s 0 = 0 := by
  cases bit <;> simp [C, Z, R, Spec.rank_zero]

theorem C_succ (bit : Bool) (s : List Bool) (i : Nat) :
    C bit s (i + 1) = C bit s i + (if s.getD i false = bit then 1 else 0) := by
  cases bit
  · simp only [C, Bool.false_eq_true, if_false, Z_succ]
    cases s.getD i false <;> simp
  · simp only [C, if_true, R_succ]

theorem C_mono (bit : Bool) (s : List Bool) {i j : Nat} (h : i ≤ j) : C bit s i ≤ C bit s j :=
  mono_of_le_succ (f := C bit s) (fun i => by rw [C_succ]; exact Nat.le_add_right _ _) h

theorem C_add_le (bit : Bool) (s : List Bool) (i k : Nat) : C bit s (i + k) ≤ C bit s i + k :=
  add_le_of_succ_le (f := C bit s) (fun i => by rw [C_succ]; split <;> omega) i k

theorem C_le (bit : Bool) (s : List Bool) (i : Nat) : C bit s i ≤ i := by
  have := C_add_le bit s 0 i
  rw [C_zero] at this; simpa using this

theorem C_eq_rank (bit : Bool) (s : List Bool) (i : Nat) (h : i ≤ s.length) :
    C bit s i = Spec.rank bit i s := by
  cases bit
  · simp [C, Z_eq_rank s i h]
  · simp [C, R]

theorem C_length (bit : Bool) (s : List Bool) : C bit s s.length = s.count bit := by
  rw [C_eq_rank _ _ _ (Nat.le_refl _), Spec.rank_of_ge _ _ (Nat.le_refl _)]

theorem R_of_ge (s : List Bool) (i : Nat) (h : s.length ≤ i) : R s i = s.count true :=
  Spec.rank_of_ge _ _ h

theorem rank_bitsOf (w n p : Nat) (hp : p ≤ n) :
    Spec.rank true p (Spec.bitsOf w n) = popc (w % 2 ^ p) := by
  induction p with
  | zero => simp [Spec.rank_zero, Nat.mod_one, popc_zero]
  | succ p ih =>
    rw [rank_succ, ih (by omega), popc_mod_succ, bitsOf_getElem?,
      if_pos (show p < n by omega), Nat.testBit_eq_decide_div_mod_eq]
    have : w / 2 ^ p % 2 < 2 := Nat.mod_lt _ (by decide)
    by_cases h : w / 2 ^ p % 2 = 1
    · simp [h]
    · have : w / 2 ^ p % 2 = 0 := by omega
      simp [this]

theorem select_bitsOf (w t : Nat) (hw : w < 2 ^ 64) (ht : t < popc w) :
    ∃ p, Spec.select true t (Spec.bitsOf w 64) = some p ∧ p < 64 ∧ w / 2 ^ p % 2 = 1 ∧
      popc (w % 2 ^ p) = t := by
  obtain ⟨p, hp, hlt⟩ := select_some true (Spec.bitsOf w 64) t (popc_eq_count 64 w hw ▸ ht)
  rw [bitsOf_length] at hlt
  have h := Spec.select_eq_some_iff.1 hp
  refine ⟨p, hp, hlt, ?_, ?_⟩
  · have := h.1
    rw [bitsOf_getElem?, if_pos hlt, Nat.testBit_eq_decide_div_mod_eq] at this
    simpa using this
  · rw [← rank_bitsOf w 64 p (by omega)]; exact h.2

theorem exists_step (f : Nat → Nat) (k : Nat) :
    ∀ n, f 0 ≤ k → k < f n → ∃ g, g < n ∧ f g ≤ k ∧ k < f (g + 1) := by
  intro n
  induction n with
  | zero => intro h0 h1; omega
  | succ n ih =>
    intro h0 h1
    by_cases h : k < f n
    · obtain ⟨g, hg, a, b⟩ := ih h0 h
      exact ⟨g, by omega, a, b⟩
    · exact ⟨n, by omega, by omega, h1⟩

theorem select_of_C (bit : Bool) (s : List Bool) (k pos : Nat) (hk : k < s.count bit)
    (hb : s.getD pos false = bit) (hc : C bit s pos = k) : Spec.select bit k s = some pos := by
  have hlt : pos < s.length := by
    apply Nat.lt_of_not_le
    intro hge
    have := C_mono bit s hge
    rw [C_length] at this; omega
  rw [Spec.select_eq_some_iff]
  refine ⟨?_, ?_⟩
  · rw [List.getElem?_eq_getElem hlt, ← getD_of_lt hlt, hb]
  · rw [← C_eq_rank bit s pos (by omega)]; exact hc

/-! ### packed counters

`packN B A c r` is the word holding the absolute count `A` followed by the `r` fields
`c 1, …, c r`, each `B` bits wide. -/

def packN (B A : Nat) (c : Nat → Nat) : Nat → Nat
  | 0 => A
  | r + 1 => packN B A c r * 2 ^ B + c (r + 1)

theorem packN_lt (B A : Nat) (c : Nat → Nat) (a : Nat) (hA : A < 2 ^ a) (r : Nat)
    (hc : ∀ j, 1 ≤ j → j ≤ r → c j < 2 ^ B) : packN B A c r < 2 ^ (a + B * r) := by
  induction r with
  | zero => exact hA
  | succ r ih =>
    have h1 := Nat.mul_le_mul_right (2 ^ B) (ih fun j h1 h2 => hc j h1 (Nat.le_succ_of_le h2))
    have h2 := hc (r + 1) (Nat.le_add_left 1 r) (Nat.le_refl _)
    rw [Nat.mul_succ, ← Nat.add_assoc, Nat.pow_add _ _ B, packN]
    rw [Nat.succ_mul] at h1
    omega

theorem packN_div (B A : Nat) (c : Nat → Nat) (j d : Nat) (hc : ∀ i, j < i → i ≤ j + d → c i < 2 ^ B) :
    packN B A c (j + d) / 2 ^ (d * B) = packN B A c j := by
  induction d with
  | zero => rw [Nat.zero_mul, Nat.pow_zero, Nat.div_one]; rfl
  | succ d ih =>
    rw [← Nat.add_assoc, packN, Nat.succ_mul, Nat.pow_add, Nat.mul_comm (2 ^ (d * B)), ← Nat.div_div_eq_div_mul,
      Nat.mul_comm, Nat.mul_add_div (Nat.pow_pos (by decide)),
      Nat.div_eq_of_lt (hc (j + d + 1) (by omega) (by omega))]
    exact ih fun i h1 h2 => hc i h1 (by omega)

theorem packN_fields (B A : Nat) (c : Nat → Nat) (r : Nat) (hc : ∀ j, 1 ≤ j → j ≤ r → c j < 2 ^ B) :
    packN B A c r / 2 ^ (r * B) = A ∧
    ∀ j, 1 ≤ j → j ≤ r → packN B A c r / 2 ^ ((r - j) * B) % 2 ^ B = c j := by
  refine ⟨?_, fun j h1 hj => ?_⟩
  · have := packN_div B A c 0 r fun i h1 h2 => hc i h1 (by omega)
    rwa [Nat.zero_add] at this
  · have := packN_div B A c j (r - j) fun i h1 h2 => hc i (by omega) (by omega)
    rw [Nat.add_sub_cancel' hj] at this
    obtain ⟨j, rfl⟩ : ∃ k, j = k + 1 := ⟨j - 1, by omega⟩
    rw [this, packN, Nat.mul_add_mod_self_right, Nat.mod_eq_of_lt (hc _ h1 hj)]

/-- one step of the metadata accumulation `md = (md << B) | c` in a `W`-bit register -/
theorem pack_step (B W x c : Nat) (hx : x * 2 ^ B < 2 ^ W) (hc : c < 2 ^ B) :
    ((x <<< B) % 2 ^ W) ||| c = x * 2 ^ B + c := by
  rw [Nat.shiftLeft_eq, Nat.mod_eq_of_lt hx, ← Nat.shiftLeft_eq, Nat.shiftLeft_add_eq_or_of_lt hc]

theorem packN_step (B W A : Nat) (c : Nat → Nat) (r : Nat) (h : packN B A c (r + 1) < 2 ^ W)
    (hc : c (r + 1) < 2 ^ B) : ((packN B A c r <<< B) % 2 ^ W) ||| c (r + 1) = packN B A c (r + 1) :=
  pack_step B W _ _ (Nat.lt_of_le_of_lt (Nat.le_add_right _ _) h) hc

end Qwt.RSBin
