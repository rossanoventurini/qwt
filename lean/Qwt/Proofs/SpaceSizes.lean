import Qwt.Proofs.SpaceVecSizes
import Qwt.Proofs.PfsBuild
import Qwt.Proofs.QWT
import Qwt.Proofs.BinWMNew
import Qwt.Proofs.NewInv

/-! Buffer sizes and shape of the trees built by `new` (C14, C16), by forward reasoning over the
construction paths (`x >>= f = .ok b → ∃ a, x = .ok a ∧ f a = .ok b`): every level is a vector
built by the constructors of `Qwt/Proofs/SpaceVecSizes.lean`, so the trees inherit their size
facts level by level.  The shape facts (`selectSamples.size = 4 / 2`, one sampling structure per
level) hold without any hypothesis on the input; the size facts need `|S| < 2^43` and the block
size. -/
namespace Qwt.SpaceSizes
open Qwt Qwt.Space

section digits
open Qwt.QV Qwt.RSQP

end digits

section qwt
open Qwt.QWTree Qwt.RSQ Qwt.PfsP Qwt.WM Qwt.QV

/-- sizes of the sampling structure of a level over `n` symbols: four `RSNarrow` over
    `nbOf n = ⌈(n-1)/rate⌉ + 1` bits each (`rate = 2 ^ pfsSampleShift`) -/
structure PfsSize (n : Nat) (p : PFS.PrefetchSupport) : Prop where
  size : p.samples.size = 4
  rsn : ∀ r ∈ p.samples.toList, RSNSize (nbOf n) r

theorem pfsSize_of_rep {L : List Nat} {p : PFS.PrefetchSupport} (h : PfsRep L p) :
    PfsSize L.length p := by
  have key : ∀ k, k < 4 → RSNSize (nbOf L.length) (p.samples.getD k default) := by
    intro k hk
    obtain ⟨r', bits, e, hinv, hlen, _⟩ := h.sample k hk
    have : p.samples.getD k default = r' := by
      rw [Array.getD_eq_getD_getElem?, e]; rfl
    rw [this, ← hlen]
    exact RSNSize.of_inv hinv
  refine ⟨h.size, fun r hr => ?_⟩
  rw [toList4 p.samples default h.size] at hr
  simp only [List.mem_cons, List.not_mem_nil, or_false] at hr
  rcases hr with rfl | rfl | rfl | rfl
  · exact key 0 (by decide)
  · exact key 1 (by decide)
  · exact key 2 (by decide)
  · exact key 3 (by decide)

theorem fold_twoBits (c : Cfg) (sh : Nat) : ∀ (l : List Nat) (b q : QVectorBuilder),
    l.foldlM (fun (b : QVectorBuilder) symbol => do
      let tb ← twoBits c symbol sh
      QV.push b tb) b = .ok q →
    (l.map (fun x => (x >>> sh) % 4)).foldlM (fun (b : QVectorBuilder) d => QV.push b d) b = .ok q := by
  intro l
  induction l with
  | nil => intro b q h; exact h
  | cons x xs ih =>
    intro b q h
    rw [List.foldlM_cons] at h
    obtain ⟨b1, h1, h2⟩ := bind_ok_inv h
    obtain ⟨tb, ht, hp⟩ := bind_ok_inv h1
    unfold twoBits at ht
    split at ht
    · cases ht
    · have := Except.ok.inj ht
      rw [Proofs.Word.and3_eq] at this
      subst this
      rw [List.map_cons, List.foldlM_cons, hp]
      exact ih b1 q h2

/-- the two arrays of a quad tree under construction after `k` levels: `k` vectors, each with
    `Pq`, and, where the sampling structures are kept (`b`), `k` of them, each with `Pp` -/
structure QParts (Pq : RSQVector → Prop) (Pp : PFS.PrefetchSupport → Prop) (b : Bool) (k : Nat)
    (qvs : Array RSQVector) (pfs : Array PFS.PrefetchSupport) : Prop where
  qsz : qvs.size = k
  psz : b = true → pfs.size = k
  q : ∀ r ∈ qvs.toList, Pq r
  p : ∀ p ∈ pfs.toList, Pp p

theorem QParts.init (Pq : RSQVector → Prop) (Pp : PFS.PrefetchSupport → Prop) (b : Bool) :
    QParts Pq Pp b 0 #[] #[] :=
  ⟨rfl, fun _ => rfl, fun r hr => (by cases hr), fun p hp => (by cases hp)⟩

theorem QParts.step {Pq : RSQVector → Prop} {Pp : PFS.PrefetchSupport → Prop} {b : Bool} {k : Nat}
    {qvs : Array RSQVector} {pfs pfs' : Array PFS.PrefetchSupport} (hI : QParts Pq Pp b k qvs pfs)
    {rs : RSQVector} (hq : Pq rs) (h1 : b = true → ∃ p, pfs' = pfs.push p ∧ Pp p)
    (h0 : b = false → pfs' = pfs) : QParts Pq Pp b (k + 1) (qvs.push rs) pfs' := by
  refine ⟨by rw [Array.size_push, hI.qsz], fun hb => ?_, forall_mem_push hI.q hq, ?_⟩
  · obtain ⟨p, e, _⟩ := h1 hb
    rw [e, Array.size_push, hI.psz hb]
  · cases b
    · rw [h0 rfl]
      exact hI.p
    · obtain ⟨p, e, hp⟩ := h1 rfl
      rw [e]
      exact forall_mem_push hI.p hp

theorem levelStep_ok {c : Cfg} {st st' : LevelSt} (h : levelStep c st = .ok st') :
    ∃ qvb rs, (st.seq.toList.map (fun x => (x >>> st.shift) % 4)).foldlM
        (fun (b : QVectorBuilder) d => QV.push b d) {} = .ok qvb ∧
      fromQV c.dbg c.B (QV.build qvb) = .ok rs ∧
      Utils.stablePartitionOf4 c.W st.seq st.shift = .ok st'.seq ∧
      st'.qvs = st.qvs.push rs ∧
      (c.pfs = true → ∃ p, PFS.new (QV.build qvb) Extracted.pfsSampleShift = .ok p ∧
        st'.pfs = st.pfs.push p) ∧
      (c.pfs = false → st'.pfs = st.pfs) := by
  obtain ⟨qvb, rs, seq, pfs, hq, hr, hseq, hp, rfl⟩ := QWTree.levelStep_inv h
  rw [← Array.foldlM_toList] at hq
  refine ⟨qvb, rs, fold_twoBits c st.shift _ _ _ hq, hr, hseq, rfl, fun ht => ?_, fun hf => ?_⟩
  · rcases hp with ⟨hf, _⟩ | ⟨_, hp⟩
    · rw [ht] at hf; cases hf
    · exact hp
  · rcases hp with ⟨_, hp⟩ | ⟨ht, _⟩
    · exact hp
    · rw [hf] at ht; cases ht

/-- forward invariant of the level loop of `QWaveletTree::new` over a sequence of `n` symbols -/
structure QInv (c : Cfg) (n k : Nat) (st : LevelSt) : Prop where
  seq : st.seq.size = n
  parts : QParts (RSQSizeP c.B n) (PfsSize n) c.pfs k st.qvs st.pfs

theorem levelStep_sizes (c : Cfg) (hB : c.B = 256 ∨ c.B = 512) {n : Nat} (hn : n < 2 ^ 43)
    (k : Nat) (st : LevelSt) (_a : Nat) (st' : LevelSt) (hI : QInv c n k st)
    (h : levelStep c st = .ok st') : QInv c n (k + 1) st' := by
  obtain ⟨qvb, rs, hq, hr, hseq, eq, ep1, ep0⟩ := levelStep_ok h
  have hdl : (st.seq.toList.map (fun x => (x >>> st.shift) % 4)).length = n := by
    rw [List.length_map, Array.length_toList, hI.seq]
  have hdd : ∀ d ∈ st.seq.toList.map (fun x => (x >>> st.shift) % 4), d < 4 := by
    intro d hd; obtain ⟨x, _, rfl⟩ := List.mem_map.mp hd; exact Nat.mod_lt _ (by decide)
  have h64 : two64 = 2 ^ 64 := by decide
  have hsz := fromQV_sizes hB (of_exists_ok (RSQP.holds_of_pushes _ hdd (by rw [hdl]; omega)) hq) hdd
    (by rw [hdl]; exact hn) hr
  rw [hdl] at hsz
  refine ⟨by rw [Proofs.Word.stablePartitionOf4_size hseq, hI.seq], ?_⟩
  rw [eq]
  refine hI.parts.step hsz (fun hc => ?_) ep0
  obtain ⟨p, hnew, ep⟩ := ep1 hc
  -- the sampling structure is built over the `n` digits of this level
  have := pfsSize_of_rep (of_exists_ok (PfsP.new_of_pushes _ hdd qvb hq) hnew)
  rw [hdl] at this
  exact ⟨p, ep, this⟩

structure QSizes (c : Cfg) (S : List Nat) (t : QWT) : Prop where
  qsz : t.qvs.size = nLevelsOf (Spec.maxNat S)
  qv : ∀ r ∈ t.qvs.toList, RSQSizeP c.B S.length r
  pfs_none : c.pfs = false → t.pfs = none
  pfs : t.pfs = none ∨ ∃ a, t.pfs = some a ∧ t.nLevels = nLevelsOf (Spec.maxNat S) ∧
    a.size = nLevelsOf (Spec.maxNat S) ∧ ∀ p ∈ a.toList, PfsSize S.length p

theorem new_sizes (c : Cfg) (hB : c.B = 256 ∨ c.B = 512) (S : List Nat)
    (hS : ∀ x ∈ S, x < 2 ^ c.W) (hlen : S.length < 2 ^ 43) {t : QWT}
    (h : QWTree.new c S.toArray = .ok t) : QSizes c S t := by
  rcases Bool.eq_false_or_eq_true S.toArray.isEmpty with hemp | hne
  · have hS0 : S = [] := by
      cases S with
      | nil => rfl
      | cons a l => simp at hemp
    subst hS0
    obtain ⟨d, hd, rfl⟩ := QWTree.new_inv_empty hemp h
    have hd' : fromQV false c.B {} = .ok d := hd
    have hsz := fromQV_sizes hB holds_empty (by simp) (by simp) hd'
    refine ⟨rfl, fun r hr => ?_, fun _ => rfl, Or.inl rfl⟩
    cases List.mem_singleton.mp hr; exact hsz
  · obtain ⟨m, st, hm, hst, rfl⟩ := QWTree.new_inv hne h
    have hsig : S.toArray.foldl max 0 = Spec.maxNat S := by rw [List.foldl_toArray]; rfl
    rw [hsig, msb_ok _ _ (Spec.maxNat_lt (Nat.two_pow_pos _) hS)] at hm
    cases hm
    have e : (Nat.log2 (Spec.maxNat S) + 1 + 1) / 2 = nLevelsOf (Spec.maxNat S) := rfl
    rw [e] at hst
    have hI := foldlM_inv (QInv c S.length) (fun st (_ : Nat) => levelStep c st)
      (levelStep_sizes c hB hlen) _ 0 _ st
      ⟨by simp, QParts.init _ _ _⟩ hst
    rw [List.length_range, Nat.zero_add] at hI
    refine ⟨hI.parts.qsz, hI.parts.q, fun hp => by simp [hp], ?_⟩
    cases hp : c.pfs
    · exact Or.inl rfl
    · exact Or.inr ⟨st.pfs, rfl, e, hI.parts.psz hp, hI.parts.p⟩

end qwt

section binwt
open Qwt.BinWT Qwt.BV

/-- a fold whose steps are single pushes stores a bit list of the same length -/
theorem foldlM_push_each {α : Type} (f : BitVector → α → M BitVector)
    (hf : ∀ b a b', f b a = .ok b' → ∃ bit, BV.push b bit = .ok b') :
    ∀ (l : List α) (b q : BitVector), l.foldlM f b = .ok q →
      ∃ bits : List Bool, bits.length = l.length ∧ bits.foldlM BV.push b = .ok q := by
  intro l
  induction l with
  | nil => intro b q h; exact ⟨[], rfl, h⟩
  | cons a l ih =>
    intro b q h
    rw [List.foldlM_cons] at h
    obtain ⟨b1, h1, h2⟩ := bind_ok_inv h
    obtain ⟨bit, hb⟩ := hf b a b1 h1
    obtain ⟨bits, hl, hq⟩ := ih b1 q h2
    refine ⟨bit :: bits, by simp [hl], ?_⟩
    rw [List.foldlM_cons, hb]; exact hq

theorem part2_size (g : Nat → Bool) : ∀ (l : List Nat) (b : Array Nat × Array Nat),
    (l.foldl (fun (b : Array Nat × Array Nat) a =>
        if g a then (b.1.push a, b.2) else (b.1, b.2.push a)) b).1.size +
    (l.foldl (fun (b : Array Nat × Array Nat) a =>
        if g a then (b.1.push a, b.2) else (b.1, b.2.push a)) b).2.size =
      b.1.size + b.2.size + l.length := by
  intro l
  induction l with
  | nil => intro b; rfl
  | cons a l ih =>
    intro b
    rw [List.foldl_cons, ih]
    split <;> simp <;> omega

theorem stablePartitionOf2_size {W sh : Nat} {seq seq' : Array Nat}
    (h : Utils.stablePartitionOf2 W seq sh = .ok seq') : seq'.size = seq.size := by
  unfold Utils.stablePartitionOf2 at h
  split at h
  · cases h
  · cases h
    rw [Array.size_append, ← Array.foldl_toList]
    have := part2_size (fun a => Utils.asUsize (a >>> sh) &&& 1 == 0) seq.toList (#[], #[])
    simpa using this

/-- every level of a binary tree (plain or Huffman-shaped) is a freshly built `RSWide`:
    two sample arrays, one entry of `lens` per level -/
structure BShape (k : Nat) (st : BinWT.LevelSt) : Prop where
  bsz : st.bvs.size = k
  lsz : st.lens.size = k
  s2 : ∀ r ∈ st.bvs.toList, r.selectSamples.size = 2

theorem bin_levelStep_shape (c : Cfg) (compressed : Bool) (L : Nat) (codes : Array Huff.PrefixCode)
    (k : Nat) (st : BinWT.LevelSt) (_a : Nat) (st' : BinWT.LevelSt) (hI : BShape k st)
    (h : BinWT.levelStep c compressed L codes st = .ok st') : BShape (k + 1) st' := by
  obtain ⟨bvm, rs, seq, _, hrs, _, rfl⟩ := BinWT.levelStep_inv h
  exact ⟨by rw [Array.size_push, hI.bsz], by rw [Array.size_push, hI.lsz],
    forall_mem_push hI.s2 (rsw_new_samples2 hrs)⟩

theorem bin_fold_shape (c : Cfg) (compressed : Bool) (L : Nat) (codes : Array Huff.PrefixCode)
    (n : Nat) (seq : Array Nat) {st : LevelSt}
    (h : (List.range n).foldlM (fun st (_ : Nat) => BinWT.levelStep c compressed L codes st)
      { seq := seq, shift := 1 } = .ok st) :
    st.bvs.size = n ∧ st.lens.size = n ∧ ∀ r ∈ st.bvs.toList, r.selectSamples.size = 2 := by
  have hI := foldlM_inv BShape _ (bin_levelStep_shape c compressed L codes) _ 0 _ st
    ⟨rfl, rfl, fun r hr => (by cases hr)⟩ h
  rw [List.length_range, Nat.zero_add] at hI
  exact ⟨hI.bsz, hI.lsz, hI.s2⟩

theorem bin_new_shape (c : Cfg) (compressed : Bool) (seq : Array Nat) (lens : List (Nat × Nat))
    {t : WT} (h : BinWT.new c compressed seq lens = .ok t) :
    t.bvs.size = t.nLevels ∧ t.lens.size = t.nLevels ∧ ∀ r ∈ t.bvs.toList, r.selectSamples.size = 2 := by
  rcases Bool.eq_false_or_eq_true seq.isEmpty with hemp | hne
  · cases BinWT.new_inv_empty hemp h
    exact ⟨rfl, rfl, fun r hr => (by cases hr)⟩
  · cases compressed
    · obtain ⟨m, st, _, hst, rfl⟩ := BinWT.new_inv_plain hne h
      exact bin_fold_shape _ _ _ _ _ _ hst
    · obtain ⟨codes, st, _, hst, rfl⟩ := BinWT.new_inv_huff hne h
      exact bin_fold_shape _ _ _ _ _ _ hst

/-- forward invariant of the level loop of the plain binary tree over `n` symbols -/
structure BInvT (n k : Nat) (st : BinWT.LevelSt) : Prop where
  seq : st.seq.size = n
  bv : ∀ r ∈ st.bvs.toList, RSWSize' n r

theorem bin_levelStep_sizes (c : Cfg) (L : Nat) {n : Nat} (hn : n < 2 ^ 43)
    (k : Nat) (st : BinWT.LevelSt) (_a : Nat) (st' : BinWT.LevelSt) (hI : BInvT n k st)
    (h : BinWT.levelStep c false L #[] st = .ok st') : BInvT n (k + 1) st' := by
  obtain ⟨bvm, rs, seq, hb, hrs, hseq, rfl⟩ := BinWT.levelStep_inv h
  rw [if_neg Bool.false_ne_true] at hseq
  obtain ⟨sh, _, hseq⟩ := bind_ok_inv hseq
  rw [← Array.foldlM_toList] at hb
  obtain ⟨bits, hbl, hbits⟩ := foldlM_push_each _ (by
    intro b s b' hs
    simp only [Bool.false_eq_true, if_false] at hs
    obtain ⟨sh, _, hs⟩ := bind_ok_inv hs
    split at hs
    · obtain ⟨_, ht, _⟩ := bind_ok_inv hs
      cases ht
    · exact ⟨_, hs⟩) _ _ _ hb
  have hbn : bits.length = n := by rw [hbl, Array.length_toList, hI.seq]
  have h64 : bits.length < two64 := by
    have : (2:Nat) ^ 43 < two64 := by decide
    omega
  have hholds := of_exists_ok (Props.C06.holds_fromBools bits h64) hbits
  have hsz := RSWSize'.of_inv (of_exists_ok (RSW.new_inv hholds (by rw [hbn]; exact hn)) hrs).2
  rw [hbn] at hsz
  exact ⟨(stablePartitionOf2_size hseq).trans hI.seq, forall_mem_push hI.bv hsz⟩

theorem bin_new_sizes (c : Cfg) (S : List Nat) (hlen : S.length < 2 ^ 43) {t : WT}
    (h : BinWT.new c false S.toArray [] = .ok t) : ∀ r ∈ t.bvs.toList, RSWSize' S.length r := by
  rcases Bool.eq_false_or_eq_true S.toArray.isEmpty with hemp | hne
  · cases BinWT.new_inv_empty hemp h
    intro r hr; cases hr
  · obtain ⟨m, st, _, hst, rfl⟩ := BinWT.new_inv_plain hne h
    have hI := foldlM_inv (BInvT S.length) (fun st (_ : Nat) => BinWT.levelStep c false (m + 1) #[] st)
      (bin_levelStep_sizes c (m + 1) hlen) _ 0 _ st
      ⟨by simp, fun r hr => (by cases hr)⟩ hst
    exact hI.bv

end binwt

/-! ### shape of the quad trees (plain and Huffman-shaped), without any hypothesis on the input -/

section shape
open Qwt.RSQ Qwt.QV

theorem map_ok {α β : Type} {g : α → β} {x : M α} {y : β} (h : g <$> x = .ok y) :
    ∃ a, x = .ok a ∧ g a = y := by
  cases x with
  | error e => cases h
  | ok a => exact ⟨a, rfl, Except.ok.inj h⟩

theorem list_mapM_ok_mem {α β : Type} (f : α → M β) : ∀ (l : List α) (l' : List β),
    l.mapM f = .ok l' → ∀ y ∈ l', ∃ x ∈ l, f x = .ok y := by
  intro l
  induction l with
  | nil =>
    intro l' h y hy
    rw [List.mapM_nil] at h
    cases h; simp at hy
  | cons a l ih =>
    intro l' h y hy
    rw [List.mapM_cons] at h
    obtain ⟨b, hb, h⟩ := bind_ok_inv h
    obtain ⟨bs, hbs, h⟩ := bind_ok_inv h
    cases h
    rcases List.mem_cons.mp hy with rfl | hy
    · exact ⟨a, by simp, hb⟩
    · obtain ⟨x, hx, e⟩ := ih bs hbs y hy
      exact ⟨x, by simp [hx], e⟩

theorem array_mapM_ok_mem {α β : Type} (f : α → M β) (a : Array α) (b : Array β)
    (h : a.mapM f = .ok b) : ∀ y ∈ b.toList, ∃ x ∈ a.toList, f x = .ok y := by
  rw [Array.mapM_eq_mapM_toList] at h
  obtain ⟨l', hl, e⟩ := map_ok h
  subst e
  exact list_mapM_ok_mem f _ _ hl

theorem pfs_new_samples2 {q : QVector} {sh : Nat} {p : PFS.PrefetchSupport}
    (h : PFS.new q sh = .ok p) : ∀ r ∈ p.samples.toList, r.selectSamples.size = 2 := by
  unfold PFS.new at h
  obtain ⟨st, _, h⟩ := bind_ok_inv h
  obtain ⟨samples, hm, h⟩ := bind_ok_inv h
  cases h
  intro r hr
  obtain ⟨b, _, e⟩ := array_mapM_ok_mem _ _ _ hm r hr
  exact rsn_new_samples2 e

/-- shape of the arrays of a quad tree under construction: four sample arrays per vector, two
    per `RSNarrow` of a sampling structure -/
abbrev QShape := QParts (fun r => r.rs.selectSamples.size = 4)
  (fun p => ∀ r ∈ p.samples.toList, r.selectSamples.size = 2)

theorem qwt_levelStep_shape (c : Cfg) (k : Nat) (st : QWTree.LevelSt) (_a : Nat) (st' : QWTree.LevelSt)
    (hI : QShape c.pfs k st.qvs st.pfs) (h : QWTree.levelStep c st = .ok st') :
    QShape c.pfs (k + 1) st'.qvs st'.pfs := by
  obtain ⟨qvb, rs, _, hr, _, eq, ep1, ep0⟩ := levelStep_ok h
  rw [eq]
  refine hI.step (fromQV_samples4 hr) (fun hc => ?_) ep0
  obtain ⟨p, hnew, ep⟩ := ep1 hc
  exact ⟨p, ep, pfs_new_samples2 hnew⟩

/-- shape of a finished quad tree: four sample arrays per level; the sampling structures, if
    kept, one per level, each `RSNarrow` with two sample arrays -/
structure TreeShape (qvs : Array RSQVector) (pfs : Option (Array PFS.PrefetchSupport)) (L : Nat) : Prop where
  q4 : ∀ r ∈ qvs.toList, r.rs.selectSamples.size = 4
  pfs_some : ∀ a, pfs = some a → a.size = L ∧
    ∀ p ∈ a.toList, ∀ r ∈ p.samples.toList, r.selectSamples.size = 2

theorem QShape.tree {b : Bool} {k : Nat} {qvs : Array RSQVector} {pfs : Array PFS.PrefetchSupport}
    (hI : QShape b k qvs pfs) : TreeShape qvs (if b then some pfs else none) k := by
  refine ⟨hI.q, fun a ha => ?_⟩
  cases b
  · cases ha
  · cases ha
    exact ⟨hI.psz rfl, hI.p⟩

/-- the tree over the empty sequence: one default vector, no sampling structures -/
theorem TreeShape.default {B L : Nat} {d : RSQVector} (hd : RSQ.default B = .ok d) :
    TreeShape #[d] none L :=
  ⟨fun r hr => by cases List.mem_singleton.mp hr; exact fromQV_samples4 (q := {}) hd,
    fun a ha => by cases ha⟩

/-- shape of a plain quad tree built by `new`, for every input -/
theorem qwt_new_shape (c : Cfg) (seq : Array Nat) {t : QWTree.QWT} (h : QWTree.new c seq = .ok t) :
    TreeShape t.qvs t.pfs t.nLevels ∧ (c.pfs = false → t.pfs = none) := by
  rcases Bool.eq_false_or_eq_true seq.isEmpty with hemp | hne
  · obtain ⟨d, hd, rfl⟩ := QWTree.new_inv_empty hemp h
    exact ⟨TreeShape.default hd, fun _ => rfl⟩
  · obtain ⟨m, st, hm, hst, rfl⟩ := QWTree.new_inv hne h
    have hI := foldlM_inv (fun k (st : QWTree.LevelSt) => QShape c.pfs k st.qvs st.pfs)
      (fun st (_ : Nat) => QWTree.levelStep c st) (qwt_levelStep_shape c) _ 0 _ st (QParts.init _ _ _) hst
    rw [List.length_range, Nat.zero_add] at hI
    exact ⟨hI.tree, fun hp => by simp [hp]⟩

theorem huff_levelStep_shape (c : Cfg) (codes : Array Huff.PrefixCode) (k : Nat) (st : Huff.LevelSt)
    (_a : Nat) (st' : Huff.LevelSt)
    (hI : QShape c.pfs k st.qvs st.pfs) (h : Huff.levelStep c codes st = .ok st') :
    QShape c.pfs (k + 1) st'.qvs st'.pfs := by
  obtain ⟨qvb, rs, seq, pfs, _, hr, _, hp, rfl⟩ := Huff.levelStep_inv h
  refine hI.step (fromQV_samples4 hr) (fun ht => ?_) (fun hf => ?_)
  · rcases hp with ⟨hf, _⟩ | ⟨_, p, hnew, e⟩
    · rw [ht] at hf; cases hf
    · exact ⟨p, e, pfs_new_samples2 hnew⟩
  · rcases hp with ⟨_, e⟩ | ⟨ht, _⟩
    · exact e
    · rw [hf] at ht; cases ht

/-- shape of a Huffman-shaped quad tree built by `new`, for every input -/
theorem huff_new_shape (c : Cfg) (seq : Array Nat) (lens : List (Nat × Nat)) {t : Huff.HQWT}
    (h : Huff.new c seq lens = .ok t) : TreeShape t.qvs t.pfs t.nLevels := by
  rcases Bool.eq_false_or_eq_true seq.isEmpty with hemp | hne
  · obtain ⟨d, hd, rfl⟩ := Huff.new_inv_empty hemp h
    exact TreeShape.default hd
  · obtain ⟨codes, st, _, hst, rfl⟩ := Huff.new_inv hne h
    have hI := foldlM_inv (fun k (st : Huff.LevelSt) => QShape c.pfs k st.qvs st.pfs)
      (fun st (_ : Nat) => Huff.levelStep c codes st) (huff_levelStep_shape c codes) _ 0 _ st
      (QParts.init _ _ _) hst
    rw [List.length_range, Nat.zero_add] at hI
    exact hI.tree

end shape

end Qwt.SpaceSizes
