import Qwt.Proofs.BitVectorBasic
import Qwt.Proofs.Basic

/-!
The mutators.  Each of them grows the vector by zero bits (`grow_spec`), writes one bit (`write_spec`), or
does a sequence of such steps.
-/
namespace Qwt.BV
open Qwt

theorem bind_err {α β} (e : Fault) (f : α → M β) : ((Except.error e : M α) >>= f) = .error e := rfl

theorem abs_append_of {b b' : BitVector} (l : List Bool) (hn : b'.nBits = b.nBits + l.length)
    (hold : ∀ x, x < b.nBits → bitAt b' x = bitAt b x)
    (hnew : ∀ x (hx : x < l.length), bitAt b' (b.nBits + x) = l[x]) : abs b' = abs b ++ l := by
  apply abs_eq_of
  · simp [hn]
  · intro i hi
    rw [List.getElem_append]
    split
    · rename_i h; rw [abs_getElem]; apply hold; simpa using h
    · rename_i h
      simp only [abs_length, Nat.not_lt] at h
      have hx : i - b.nBits < l.length := by
        simp only [List.length_append, abs_length] at hi; omega
      have := hnew (i - b.nBits) hx
      have e : b.nBits + (i - b.nBits) = i := by omega
      rw [e] at this
      rw [this]; simp

theorem lines_succ (n : Nat) : (n + 1 + 511) / 512 = n / 512 + 1 := by
  rw [Nat.add_assoc]; exact Nat.add_div_right n (by decide)

theorem lines_eq (n : Nat) : (n + 511) / 512 = n / 512 + if n % 512 = 0 then 0 else 1 := by
  split <;> omega

theorem div_lt_lines {i n : Nat} (h : i < n) : i / 512 < (n + 511) / 512 := by
  show i / 512 + 1 ≤ _
  rw [← Nat.add_div_right i (by decide)]
  exact Nat.div_le_div_right (Nat.add_le_add_right (Nat.succ_le_of_lt h) 511)

theorem grow_spec {b : BitVector} (hb : Inv b) (k : Nat) {d : Array Nat}
    (hs : d.size = 8 * ((b.nBits + k + 511) / 512)) (hw : ∀ j, wordAt d j = wordAt b.data j) :
    Inv { b with data := d, nBits := b.nBits + k } ∧
      abs { b with data := d, nBits := b.nBits + k } = abs b ++ List.replicate k false := by
  have hbit : ∀ x, bitAt { b with data := d, nBits := b.nBits + k } x = bitAt b x := by
    intro x; unfold bitAt bitD; rw [hw]
  have habs : abs { b with data := d, nBits := b.nBits + k } = abs b ++ List.replicate k false := by
    apply abs_append_of
    · rw [List.length_replicate]
    · intro x _; exact hbit x
    · intro x hx; rw [hbit, List.getElem_replicate]; exact hb.pad _ (Nat.le_add_right _ _)
  refine ⟨⟨hs, words_of_wordAt fun j => ?_, fun i hi => ?_, ?_⟩, habs⟩
  · rw [hw]; exact hb.wordAt_lt j
  · rw [hbit]; exact hb.pad i (Nat.le_trans (Nat.le_add_right _ _) hi)
  · rw [habs, List.count_append, List.count_replicate, if_neg (by decide), Nat.add_zero]
    exact hb.ones

theorem count_set_true (l : List Bool) (i : Nat) (v : Bool) (h : i < l.length) :
    (l.set i v).count true + (if l[i] then 1 else 0) = l.count true + (if v then 1 else 0) := by
  induction l generalizing i with
  | nil => simp at h
  | cons a l ih =>
    cases i with
    | zero => cases a <;> cases v <;> simp
    | succ i =>
      have := ih i (by simpa using h)
      simp only [List.set_cons_succ, List.count_cons, List.getElem_cons_succ]
      omega

/-- the one-counter is the caller's business (`push` and `set` compute it differently) -/
theorem write_spec {b : BitVector} (hb : Inv b) {i : Nat} (hi : i < b.nBits) (v : Bool) :
    ∃ d, lineSetSymbol b.data (i / 512) (if v then 1 else 0) (i % 512) = .ok d ∧
      ∀ no, no = ((abs b).set i v).count true →
        Inv { data := d, nBits := b.nBits, nOnes := no } ∧
          abs { data := d, nBits := b.nBits, nOnes := no } = (abs b).set i v := by
  have hsz := hb.size
  have hk : 8 * (i / 512) + i % 512 / 64 < b.data.size := by
    have h2 : i % 512 / 64 < 8 := Nat.div_lt_of_lt_mul (Nat.mod_lt i (by decide))
    rw [hsz]
    exact Nat.lt_of_lt_of_le (Nat.add_lt_add_left h2 _) (Nat.mul_le_mul_left 8 (div_lt_lines hi))
  obtain ⟨d, hd, hds, hdw, hdb⟩ := lineSetSymbol_spec b.data (i / 512) (i % 512) v (Nat.mod_lt _ (by decide)) hk
  rw [Nat.div_add_mod] at hdb
  refine ⟨d, hd, fun no hno => ?_⟩
  have habs : abs { data := d, nBits := b.nBits, nOnes := no } = (abs b).set i v := by
    apply abs_eq_of
    · rw [List.length_set, abs_length]
    · intro x hx
      rw [List.getElem_set, abs_getElem]
      show bitD d x = _
      rw [hdb x]
      by_cases h : x = i
      · rw [if_pos h, if_pos h.symm]
      · rw [if_neg h, if_neg (fun e => h e.symm)]; rfl
  refine ⟨⟨hds.trans hsz, words_of_wordAt (hdw hb.wordAt_lt), fun x hx => ?_, ?_⟩, habs⟩
  · show bitD d x = false
    rw [hdb x, if_neg (fun (e : x = i) => Nat.not_lt_of_le hx (e ▸ hi))]
    exact hb.pad x hx
  · rw [habs]; exact hno

theorem push_spec (b : BitVector) (bit : Bool) (hb : Inv b) (hn : b.nBits + 1 < two64) :
    ∃ b', push b bit = .ok b' ∧ Inv b' ∧ abs b' = abs b ++ [bit] := by
  have hs := hb.size
  rw [lines_eq] at hs
  unfold push
  simp only [add64_ok hn, ok_bind]
  -- first a zero bit is appended: a fresh line when the last one is full
  generalize hd : (if (b.nBits % 512 == 0) = true then b.data ++ #[0, 0, 0, 0, 0, 0, 0, 0] else b.data) = d
  have hds : d.size = 8 * (b.nBits / 512 + 1) ∧ ∀ j, wordAt d j = wordAt b.data j := by
    subst hd
    split
    · rename_i h0
      rw [if_pos (beq_iff_eq.mp h0)] at hs
      rw [eight_zeros, Array.size_append, Array.size_replicate, hs]
      exact ⟨rfl, wordAt_append_zeros _ _⟩
    · rename_i h0
      rw [if_neg (fun e => h0 (beq_iff_eq.mpr e))] at hs
      exact ⟨hs, fun _ => rfl⟩
  obtain ⟨hb1, ha1⟩ := grow_spec hb 1 (by rw [lines_succ]; exact hds.1) hds.2
  cases bit
  · exact ⟨_, rfl, hb1, ha1⟩
  -- then bit `nBits` of the grown vector is set
  · have h8 : d.size ≥ 8 := by rw [hds.1, Nat.mul_succ]; exact Nat.le_add_left _ _
    have hl : d.size / 8 - 1 = b.nBits / 512 := by
      rw [hds.1, Nat.mul_div_cancel_left _ (by decide), Nat.add_sub_cancel]
    obtain ⟨d', hd', hw⟩ := write_spec hb1 (Nat.lt_succ_self b.nBits) true
    rw [if_pos rfl] at hd'
    simp only [if_true, if_pos h8, hl, hd', ok_bind]
    refine ⟨_, rfl, ?_⟩
    have e : (abs b ++ List.replicate 1 false).set b.nBits true = abs b ++ [true] := by
      rw [List.set_append_right _ _ (by rw [abs_length]; exact Nat.le_refl _), abs_length, Nat.sub_self]; rfl
    rw [ha1, e] at hw
    apply hw
    rw [List.count_append, ← hb.ones]; rfl

theorem extendWithZeros_spec (b : BitVector) (n : Nat) (hb : Inv b) (hn : b.nBits + n + 511 < two64) :
    ∃ b', extendWithZeros b n = .ok b' ∧ Inv b' ∧ abs b' = abs b ++ List.replicate n false := by
  have hs8 : b.data.size / 8 = (b.nBits + 511) / 512 := by
    rw [hb.size, Nat.mul_div_cancel_left _ (by decide)]
  have hge : (b.nBits + n + 511) / 512 ≥ b.data.size / 8 := by
    rw [hs8]; exact Nat.div_le_div_right (Nat.add_le_add_right (Nat.le_add_right _ _) _)
  unfold extendWithZeros
  simp only [add64_ok (Nat.lt_of_le_of_lt (Nat.le_add_right _ 511) hn), add64_ok hn, ok_bind]
  rw [if_pos hge]
  refine ⟨_, rfl, grow_spec hb n ?_ (wordAt_append_zeros _ _)⟩
  -- `8 M + 8 (N - M) = 8 N` for the line counts `M ≤ N`
  rw [Array.size_append, Array.size_replicate, hs8, hb.size, ← Nat.mul_add, Nat.add_sub_cancel' (hs8 ▸ hge)]

theorem getBitSlice_ok {d : Array Nat} {i : Nat} (h : i / 64 < d.size) :
    getBitSlice d i = .ok (bitD d i) := by
  unfold getBitSlice
  rw [shr6, idx_wordAt h, ok_bind, and63, shr_and_one_eq_testBit]
  rfl

theorem Inv.word_in_range {b : BitVector} (hb : Inv b) {i : Nat} (h : i < b.nBits) :
    i / 64 < b.data.size := by
  have := hb.size; omega

theorem getUnchecked_ok {b : BitVector} (hb : Inv b) {i : Nat} (h : i < b.nBits) :
    getUnchecked b i = .ok (bitAt b i) := getBitSlice_ok (hb.word_in_range h)

theorem set_spec (b : BitVector) (i : Nat) (bit : Bool) (hb : Inv b) (hi : i < b.nBits) :
    ∃ b', set b i bit = .ok b' ∧ Inv b' ∧ abs b' = (abs b).set i bit := by
  have hl : ¬ (i / 512 ≥ nLines b) := by
    rw [nLines, hb.size, Nat.mul_div_cancel_left _ (by decide)]
    exact Nat.not_le_of_lt (div_lt_lines hi)
  obtain ⟨d, hd, hw⟩ := write_spec hb hi bit
  have hcnt := count_set_true (abs b) i bit (by rw [abs_length]; exact hi)
  rw [abs_getElem, ← hb.ones] at hcnt
  unfold set
  simp only [guardM, hi, decide_true, if_true, ok_bind, getUnchecked_ok hb hi, shr9, and511, if_neg hl, hd]
  cases bit <;> cases hc : bitAt b i <;> rw [hc] at hcnt <;>
    simp only [Bool.not_false, Bool.not_true, Bool.false_eq_true,
      if_false, if_true, Bool.and_false, Bool.and_true, Nat.add_zero] at hcnt ⊢
  · exact ⟨_, rfl, hw _ hcnt.symm⟩
  · rw [sub_ok (hcnt ▸ Nat.le_add_left 1 _)]
    exact ⟨_, rfl, hw _ (Nat.sub_eq_of_eq_add hcnt.symm)⟩
  · exact ⟨_, rfl, hw _ hcnt.symm⟩
  · exact ⟨_, rfl, hw _ (Nat.add_right_cancel hcnt).symm⟩

theorem init_inv : Inv {} ∧ abs {} = [] := by
  refine ⟨⟨by decide, ?_, ?_, rfl⟩, rfl⟩
  · intro j h; exact absurd h (Nat.not_lt_zero _)
  · intro i _
    show (wordAt #[] (i / 64)).testBit (i % 64) = false
    rw [wordAt_of_ge (Nat.zero_le _), Nat.zero_testBit]

theorem extendBools_spec (bits : List Bool) : ∀ (b : BitVector), Inv b →
    b.nBits + bits.length < two64 →
    ∃ b', extendBools b bits = .ok b' ∧ Inv b' ∧ abs b' = abs b ++ bits := by
  induction bits with
  | nil => intro b hb _; exact ⟨b, rfl, hb, by simp⟩
  | cons v vs ih =>
    intro b hb hn
    rw [List.length_cons, Nat.add_comm vs.length 1, ← Nat.add_assoc] at hn
    obtain ⟨b1, h1, hb1, ha1⟩ := push_spec b v hb (Nat.lt_of_le_of_lt (Nat.le_add_right _ _) hn)
    have hn1 : b1.nBits = b.nBits + 1 := by rw [← abs_length b1, ha1, List.length_append, abs_length]; rfl
    obtain ⟨b2, h2, hb2, ha2⟩ := ih b1 hb1 (hn1 ▸ hn)
    refine ⟨b2, ?_, hb2, ?_⟩
    · unfold extendBools at h2 ⊢
      rw [List.foldlM_cons, h1, ok_bind, h2]
    · rw [ha2, ha1]; simp

theorem bitsOf_eq_map (len : Nat) : ∀ w, Spec.bitsOf w len =
    (List.range len).map (fun i => (w >>> i) &&& 1 == 1) := by
  induction len with
  | zero => intro w; rfl
  | succ n ih =>
    intro w
    rw [Spec.bitsOf, List.range_succ_eq_map, List.map_cons, List.map_map, ih]
    congr 1
    · simp [Nat.and_one_is_mod]
    · apply List.map_congr_left
      intro i _
      simp only [Function.comp, Nat.succ_eq_add_one, Nat.shiftRight_succ_inside]

theorem shr_eq_zero_of_lt {bits len : Nat} (h : bits < 2 ^ len) : bits >>> len = 0 := by
  rw [Nat.shiftRight_eq_div_pow]; exact Nat.div_eq_of_lt h

theorem shr_ne_zero_of_ge {bits len : Nat} (h : ¬ bits < 2 ^ len) : ¬ bits >>> len = 0 := by
  rw [Nat.shiftRight_eq_div_pow]
  intro h0
  have := Nat.div_add_mod bits (2 ^ len)
  have := Nat.mod_lt bits (Nat.two_pow_pos len)
  rw [h0] at *; omega

/-- the width check shared by `append_bits` and `set_bits` (`bits : u64`) -/
theorem width_guard {β} (bits len : Nat) (hu : bits < two64) (k : M β) :
    (do
      if len != 64 then
        if len ≥ 64 then throw Fault.assertDoc
        guardM (bits >>> len == 0) .assertDoc
      guardM (len ≤ 64) .assertDoc
      k) = if len ≤ 64 ∧ bits < 2 ^ len then k else .error .assertDoc := by
  by_cases h64 : len = 64
  · subst h64
    exact (if_pos (show 64 ≤ 64 ∧ bits < 2 ^ 64 from ⟨Nat.le_refl _, hu⟩)).symm
  · have hne : (len != 64) = true := bne_iff_ne.mpr h64
    by_cases h2 : len ≥ 64
    · rw [if_neg (show ¬ (len ≤ 64 ∧ bits < 2 ^ len) from fun h => h64 (Nat.le_antisymm h.1 h2))]
      simp only [hne, if_true, h2]
      rfl
    · have hl : len ≤ 64 := Nat.le_of_lt (Nat.lt_of_not_le h2)
      by_cases hb : bits < 2 ^ len
      · rw [if_pos (show len ≤ 64 ∧ bits < 2 ^ len from ⟨hl, hb⟩)]
        simp only [hne, if_true, h2, if_false, shr_eq_zero_of_lt hb, guardM, hl, decide_true, ok_bind,
          beq_self_eq_true]
      · rw [if_neg (show ¬ (len ≤ 64 ∧ bits < 2 ^ len) from fun h => hb h.2)]
        have : (bits >>> len == 0) = false := by simp [shr_ne_zero_of_ge hb]
        simp only [hne, if_true, h2, if_false, this, guardM, Bool.false_eq_true]
        rfl

theorem lt_two64_of_lt_pow {bits len : Nat} (hl : len ≤ 64) (hbits : bits < 2 ^ len) : bits < two64 :=
  Nat.lt_of_lt_of_le hbits (Nat.pow_le_pow_right (by decide) hl)

theorem appendBits_eq (b : BitVector) (bits len : Nat) (hl : len ≤ 64) (hbits : bits < 2 ^ len) :
    appendBits b bits len = extendBools b (Spec.bitsOf bits len) := by
  unfold appendBits
  rw [width_guard bits len (lt_two64_of_lt_pow hl hbits), if_pos ⟨hl, hbits⟩, bitsOf_eq_map,
    extendBools, List.foldlM_map]
  by_cases h0 : len = 0
  · subst h0; rfl
  · rw [if_neg (by simpa using h0)]

theorem splice_set {α} (l : List α) (A : List α) (k : Nat) (v : α) (hA : A.length = k)
    (hk : k < l.length) : (A ++ l.drop k).set k v = A ++ [v] ++ l.drop (k + 1) := by
  rw [List.set_append_right _ _ (Nat.le_of_eq hA), hA, Nat.sub_self, List.drop_eq_getElem_cons hk,
    List.set_cons_zero, List.append_assoc]
  rfl

theorem setRange_spec (b : BitVector) (i : Nat) (f : Nat → Bool) (hb : Inv b) :
    ∀ n, i + n ≤ b.nBits →
    ∃ b', List.foldlM (fun b k => set b (i + k) (f k)) b (List.range n) = .ok b' ∧ Inv b' ∧
      b'.nBits = b.nBits ∧
      abs b' = (abs b).take i ++ (List.range n).map f ++ (abs b).drop (i + n) := by
  intro n
  induction n with
  | zero => intro _; exact ⟨b, rfl, hb, rfl, by simp⟩
  | succ n ih =>
    intro hn
    have hi : i ≤ (abs b).length := by rw [abs_length]; exact Nat.le_trans (Nat.le_add_right i _) hn
    obtain ⟨b1, h1, hb1, hn1, ha1⟩ := ih (Nat.le_trans (Nat.le_succ _) hn)
    have hlen : ((abs b).take i ++ (List.range n).map f).length = i + n := by
      rw [List.length_append, List.length_take_of_le hi, List.length_map, List.length_range]
    obtain ⟨b2, h2, hb2, ha2⟩ := set_spec b1 (i + n) (f n) hb1 (hn1 ▸ hn)
    refine ⟨b2, ?_, hb2, ?_, ?_⟩
    · rw [List.range_succ, List.foldlM_append, h1, ok_bind, List.foldlM_cons, h2, ok_bind]; rfl
    · rw [← abs_length b2, ha2, List.length_set, abs_length, hn1]
    · rw [ha2, ha1, splice_set _ _ _ _ hlen (by rw [abs_length]; exact hn), List.range_succ,
        List.map_append]
      simp [Nat.add_assoc]

/-- one step of `Extend<usize>` in the model -/
def extendPos1 (b : BitVector) (pos : Nat) : M BitVector := do
  let b ← if pos ≥ b.nBits then do
              let p1 ← add64 pos 1
              extendWithZeros b (p1 - b.nBits)
          else pure b
  set b pos true

theorem extendPositions_eq (b : BitVector) (ps : List Nat) :
    extendPositions b ps = ps.foldlM extendPos1 b := rfl

/-- `p + 512` is `(p + 1) + 511`: the new length, rounded up to whole lines by `extend_with_zeros` -/
theorem extendPos1_spec (b : BitVector) (p : Nat) (hb : Inv b) (hp : p + 512 < two64) :
    ∃ b', extendPos1 b p = .ok b' ∧ Inv b' ∧ abs b' = specSetPos (abs b) p := by
  unfold extendPos1 specSetPos
  rw [abs_length]
  by_cases h : p ≥ b.nBits
  · have hpad : b.nBits + (p + 1 - b.nBits) = p + 1 := Nat.add_sub_cancel' (Nat.le_succ_of_le h)
    rw [if_pos h, if_pos h, add64_ok (Nat.lt_of_le_of_lt (Nat.add_le_add_left (by decide) p) hp), ok_bind]
    obtain ⟨b1, h1, hb1, ha1⟩ := extendWithZeros_spec b (p + 1 - b.nBits) hb (by rw [hpad]; exact hp)
    rw [h1, ok_bind]
    have hn1 : b1.nBits = p + 1 := by
      rw [← abs_length b1, ha1, List.length_append, List.length_replicate, abs_length, hpad]
    obtain ⟨b2, h2, hb2, ha2⟩ := set_spec b1 p true hb1 (hn1 ▸ Nat.lt_succ_self p)
    exact ⟨b2, h2, hb2, by rw [ha2, ha1]⟩
  · rw [if_neg h, if_neg h]
    exact set_spec b p true hb (Nat.lt_of_not_le h)

end Qwt.BV
