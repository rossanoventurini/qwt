import Qwt.Model.BitVector
import Qwt.Spec.Basic
import Qwt.Proofs.WordBits
import Qwt.Proofs.Basic

/-!
The bit vector as a list of booleans: the abstraction `abs`, the representation invariant `Inv`, and the
facts about single words and bits that the proofs about `BitVector` share.
-/
namespace Qwt.BV
open Qwt

/-- word `j` of the allocation, `0` outside of it -/
def wordAt (d : Array Nat) (j : Nat) : Nat := d[j]?.getD 0

/-- bit `i` of the flat word array -/
def bitD (d : Array Nat) (i : Nat) : Bool := (wordAt d (i / 64)).testBit (i % 64)

def bitAt (b : BitVector) (i : Nat) : Bool := bitD b.data i

/-- the abstraction: the first `nBits` bits of the words -/
def abs (b : BitVector) : List Bool := (List.range b.nBits).map (bitAt b)

/-- the representation invariant of `BitVector` / `BitVectorMut` -/
structure Inv (b : BitVector) : Prop where
  size : b.data.size = 8 * ((b.nBits + 511) / 512)
  words : ∀ (j : Nat) (h : j < b.data.size), b.data[j] < 2 ^ 64
  pad : ∀ i, b.nBits ≤ i → bitAt b i = false
  ones : b.nOnes = (abs b).count true

/-- one step of `Extend<usize>` on the plain sequence -/
def specSetPos (l : List Bool) (p : Nat) : List Bool :=
  (if p ≥ l.length then l ++ List.replicate (p + 1 - l.length) false else l).set p true

/-- `n` consecutive calls of `next`: the answers and the final iterator -/
def BitIter.nexts (b : BitVector) : Nat → BitIter → M (List (Option Bool) × BitIter)
  | 0, it => pure ([], it)
  | n + 1, it => do
    let r ← BitIter.next b it
    let rs ← BitIter.nexts b n r.2
    pure (r.1 :: rs.1, rs.2)

theorem wordAt_of_lt {d : Array Nat} {j : Nat} (h : j < d.size) : wordAt d j = d[j] := by
  simp [wordAt, h]

theorem wordAt_of_ge {d : Array Nat} {j : Nat} (h : d.size ≤ j) : wordAt d j = 0 := by
  simp [wordAt, Array.getElem?_eq_none h]

theorem Inv.wordAt_lt {b : BitVector} (hb : Inv b) (j : Nat) : wordAt b.data j < 2 ^ 64 := by
  by_cases h : j < b.data.size
  · rw [wordAt_of_lt h]; exact hb.words j h
  · rw [wordAt_of_ge (Nat.le_of_not_lt h)]; exact Nat.two_pow_pos 64

theorem words_of_wordAt {d : Array Nat} (h : ∀ j, wordAt d j < 2 ^ 64) :
    ∀ (j : Nat) (hj : j < d.size), d[j] < 2 ^ 64 := by
  intro j hj
  have := h j
  rwa [wordAt_of_lt hj] at this

@[simp] theorem abs_length (b : BitVector) : (abs b).length = b.nBits := by simp [abs]

theorem abs_getElem (b : BitVector) (i : Nat) (h : i < (abs b).length) : (abs b)[i] = bitAt b i := by
  simp [abs]

theorem abs_getElem? (b : BitVector) (i : Nat) :
    (abs b)[i]? = if i < b.nBits then some (bitAt b i) else none := by
  by_cases h : i < b.nBits
  · simp [abs, h]
  · simp [abs, h]

theorem abs_eq_of {b : BitVector} {l : List Bool} (hl : l.length = b.nBits)
    (h : ∀ i (hi : i < l.length), bitAt b i = l[i]) : abs b = l := by
  apply List.ext_getElem
  · simp [hl]
  · intro i h1 h2
    rw [abs_getElem]; exact h i h2

theorem wordAt_append_zeros (d : Array Nat) (k j : Nat) :
    wordAt (d ++ Array.replicate k 0) j = wordAt d j := by
  unfold wordAt
  rw [Array.getElem?_append]
  by_cases h : j < d.size
  · simp [h]
  · rw [if_neg h, Array.getElem?_replicate, Array.getElem?_eq_none (Nat.le_of_not_lt h)]
    split <;> rfl

theorem eight_zeros : (#[0, 0, 0, 0, 0, 0, 0, 0] : Array Nat) = Array.replicate 8 0 := by decide

theorem eq_of_testBit_lt {a c n : Nat} (ha : a < 2 ^ n) (hc : c < 2 ^ n)
    (h : ∀ k, k < n → a.testBit k = c.testBit k) : a = c := by
  apply Nat.eq_of_testBit_eq
  intro k
  by_cases hk : k < n
  · exact h k hk
  · rw [testBit_of_lt_two_pow ha (Nat.le_of_not_lt hk), testBit_of_lt_two_pow hc (Nat.le_of_not_lt hk)]

theorem bitD_mul_add (d : Array Nat) (j : Nat) {k : Nat} (hk : k < 64) :
    bitD d (64 * j + k) = (wordAt d j).testBit k := by
  unfold bitD
  rw [Nat.mul_add_div (by decide), Nat.mul_add_mod, Nat.div_eq_of_lt hk, Nat.mod_eq_of_lt hk, Nat.add_zero]

/-- clear bit `p`, then xor in `bit` at `p` (the body of `DataLine::set_symbol`) -/
def setBitW (w p : Nat) (bit : Bool) : Nat :=
  (w ^^^ (w &&& (1 <<< p))) ^^^ (((if bit then 1 else 0) &&& 1) <<< p)

theorem testBit_setBitW (w p : Nat) (bit : Bool) (q : Nat) :
    (setBitW w p bit).testBit q = if q = p then bit else w.testBit q := by
  unfold setBitW
  rw [Nat.testBit_xor, Nat.testBit_xor, Nat.testBit_and, Nat.one_shiftLeft, Nat.testBit_two_pow]
  cases bit
  · have : ((if false = true then 1 else 0) &&& 1) <<< p = 0 := by simp
    rw [this, Nat.zero_testBit]
    by_cases h : q = p
    · subst h; simp
    · have h' : ¬ p = q := fun e => h e.symm
      simp [h, h']
  · have : ((if true = true then 1 else 0) &&& 1) <<< p = 2 ^ p := by simp [Nat.one_shiftLeft]
    rw [this, Nat.testBit_two_pow]
    by_cases h : q = p
    · subst h; simp
    · have h' : ¬ p = q := fun e => h e.symm
      simp [h, h']

theorem setBitW_lt (w p : Nat) (bit : Bool) (hw : w < 2 ^ 64) (hp : p < 64) :
    setBitW w p bit < 2 ^ 64 := by
  apply Nat.lt_pow_two_of_testBit
  intro i hi
  rw [testBit_setBitW]
  rw [if_neg (fun (e : i = p) => Nat.not_lt_of_le hi (e ▸ hp))]
  exact testBit_of_lt_two_pow hw hi

theorem idx_wordAt {a : Array Nat} {i : Nat} (h : i < a.size) : idx a i = .ok (wordAt a i) := by
  rw [wordAt_of_lt h]; exact dif_pos h

theorem shr6 (i : Nat) : i >>> 6 = i / 64 := Nat.shiftRight_eq_div_pow i 6
theorem shr9 (i : Nat) : i >>> 9 = i / 512 := Nat.shiftRight_eq_div_pow i 9
theorem shr3 (i : Nat) : i >>> 3 = i / 8 := Nat.shiftRight_eq_div_pow i 3
theorem and63 (i : Nat) : i &&& 63 = i % 64 := Nat.and_two_pow_sub_one_eq_mod i 6
theorem and511 (i : Nat) : i &&& 511 = i % 512 := Nat.and_two_pow_sub_one_eq_mod i 9

theorem index_eq_iff (x i : Nat) : x = i ↔ x / 64 = i / 64 ∧ x % 64 = i % 64 := by
  constructor
  · intro h; rw [h]; exact ⟨rfl, rfl⟩
  · intro ⟨h1, h2⟩; rw [← Nat.div_add_mod x 64, ← Nat.div_add_mod i 64, h1, h2]

/-- bit `i` of line `line` is bit `i % 64` of word `8 * line + i / 64` -/
theorem line_index_eq_iff (x line i : Nat) :
    x = 512 * line + i ↔ x / 64 = 8 * line + i / 64 ∧ x % 64 = i % 64 := by
  have e : 512 * line + i = i + 64 * (8 * line) := by rw [Nat.add_comm, ← Nat.mul_assoc]
  rw [e, index_eq_iff x, Nat.add_mul_div_left _ _ (by decide), Nat.add_mul_mod_self_left, Nat.add_comm]

theorem wordAt_modify (d : Array Nat) (k j : Nat) (f : Nat → Nat) (hk : k < d.size) :
    wordAt (d.modify k f) j = if j = k then f (wordAt d j) else wordAt d j := by
  unfold wordAt
  rw [Array.getElem?_modify]
  by_cases hj : j = k
  · subst hj
    simp [hk]
  · rw [if_neg (fun e : k = j => hj e.symm), if_neg hj]

theorem lineSetSymbol_spec (data : Array Nat) (line i : Nat) (bit : Bool)
    (hi : i < 512) (hk : 8 * line + i / 64 < data.size) :
    ∃ d', lineSetSymbol data line (if bit then 1 else 0) i = .ok d' ∧ d'.size = data.size ∧
      ((∀ j, wordAt data j < 2 ^ 64) → ∀ j, wordAt d' j < 2 ^ 64) ∧
      ∀ x, bitD d' x = if x = 512 * line + i then bit else bitD data x := by
  obtain ⟨d', hd'⟩ : ∃ d', d' = (data.modify (8 * line + i / 64) (fun w => w ^^^ (w &&& (1 <<< (i % 64))))).modify
      (8 * line + i / 64) (fun w => w ^^^ (((if bit then 1 else 0) &&& 1) <<< (i % 64))) := ⟨_, rfl⟩
  have hw' : ∀ j, wordAt d' j =
      if j = 8 * line + i / 64 then setBitW (wordAt data j) (i % 64) bit else wordAt data j := by
    intro j
    rw [hd', wordAt_modify _ _ _ _ (by rw [Array.size_modify]; exact hk), wordAt_modify _ _ _ _ hk]
    split <;> rfl
  refine ⟨d', ?_, by rw [hd', Array.size_modify, Array.size_modify], fun hw j => ?_, fun x => ?_⟩
  · unfold lineSetSymbol
    simp only [shr6, guardM, hi, decide_true, if_true, Nat.not_le_of_lt hk, if_false]
    rw [hd']
    rfl
  · rw [hw']
    split
    · exact setBitW_lt _ _ _ (hw j) (Nat.mod_lt _ (by decide))
    · exact hw j
  · unfold bitD
    rw [hw']
    by_cases hx : x = 512 * line + i
    · obtain ⟨e1, e2⟩ := (line_index_eq_iff x line i).mp hx
      rw [if_pos hx, if_pos e1, testBit_setBitW, if_pos e2]
    · rw [if_neg hx]
      split
      · rename_i e1
        rw [testBit_setBitW, if_neg (fun e2 => hx ((line_index_eq_iff x line i).mpr ⟨e1, e2⟩))]
      · rfl

end Qwt.BV
