import Qwt.Proofs.CraftDefs
import Qwt.Proofs.Basic

/-! Digit arithmetic for C02: `|` and `<<` on `u32` as `+` and `*`, little-endian digit strings,
`revLex`, and the digit reversal that the fragment-reversal loop of `craft_wm_codes` computes. -/
namespace Qwt.Proofs.Craft
open Qwt Qwt.Huff Qwt.Props.C02

theorem or_eq_add_of_dvd {a x i : Nat} (ha : 2 ^ i ∣ a) (hx : x < 2 ^ i) : a ||| x = a + x := by
  obtain ⟨A, rfl⟩ := ha
  rw [Nat.mul_comm, ← Nat.shiftLeft_eq, Nat.shiftLeft_add_eq_or_of_lt hx]

theorem shl32_ok {x s b : Nat} (hx : x < 2 ^ b) (hb : 0 < b) (hs : s + b ≤ 32) :
    shl32 x s = .ok (x * 2 ^ s) := by
  have hlt : x * 2 ^ s < two32 :=
    calc x * 2 ^ s < 2 ^ b * 2 ^ s := Nat.mul_lt_mul_of_pos_right hx (Nat.pow_pos (by decide))
      _ = 2 ^ (b + s) := (Nat.pow_add ..).symm
      _ ≤ 2 ^ 32 := Nat.pow_le_pow_right (by decide) (by omega)
  rw [shl32, if_pos (by omega), Nat.shiftLeft_eq, Nat.mod_eq_of_lt hlt]
  rfl

theorem or_shl {x a l : Nat} (hx : x < 2 ^ l) : x ||| (a * 2 ^ l) = x + a * 2 ^ l := by
  rw [Nat.or_comm, or_eq_add_of_dvd (Nat.dvd_mul_left _ _) hx, Nat.add_comm]

/-- the first `k` base-`D` digits of `v`, least significant first -/
def leDigits (D k v : Nat) : List Nat := (List.range k).map (fun t => v / D ^ t % D)

@[simp] theorem leDigits_length (D k v : Nat) : (leDigits D k v).length = k := by
  simp [leDigits]

theorem leDigits_succ (D k v : Nat) :
    leDigits D (k + 1) v = (v % D) :: leDigits D k (v / D) := by
  simp only [leDigits, List.range_succ_eq_map, List.map_cons, List.map_map, Nat.pow_zero,
    Nat.div_one]
  congr 1
  apply List.map_congr_left
  intro t _
  simp [Function.comp, Nat.pow_succ, Nat.div_div_eq_div_mul, Nat.mul_comm]

theorem revLex_leDigits (D : Nat) (k v : Nat) :
    revLex D (leDigits D k v) = v % D ^ k := by
  induction k generalizing v with
  | zero => simp [leDigits, revLex, Nat.mod_one]
  | succ k ih =>
    rw [leDigits_succ, revLex, ih, Nat.pow_succ, Nat.mul_comm (D ^ k) D, Nat.mod_mul]

theorem revLex_append (D : Nat) (l : List Nat) (d : Nat) :
    revLex D (l ++ [d]) = revLex D l + D ^ l.length * d := by
  induction l with
  | nil => simp [revLex]
  | cons a as ih =>
    simp only [List.cons_append, revLex, ih, List.length_cons, Nat.pow_succ]
    rw [Nat.mul_add, Nat.add_assoc, Nat.mul_comm (D ^ as.length) D, Nat.mul_assoc]

theorem digits_length (D : Nat) (cd : PrefixCode) : (digits D cd).length = cd.len / bitsOf D := by
  simp [digits]

theorem digits_get (D : Nat) (cd : PrefixCode) (t : Nat) :
    (digits D cd)[t]? = if t < cd.len / bitsOf D then
      some (cd.content / D ^ (cd.len / bitsOf D - 1 - t) % D) else none := by
  by_cases ht : t < cd.len / bitsOf D <;> simp [digits, ht]

/-- one more digit of a prefix adds it at the top of the reversed value -/
theorem revLex_take_succ (D : Nat) (l : List Nat) (k d : Nat) (h : l[k]? = some d) :
    revLex D (l.take (k + 1)) = revLex D (l.take k) + D ^ k * d := by
  rw [List.take_add_one, h, Option.toList_some, revLex_append, List.length_take,
    Nat.min_eq_left (Nat.le_of_lt (List.getElem?_eq_some_iff.mp h).1)]

theorem take_leDigits {D n k : Nat} (v : Nat) (h : n ≤ k) :
    (leDigits D k v).take n = leDigits D n v := by
  simp [leDigits, ← List.map_take, List.take_range, Nat.min_eq_left h]

theorem revLex_take_leDigits {D n k : Nat} (v : Nat) (h : n ≤ k) :
    revLex D ((leDigits D k v).take n) = v % D ^ n := by
  rw [take_leDigits v h, revLex_leDigits]

theorem leDigits_eq_of_mod {D k : Nat} (v w : Nat) (h : v % D ^ k = w % D ^ k) :
    leDigits D k v = leDigits D k w := by
  induction k generalizing v w with
  | zero => simp [leDigits]
  | succ k ih =>
    rw [leDigits_succ, leDigits_succ]
    rw [Nat.pow_succ, Nat.mul_comm, Nat.mod_mul, Nat.mod_mul] at h
    by_cases hD : D = 0
    · subst hD; simp at h ⊢; simp [h]
    have hD' : 0 < D := Nat.pos_of_ne_zero hD
    have h1 : v % D = w % D := by
      have := congrArg (· % D) h
      simpa [Nat.add_mul_mod_self_left, Nat.mod_mod] using this
    have h2 : v / D % D ^ k = w / D % D ^ k := by
      rw [h1] at h
      have := Nat.add_left_cancel h
      exact Nat.eq_of_mul_eq_mul_left hD' this
    rw [h1, ih _ _ h2]

/-- the low `n` base-`D` digits of `v` in reverse order (digit 0 most significant) -/
def revDigits (D : Nat) : Nat → Nat → Nat
  | 0, _ => 0
  | n + 1, v => revDigits D n v * D + v / D ^ n % D

theorem revDigits_lt {D : Nat} (hD : 0 < D) (n v : Nat) : revDigits D n v < D ^ n := by
  induction n with
  | zero => exact Nat.lt_of_lt_of_le Nat.zero_lt_one (Nat.le_refl _)
  | succ n ih =>
    have hd : v / D ^ n % D < D := Nat.mod_lt _ hD
    have := Nat.mul_le_mul_right D ih
    rw [Nat.add_one_mul] at this
    rw [revDigits, Nat.pow_succ]
    omega

theorem revDigits_digit {D : Nat} (hD : 0 < D) {k t : Nat} (v : Nat) (ht : t < k) :
    revDigits D k v / D ^ (k - 1 - t) % D = v / D ^ t % D := by
  induction k with
  | zero => omega
  | succ k ih =>
    have hd : v / D ^ k % D < D := Nat.mod_lt _ hD
    rw [revDigits]
    by_cases htk : t = k
    · rw [htk, show k + 1 - 1 - k = 0 by omega, Nat.pow_zero, Nat.div_one,
        Nat.mul_add_mod_self_right, Nat.mod_eq_of_lt hd]
    · rw [show k + 1 - 1 - t = (k - 1 - t) + 1 by omega, Nat.pow_succ, Nat.mul_comm (D ^ _) D,
        ← Nat.div_div_eq_div_mul, Nat.mul_comm (revDigits D k v) D, Nat.mul_add_div hD,
        Nat.div_eq_of_lt hd, Nat.add_zero]
      exact ih (by omega)

theorem digits_revDigits {D : Nat} (hD : 0 < D) {len k : Nat} (hk : len / bitsOf D = k) (v : Nat) :
    digits D ⟨revDigits D k v, len⟩ = leDigits D k v := by
  unfold digits
  rw [hk]
  exact List.map_congr_left fun _ ht => revDigits_digit hD v (List.mem_range.mp ht)

end Qwt.Proofs.Craft
