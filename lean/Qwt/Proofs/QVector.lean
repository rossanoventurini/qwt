import Qwt.Model.QVector
import Qwt.Proofs.Basic
import Qwt.Proofs.Bits

/-!
Abstraction function and representation invariant of the quad-vector model `Qwt.QV.QVector`,
and what every model operation does in their terms (property C13, `Qwt.Props.C13`).
-/
namespace Qwt.QV
open Qwt

/-- word `k` of the flat word array (0 outside the allocation) -/
def wd (d : Array Nat) (k : Nat) : Nat := d[k]?.getD 0

/-- high bit of the symbol at (global) position `i`: bit `i % 128` of word
    `i % 256 / 128` of line `i / 256` -/
def hbit (d : Array Nat) (i : Nat) : Bool :=
  (wd d (4 * (i / 256) + i % 256 / 128)).testBit (i % 128)

/-- low bit of the symbol at position `i`: same bit of word `2 + i % 256 / 128` -/
def lbit (d : Array Nat) (i : Nat) : Bool :=
  (wd d (4 * (i / 256) + 2 + i % 256 / 128)).testBit (i % 128)

/-- the symbol stored at position `i`, read directly from the words -/
def symAt (d : Array Nat) (i : Nat) : Nat := 2 * (hbit d i).toNat + (lbit d i).toNat

/-- abstraction: the sequence of stored symbols -/
def abs (q : QVector) : List Nat := (List.range (q.position / 2)).map (symAt q.data)

/-- representation invariant (with `n = position / 2` the number of symbols):
    `position` is even, there are exactly `⌈n/256⌉` lines of four words, every word is a
    `u128`, and every position at or after `n` (padding) holds two zero bits. -/
structure Inv (q : QVector) : Prop where
  even : q.position % 2 = 0
  size : q.data.size = 4 * ((q.position / 2 + 255) / 256)
  word : ∀ k, wd q.data k < 2 ^ 128
  pad : ∀ i, q.position / 2 ≤ i → symAt q.data i = 0

theorem symAt_lt (d : Array Nat) (i : Nat) : symAt d i < 4 := by
  unfold symAt
  cases hbit d i <;> cases lbit d i <;> decide

theorem symAt_eq_zero {d : Array Nat} {i : Nat} :
    symAt d i = 0 ↔ hbit d i = false ∧ lbit d i = false := by
  unfold symAt
  cases hbit d i <;> cases lbit d i <;> decide

theorem wd_of_lt {d : Array Nat} {k : Nat} (h : k < d.size) : wd d k = d[k] := by
  simp [wd, h]

theorem wd_of_ge {d : Array Nat} {k : Nat} (h : d.size ≤ k) : wd d k = 0 := by
  simp [wd, h]

theorem wd_modify {d : Array Nat} {k : Nat} (f : Nat → Nat) (hk : k < d.size) (j : Nat) :
    wd (d.modify k f) j = if j = k then f (wd d j) else wd d j := by
  unfold wd
  rw [Array.getElem?_modify]
  by_cases h : k = j
  · subst h; simp [hk]
  · have h' : ¬ j = k := fun e => h e.symm
    simp [h, h']

theorem wd_append_zero (d : Array Nat) (j : Nat) : wd (d ++ #[0, 0, 0, 0]) j = wd d j := by
  unfold wd
  rw [Array.getElem?_append]
  by_cases h : j < d.size
  · simp [h]
  · have h1 : d[j]? = none := by simp; omega
    rw [if_neg h, h1]
    generalize j - d.size = m
    match m with
    | 0 | 1 | 2 | 3 => rfl
    | m + 4 => simp

theorem symAt_congr {d e : Array Nat} (h : ∀ k, wd d k = wd e k) (i : Nat) :
    symAt d i = symAt e i := by
  simp only [symAt, hbit, lbit, h]

theorem symAt_append_zero (d : Array Nat) (i : Nat) :
    symAt (d ++ #[0, 0, 0, 0]) i = symAt d i :=
  symAt_congr (wd_append_zero d) i

theorem symAt_line (d : Array Nat) (line : Nat) {p : Nat} (hp : p < 256) :
    symAt d (256 * line + p) =
      2 * ((wd d (4 * line + p / 128)).testBit (p % 128)).toNat +
        ((wd d (4 * line + 2 + p / 128)).testBit (p % 128)).toNat := by
  have e : (256 * line + p) / 256 = line ∧ (256 * line + p) % 256 = p ∧
      (256 * line + p) % 128 = p % 128 := by omega
  unfold symAt hbit lbit
  rw [e.1, e.2.1, e.2.2]

-- the masks and shifts of `src/qvector/mod.rs` with the power written out, as `rw` needs them
theorem and127 (s : Nat) : s &&& 127 = s % 128 := Nat.and_two_pow_sub_one_eq_mod s 7
theorem and255 (s : Nat) : s &&& 255 = s % 256 := Nat.and_two_pow_sub_one_eq_mod s 8
theorem shr1 (s : Nat) : s >>> 1 = s / 2 := Nat.shiftRight_eq_div_pow s 1
theorem shr7 (s : Nat) : s >>> 7 = s / 128 := Nat.shiftRight_eq_div_pow s 7
theorem shr8 (s : Nat) : s >>> 8 = s / 256 := Nat.shiftRight_eq_div_pow s 8

theorem setSymbol_eq (d : Array Nat) (line s p : Nat) :
    setSymbol d line s p =
      (d.modify (4 * line + p / 128) (fun w => w ||| ((s % 4 / 2) <<< (p % 128)))).modify
        (4 * line + 2 + p / 128) (fun w => w ||| ((s % 4 % 2) <<< (p % 128))) := by
  simp only [setSymbol, and3, and127, shr1, shr7, Nat.and_one_is_mod, Nat.add_comm (p / 128) 2,
    ← Nat.add_assoc]

theorem testBit_or_bit (w b sh j : Nat) (hb : b < 2) :
    (w ||| (b <<< sh)).testBit j = (w.testBit j || (decide (j = sh) && decide (b = 1))) := by
  have hb' : b = 0 ∨ b = 1 := by omega
  rcases hb' with rfl | rfl
  · simp
  · rw [Nat.testBit_or, Nat.one_shiftLeft, Nat.testBit_two_pow]
    simp [eq_comm]

theorem or_bit_lt {w b sh n : Nat} (hw : w < 2 ^ n) (hb : b < 2) (hsh : sh < n) :
    w ||| (b <<< sh) < 2 ^ n := by
  apply Nat.lt_pow_two_of_testBit
  intro j hj
  rw [testBit_or_bit _ _ _ _ hb, testBit_of_lt_two_pow hw hj, decide_eq_false (by omega)]
  rfl

theorem high_bit_lt (s : Nat) : s % 4 / 2 < 2 :=
  Nat.div_lt_of_lt_mul (Nat.mod_lt s (by decide))

theorem size_setSymbol (d : Array Nat) (line s p : Nat) : (setSymbol d line s p).size = d.size := by
  simp only [setSymbol_eq, Array.size_modify]

theorem wd_setSymbol {d : Array Nat} {line p : Nat} (s : Nat) (hp : p < 256)
    (hl : 4 * line + 3 < d.size) (j : Nat) :
    wd (setSymbol d line s p) j =
      if j = 4 * line + p / 128 then wd d j ||| ((s % 4 / 2) <<< (p % 128))
      else if j = 4 * line + 2 + p / 128 then wd d j ||| ((s % 4 % 2) <<< (p % 128))
      else wd d j := by
  rw [setSymbol_eq, wd_modify _ (by rw [Array.size_modify]; omega), wd_modify _ (by omega)]
  by_cases h1 : j = 4 * line + p / 128
  · rw [if_pos h1, if_neg (by omega), if_pos h1]
  · simp only [h1, if_false]

theorem word_setSymbol {d : Array Nat} {line p : Nat} (s : Nat) (hp : p < 256)
    (hl : 4 * line + 3 < d.size) (hw : ∀ k, wd d k < 2 ^ 128) (j : Nat) :
    wd (setSymbol d line s p) j < 2 ^ 128 := by
  have hsh : p % 128 < 128 := Nat.mod_lt p (by decide)
  rw [wd_setSymbol s hp hl]
  split
  · exact or_bit_lt (hw j) (high_bit_lt s) hsh
  · split
    · exact or_bit_lt (hw j) (Nat.mod_lt _ (by decide)) hsh
    · exact hw j

theorem slot_inj {i n : Nat}
    (hw : 4 * (i / 256) + i % 256 / 128 = 4 * (n / 256) + n % 256 / 128)
    (hb : i % 128 = n % 128) : i = n := by
  omega

theorem hbit_setSymbol {d : Array Nat} {n : Nat} (s : Nat) (hl : 4 * (n / 256) + 3 < d.size)
    (i : Nat) :
    hbit (setSymbol d (n / 256) s (n % 256)) i =
      (hbit d i || (decide (i = n) && decide (s % 4 / 2 = 1))) := by
  unfold hbit
  rw [wd_setSymbol s (Nat.mod_lt n (by decide)) hl, Nat.mod_mod_of_dvd n (by decide : 128 ∣ 256)]
  split
  · next e =>
    rw [testBit_or_bit _ _ _ _ (high_bit_lt s),
      decide_eq_decide.mpr ⟨slot_inj e, fun h => by rw [h]⟩]
  · next e =>
    -- a high-plane word (index 0 or 1 mod 4) is not the low-plane word written (2 or 3 mod 4)
    rw [if_neg (by omega), decide_eq_false (fun h => e (by rw [h])), Bool.false_and,
      Bool.or_false]

theorem lbit_setSymbol {d : Array Nat} {n : Nat} (s : Nat) (hl : 4 * (n / 256) + 3 < d.size)
    (i : Nat) :
    lbit (setSymbol d (n / 256) s (n % 256)) i =
      (lbit d i || (decide (i = n) && decide (s % 4 % 2 = 1))) := by
  unfold lbit
  rw [wd_setSymbol s (Nat.mod_lt n (by decide)) hl, Nat.mod_mod_of_dvd n (by decide : 128 ∣ 256),
    if_neg (by omega)]
  split
  · next e =>
    rw [Nat.add_right_comm, Nat.add_right_comm _ 2] at e
    rw [testBit_or_bit _ _ _ _ (Nat.mod_lt _ (by decide)),
      decide_eq_decide.mpr ⟨slot_inj (Nat.add_right_cancel e), fun h => by rw [h]⟩]
  · next e =>
    rw [decide_eq_false (fun h => e (by rw [h])), Bool.false_and, Bool.or_false]

theorem sym_bits : ∀ x, x < 4 →
    2 * (decide (x / 2 = 1)).toNat + (decide (x % 2 = 1)).toNat = x := by
  decide

/-- `push` writes position `n` as offset `n % 256` of line `n / 256`, hence the arguments of
    `setSymbol`; `hz` says that the slot is still clear. -/
theorem symAt_setSymbol {d : Array Nat} {n : Nat} (s : Nat) (hl : 4 * (n / 256) + 3 < d.size)
    (hz : symAt d n = 0) (i : Nat) :
    symAt (setSymbol d (n / 256) s (n % 256)) i = if i = n then s % 4 else symAt d i := by
  unfold symAt
  rw [hbit_setSymbol s hl, lbit_setSymbol s hl]
  split
  · next h =>
    obtain ⟨h1, h2⟩ := symAt_eq_zero.mp hz
    rw [h, h1, h2]
    simp only [decide_true, Bool.true_and, Bool.false_or]
    exact sym_bits (s % 4) (Nat.mod_lt s (by decide))
  · next h =>
    rw [decide_eq_false h]
    simp only [Bool.false_and, Bool.or_false]

/-- the builder word array after the conditional `push(DataLine::default())` -/
def grow (b : QVector) : Array Nat :=
  if b.position / 2 % 256 = 0 then b.data ++ #[0, 0, 0, 0] else b.data

theorem size_grow {b : QVector} (h : Inv b) : (grow b).size = 4 * (b.position / 2 / 256 + 1) := by
  have hs := h.size
  unfold grow
  split
  · rw [Array.size_append, hs]; simp; omega
  · rw [hs]; omega

theorem wd_grow (b : QVector) (j : Nat) : wd (grow b) j = wd b.data j := by
  unfold grow; split
  · exact wd_append_zero _ _
  · rfl

theorem push_eq (b : QVector) (s : Nat) (h : Inv b) (hn : b.position + 2 < two64) :
    push b s = .ok { data := setSymbol (grow b) (b.position / 2 / 256) s (b.position / 2 % 256),
                     position := b.position + 2 } := by
  unfold push
  simp only [and255, add64_ok hn, beq_iff_eq]
  rw [show (if b.position / 2 % 256 = 0 then b.data ++ #[0, 0, 0, 0] else b.data) = grow b from rfl,
    size_grow h, if_neg (by omega), Nat.mul_div_cancel_left _ (by decide), Nat.add_sub_cancel]
  rfl

theorem push_spec (b : QVector) (s : Nat) (h : Inv b) (hn : b.position + 2 < two64) :
    ∃ b', push b s = .ok b' ∧ Inv b' ∧ b'.position = b.position + 2 ∧
      abs b' = abs b ++ [s % 4] := by
  have hl : 4 * (b.position / 2 / 256) + 3 < (grow b).size := by rw [size_grow h]; omega
  have hz : symAt (grow b) (b.position / 2) = 0 := by
    rw [symAt_congr (wd_grow b)]; exact h.pad _ (Nat.le_refl _)
  have hsym := symAt_setSymbol s hl hz
  have hhalf : (b.position + 2) / 2 = b.position / 2 + 1 := Nat.add_div_right _ (by decide)
  refine ⟨_, push_eq b s h hn, ⟨?_, ?_, ?_, ?_⟩, rfl, ?_⟩
  · exact (Nat.add_mod_right _ _).trans h.even
  -- the lemmas speak of `setSymbol …`, the goals of `{ data := setSymbol …, .. }.data`: reduce first
  · dsimp only
    rw [size_setSymbol, size_grow h, hhalf]; omega
  · dsimp only
    exact word_setSymbol s (Nat.mod_lt _ (by decide)) hl (fun k => by rw [wd_grow]; exact h.word k)
  · intro i hi
    dsimp only at hi ⊢
    rw [hhalf] at hi
    rw [hsym, if_neg (by omega), symAt_congr (wd_grow b)]
    exact h.pad i (by omega)
  · dsimp only [abs]
    rw [hhalf, List.range_succ, List.map_append, List.map_singleton, hsym, if_pos rfl]
    -- (not `congr 1`: it first tries `rfl` on the two maps)
    refine congrArg (· ++ [s % 4]) (List.map_congr_left fun i hi => ?_)
    rw [hsym, if_neg (Nat.ne_of_lt (List.mem_range.mp hi)), symAt_congr (wd_grow b)]

theorem push_ok (b : QVector) (s : Nat) (h : Inv b) (hn : b.position + 2 < two64) :
    ∃ b', push b s = .ok b' ∧ Inv b' ∧ abs b' = abs b ++ [s % 4] := by
  obtain ⟨b', e, i, _, a⟩ := push_spec b s h hn
  exact ⟨b', e, i, a⟩

theorem asU8_mod4 (v : Int) : asU8 v % 4 = (v % 4).toNat := by
  rw [asU8, ← Int.emod_emod_of_dvd v (by decide : (4 : Int) ∣ 256),
    Int.toNat_emod (Int.emod_nonneg _ (by decide)) (by decide)]
  rfl

theorem extend_ok (b : QVector) (vals : List Int) (h : Inv b)
    (hn : b.position + 2 * vals.length < two64) :
    ∃ q, extend b vals = .ok q ∧ Inv q ∧ q.position = b.position + 2 * vals.length ∧
      abs q = abs b ++ vals.map (fun v => (v % 4).toNat) := by
  induction vals generalizing b with
  | nil => exact ⟨b, rfl, h, rfl, by simp⟩
  | cons v vs ih =>
    simp only [List.length_cons] at hn
    obtain ⟨b', e1, i1, p1, a1⟩ := push_spec b (asU8 v) h (by omega)
    obtain ⟨q, e2, i2, p2, a2⟩ := ih b' i1 (by omega)
    refine ⟨q, ?_, i2, ?_, ?_⟩
    · unfold extend at e2 ⊢
      rw [List.foldlM_cons, e1]; exact e2
    · rw [p2, p1, List.length_cons]; omega
    · rw [a2, a1, asU8_mod4]; simp

theorem empty_inv : Inv {} ∧ abs {} = [] := by
  refine ⟨⟨rfl, rfl, ?_, ?_⟩, rfl⟩
  · intro k; simp [wd]
  · intro i _; simp [symAt, hbit, lbit, wd]

theorem fromIter_ok (vals : List Int) (hn : 2 * vals.length < two64) :
    ∃ q, fromIter vals = .ok q ∧ Inv q ∧ abs q = vals.map (fun v => (v % 4).toNat) := by
  obtain ⟨q, e, i, _, a⟩ := extend_ok {} vals empty_inv.1 (by simpa using hn)
  exact ⟨q, e, i, by simpa [empty_inv.2] using a⟩

theorem length_abs (q : QVector) : (abs q).length = q.position / 2 := by simp [abs]

theorem line_lt {q : QVector} {line : Nat} (hl : line < nLines q) (h : Inv q) :
    4 * line + 3 < q.data.size := by
  have := h.size; unfold nLines at hl; omega

theorem len_ok (q : QVector) : len q = (abs q).length := by
  rw [length_abs, len, shr1]

theorem isEmpty_ok {q : QVector} (h : Inv q) : isEmpty q = true ↔ abs q = [] := by
  have := h.even
  rw [← List.length_eq_zero_iff, length_abs, isEmpty, beq_iff_eq]; omega

theorem two_bits (a b : Bool) : (a.toNat <<< 1) ||| b.toNat = 2 * a.toNat + b.toNat := by
  cases a <;> cases b <;> decide

theorem uidx_wd {d : Array Nat} {k : Nat} (h : k < d.size) : uidx d k = .ok (wd d k) := by
  rw [uidx_ok h, wd_of_lt h]

theorem lineGet_ok {d : Array Nat} {line p : Nat} (hp : p < 256) (hl : 4 * line + 3 < d.size) :
    lineGet d line p = .ok (symAt d (256 * line + p)) := by
  unfold lineGet
  simp only [shr7, and127]
  rw [uidx_wd (by omega), uidx_wd (by omega), ok_bind, ok_bind, shr_and_one, shr_and_one,
    two_bits, symAt_line d line hp, ← Nat.add_assoc, Nat.add_right_comm]
  rfl

theorem getElem_abs (q : QVector) (i : Nat) (hi : i < (abs q).length) :
    (abs q)[i] = symAt q.data i := by
  simp [abs]

theorem getUnchecked_ok (dbg : Bool) {q : QVector} (h : Inv q) {i : Nat}
    (hi : i < (abs q).length) : getUnchecked dbg q i = .ok (abs q)[i] := by
  rw [length_abs] at hi
  have hl : i / 256 < nLines q := by
    have := h.size; unfold nLines; omega
  unfold getUnchecked
  simp only [dbgAssert, hi, decide_true, Bool.not_true, Bool.and_false, shr8, and255]
  rw [lineGet_ok (Nat.mod_lt i (by decide)) (line_lt hl h), Nat.div_add_mod, getElem_abs,
    if_neg (Nat.not_le.mpr hl)]
  rfl

theorem get_ok (dbg : Bool) {q : QVector} (h : Inv q) (i : Nat) :
    get dbg q i = .ok (abs q)[i]? := by
  unfold get
  rw [shr1, ← length_abs]
  by_cases hi : i < (abs q).length
  · rw [if_neg (Nat.not_le.mpr hi), getUnchecked_ok dbg h hi, List.getElem?_eq_getElem hi]
    rfl
  · rw [if_pos (Nat.le_of_not_lt hi), List.getElem?_eq_none (Nat.le_of_not_lt hi)]
    rfl

theorem iter_next_ok (dbg : Bool) {q : QVector} (h : Inv q) (k : Nat) (hk : k + 1 < two64) :
    Iter.next dbg q { i := k } = .ok ((abs q)[k]?, { i := k + 1 }) := by
  unfold Iter.next
  rw [add64_ok hk]
  show (do let v ← get dbg q (k + 1 - 1); pure (v, ({ i := k + 1 } : Iter))) = _
  rw [Nat.add_sub_cancel, get_ok dbg h]
  rfl

theorem popc_and_mask (w k : Nat) :
    popc (w &&& (2 ^ k - 1)) = (List.range k).countP (fun j => w.testBit j) := by
  rw [popc_eq_countP k _ (Nat.and_lt_two_pow _ (by have := Nat.two_pow_pos k; omega))]
  apply List.countP_congr
  intro j hj
  have := List.mem_range.mp hj
  simp [this]

theorem testBit_mask128 (j : Nat) : mask128.testBit j = decide (j < 128) := by
  rw [mask128_eq, Nat.testBit_two_pow_sub_one]

theorem mask128_lt : mask128 < 2 ^ 128 := by decide

theorem testBit_ite_mask128 (c : Bool) {j : Nat} (hj : j < 128) :
    (if c then mask128 else 0).testBit j = c := by
  cases c <;> simp [testBit_mask128, hj]

/-- xor with all-ones where the symbol's bit is 0 complements that plane: the two planes
    then both read 1 exactly at the pairs that encode `symbol` -/
theorem norm_bits : ∀ (a b : Bool) (symbol : Nat), symbol < 4 →
    ((a ^^ (symbol >>> 1 == 0)) && (b ^^ (symbol &&& 1 == 0))) =
      decide (2 * a.toNat + b.toNat = symbol) := by
  decide

/-- one word of `normalize`: high-plane word `wh`, low-plane word `wl` -/
def normWord (wh wl symbol : Nat) : Nat :=
  (wh ^^^ (if symbol >>> 1 == 0 then mask128 else 0)) &&&
    (wl ^^^ (if symbol &&& 1 == 0 then mask128 else 0))

theorem testBit_normWord (wh wl : Nat) {symbol j : Nat} (hs : symbol < 4) (hj : j < 128) :
    (normWord wh wl symbol).testBit j =
      decide (2 * (wh.testBit j).toNat + (wl.testBit j).toNat = symbol) := by
  rw [normWord, Nat.testBit_and, Nat.testBit_xor, Nat.testBit_xor, testBit_ite_mask128 _ hj,
    testBit_ite_mask128 _ hj]
  exact norm_bits _ _ symbol hs

theorem normWord_lt (wh : Nat) {wl : Nat} (symbol : Nat) (h : wl < 2 ^ 128) :
    normWord wh wl symbol < 2 ^ 128 := by
  apply Nat.and_lt_two_pow
  apply Nat.xor_lt_two_pow h
  split
  · exact mask128_lt
  · exact Nat.two_pow_pos _

theorem normalize_eq {d : Array Nat} {line symbol : Nat} (hs : symbol < 4)
    (hl : 4 * line + 3 < d.size) :
    normalize d line symbol =
      .ok (normWord (wd d (4 * line)) (wd d (4 * line + 2)) symbol,
        normWord (wd d (4 * line + 1)) (wd d (4 * line + 3)) symbol) := by
  unfold normalize
  have : ¬ (symbol >>> 1 ≥ 2) := by rw [shr1]; omega
  rw [uidx_wd (by omega), uidx_wd (by omega), uidx_wd (by omega), uidx_wd (by omega)]
  simp only [this, if_false]
  rfl

theorem normWord_line (d : Array Nat) (line : Nat) {symbol j : Nat} (hs : symbol < 4)
    (hj : j < 128) :
    (normWord (wd d (4 * line)) (wd d (4 * line + 2)) symbol).testBit j =
        decide (symAt d (256 * line + j) = symbol) ∧
      (normWord (wd d (4 * line + 1)) (wd d (4 * line + 3)) symbol).testBit j =
        decide (symAt d (256 * line + 128 + j) = symbol) := by
  constructor
  · rw [testBit_normWord _ _ hs hj, symAt_line d line (Nat.lt_trans hj (by decide)),
      Nat.div_eq_of_lt hj, Nat.mod_eq_of_lt hj]
    rfl
  · rw [testBit_normWord _ _ hs hj, Nat.add_assoc, symAt_line d line (by omega),
      Nat.add_div_left j (by decide), Nat.add_mod_left, Nat.div_eq_of_lt hj, Nat.mod_eq_of_lt hj]

theorem rank_mask0 (i : Nat) :
    (if i >>> 7 == 0 then (1 <<< (i &&& 127)) - 1 else mask128) = 2 ^ (min i 128) - 1 := by
  rw [shr7, and127, Nat.shiftLeft_eq, Nat.one_mul]
  by_cases h : i < 128
  · rw [Nat.div_eq_of_lt h, Nat.mod_eq_of_lt h, Nat.min_eq_left (Nat.le_of_lt h)]
    rfl
  · have e : ¬ i / 128 = 0 := by omega
    rw [Nat.min_eq_right (Nat.le_of_not_lt h), ← mask128_eq]
    simp only [beq_iff_eq, e, if_false]

theorem rank_mask1 (i : Nat) (hi : i ≤ 256) :
    (if i >>> 7 == 1 then (1 <<< (i &&& 127)) - 1 else (if i >>> 7 == 2 then mask128 else 0))
      = 2 ^ (i - 128) - 1 := by
  rw [shr7, and127, Nat.shiftLeft_eq, Nat.one_mul]
  have h : i < 128 ∨ (i / 128 = 1 ∧ i % 128 = i - 128) ∨ i = 256 := by omega
  rcases h with h | ⟨e1, e2⟩ | rfl
  · rw [Nat.div_eq_of_lt h, Nat.sub_eq_zero_of_le (Nat.le_of_lt h)]
    rfl
  · rw [e1, e2]
    rfl
  · decide

theorem countP_range_split (P : Nat → Bool) (i k : Nat) :
    (List.range i).countP P =
      (List.range (min i k)).countP P + (List.range (i - k)).countP (fun j => P (k + j)) := by
  by_cases h : i ≤ k
  · rw [Nat.min_eq_left h, Nat.sub_eq_zero_of_le h]
    rfl
  · have h' := Nat.le_of_not_le h
    rw [Nat.min_eq_right h']
    conv => lhs; rw [← Nat.add_sub_of_le h', List.range_add, List.countP_append, List.countP_map]
    rfl

theorem lineRank_raw (dbg : Bool) {d : Array Nat} {line symbol i : Nat} (hs : symbol < 4)
    (hl : 4 * line + 3 < d.size) (hi : i ≤ 256) :
    lineRank dbg d line symbol i =
      .ok ((List.range i).countP (fun j => decide (symAt d (256 * line + j) = symbol))) := by
  unfold lineRank
  simp only [dbgAssert, Nat.le_of_lt_succ hs, hi, decide_true, Bool.not_true, Bool.and_false,
    normalize_eq hs hl, rank_mask0 i, rank_mask1 i hi]
  show Except.ok _ = Except.ok _
  -- word 0 counts the first `min i 128` positions of the line, word 1 the other `i - 128`
  rw [popc_and_mask, popc_and_mask, countP_range_split _ i 128]
  refine congrArg Except.ok (congr (congrArg HAdd.hAdd ?_) ?_)
  · refine List.countP_congr fun j hj => ?_
    rw [(normWord_line d line hs
      (Nat.lt_of_lt_of_le (List.mem_range.mp hj) (Nat.min_le_right i 128))).1]
  · refine List.countP_congr fun j hj => ?_
    have := List.mem_range.mp hj
    rw [(normWord_line d line hs (by omega)).2, Nat.add_assoc]

theorem symAt_eq_getD {q : QVector} (h : Inv q) (i : Nat) :
    symAt q.data i = (abs q).getD i 0 := by
  rw [List.getD_eq_getElem?_getD]
  by_cases hi : i < (abs q).length
  · rw [List.getElem?_eq_getElem hi, getElem_abs]
    rfl
  · rw [List.getElem?_eq_none (Nat.le_of_not_lt hi)]
    rw [length_abs] at hi
    exact h.pad i (Nat.le_of_not_lt hi)

theorem count_drop_take (l : List Nat) (a i x : Nat) (h : a + i ≤ l.length) :
    ((l.drop a).take i).count x = (List.range i).countP (fun j => l.getD (a + j) 0 == x) := by
  have e : (l.drop a).take i = (List.range i).map (fun j => l.getD (a + j) 0) := by
    apply List.ext_getElem
    · simp; omega
    · intro k h1 h2
      simp at h1
      simp [List.getD_eq_getElem?_getD, List.getElem?_eq_getElem (show a + k < l.length by omega)]
  rw [e, List.count, List.countP_map]
  rfl

theorem normalize_ok {q : QVector} (h : Inv q) {line symbol : Nat} (hs : symbol < 4)
    (hl : line < nLines q) :
    ∃ w0 w1, normalize q.data line symbol = .ok (w0, w1) ∧ w0 < 2 ^ 128 ∧ w1 < 2 ^ 128 ∧
      (∀ j, j < 128 → w0.testBit j = decide ((abs q).getD (256 * line + j) 0 = symbol)) ∧
      (∀ j, j < 128 → w1.testBit j = decide ((abs q).getD (256 * line + 128 + j) 0 = symbol)) := by
  refine ⟨_, _, normalize_eq hs (line_lt hl h), normWord_lt _ _ (h.word _),
    normWord_lt _ _ (h.word _), fun j hj => ?_, fun j hj => ?_⟩
  · rw [← symAt_eq_getD h, (normWord_line q.data line hs hj).1]
  · rw [← symAt_eq_getD h, (normWord_line q.data line hs hj).2]

theorem lineRank_padded (dbg : Bool) {q : QVector} (h : Inv q) {line symbol i : Nat}
    (hs : symbol < 4) (hl : line < nLines q) (hi : i ≤ 256) :
    lineRank dbg q.data line symbol i =
      .ok ((List.range i).countP (fun j => (abs q).getD (256 * line + j) 0 == symbol)) := by
  simpa only [symAt_eq_getD h, Bool.beq_eq_decide_eq] using
    lineRank_raw dbg hs (line_lt hl h) hi

theorem lineRank_ok (dbg : Bool) {q : QVector} (h : Inv q) {line symbol i : Nat}
    (hs : symbol < 4) (hl : line < nLines q) (hi : i ≤ min 256 (len q - 256 * line)) :
    lineRank dbg q.data line symbol i =
      .ok ((((abs q).drop (256 * line)).take i).count symbol) := by
  have hi' : i ≤ 256 ∧ 256 * line + i ≤ (abs q).length := by
    have := h.size
    rw [len_ok] at hi
    rw [nLines] at hl
    rw [length_abs] at hi ⊢
    omega
  rw [lineRank_padded dbg h hs hl hi'.1, count_drop_take _ _ _ _ hi'.2]

theorem two_bits_inj : ∀ {a b a' b' : Bool},
    2 * a.toNat + b.toNat = 2 * a'.toNat + b'.toNat → a = a' ∧ b = b' := by
  decide

theorem wd_eq_of_symAt {d e : Array Nat} (hd : ∀ k, wd d k < 2 ^ 128)
    (he : ∀ k, wd e k < 2 ^ 128) (h : ∀ i, symAt d i = symAt e i) (j : Nat) :
    wd d j = wd e j := by
  apply Nat.eq_of_testBit_eq
  intro k
  by_cases hk : k < 128
  · -- bit `k` of word `j` belongs to position `128 * (j % 2) + k` of line `j / 4`,
    -- in the high plane if `j % 4 < 2` and in the low plane otherwise
    have hp : 128 * (j % 2) + k < 256 := by omega
    have := h (256 * (j / 4) + (128 * (j % 2) + k))
    rw [symAt_line d _ hp, symAt_line e _ hp, Nat.mul_add_div (by decide), Nat.mul_add_mod,
      Nat.div_eq_of_lt hk, Nat.mod_eq_of_lt hk, Nat.add_zero] at this
    by_cases hj : j % 4 < 2
    · rw [show 4 * (j / 4) + j % 2 = j by omega] at this
      exact (two_bits_inj this).1
    · rw [show 4 * (j / 4) + 2 + j % 2 = j by omega] at this
      exact (two_bits_inj this).2
  · rw [testBit_of_lt_two_pow (hd j) (Nat.le_of_not_lt hk),
      testBit_of_lt_two_pow (he j) (Nat.le_of_not_lt hk)]

/-- under the C13 invariant the state of a quad vector is determined by the stored sequence
    (so the derived `PartialEq` is equality of the sequences) -/
theorem eq_iff_abs (s t : QVector) (hs : Inv s) (ht : Inv t) : s = t ↔ abs s = abs t := by
  constructor
  · intro h; rw [h]
  · intro h
    have hn : s.position / 2 = t.position / 2 := by rw [← length_abs s, ← length_abs t, h]
    have hp : s.position = t.position := by
      have := hs.even; have := ht.even; omega
    have hsym : ∀ i, symAt s.data i = symAt t.data i := by
      intro i
      rw [symAt_eq_getD hs, symAt_eq_getD ht, h]
    have hd : s.data = t.data := by
      apply Array.ext (by rw [hs.size, ht.size, hn])
      intro j h1 h2
      rw [← wd_of_lt h1, ← wd_of_lt h2]
      exact wd_eq_of_symAt hs.word ht.word hsym j
    cases s; cases t
    simp only at hp hd
    subst hp; subst hd; rfl

theorem abs_lt_four (q : QVector) : ∀ x ∈ abs q, x < 4 := by
  intro x hx
  unfold abs at hx
  obtain ⟨i, _, rfl⟩ := List.mem_map.mp hx
  exact symAt_lt _ _

end Qwt.QV
