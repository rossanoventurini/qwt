import Qwt.Proofs.BitVectorIter
import Qwt.Props.C07

/-!
Bridge between C08 and C07: the representation invariant `BV.Inv b` of the bit vector
(C08, `Qwt/Proofs/BitVectorBasic.lean`) yields both hypotheses of the `DArray` theorems about
the bit vector, for the sequence `BV.abs b`:

* `BV.HoldsD b (BV.abs b)` — the word-level predicate used by C07;
* `PosIterSpec b (BV.abs b)` — the position iterator (C08's `posIter_new_ok`).

Hence the `DArray` theorems hold for every reachable bit vector, with `select_in_word`
(C17) as the only remaining hypothesis.
-/
namespace Qwt.DAProofs
open Qwt Qwt.BV Qwt.DA

theorem holds_of_inv {b : BitVector} (hb : Inv b) : HoldsD b (abs b) where
  nBits := (abs_length b).symm
  size := by rw [abs_length]; exact hb.size
  lt := hb.words
  bit := by
    intro p hp
    have hi : p / 64 < b.data.size := by omega
    have hw : b.data[p / 64]! = wordAt b.data (p / 64) := by
      rw [getElem!_pos b.data _ hi, wordAt_of_lt hi]
    rw [hw, List.getD_eq_getElem?_getD, abs_getElem?]
    show bitAt b p = _
    by_cases h : p < b.nBits
    · rw [if_pos h]; rfl
    · rw [if_neg h, hb.pad p (by omega)]; rfl

theorem posIterSpec_of_inv {b : BitVector} (hb : Inv b) : PosIterSpec b (abs b) := by
  intro bit
  rw [posIter_new_ok bit b hb, abs_length]

end Qwt.DAProofs

namespace Qwt.Props.C07
open Qwt Qwt.BV Qwt.DA Qwt.DAProofs

theorem select1_ok_inv (s0 : Bool) {b : BitVector} (hb : Inv b) (hsel : SelectInWordSpec)
    (k : Nat) : DA.select1 (DA.new s0 b) k = .ok (Spec.select true k (abs b)) :=
  select1_ok s0 (holds_of_inv hb) hsel (posIterSpec_of_inv hb) k

theorem select0_ok_inv {b : BitVector} (hb : Inv b) (hsel : SelectInWordSpec) (k : Nat) :
    DA.select0 true (DA.new true b) k = .ok (Spec.select false k (abs b)) :=
  select0_ok (holds_of_inv hb) hsel (posIterSpec_of_inv hb) k

theorem select_ok_inv (bit s0 : Bool) {b : BitVector} (hb : Inv b) (hsel : SelectInWordSpec)
    (k : Nat) : DA.select bit (DA.new s0 b) (invNew bit b) k = .ok (Spec.select bit k (abs b)) :=
  select_ok bit s0 (holds_of_inv hb) hsel (posIterSpec_of_inv hb) k

theorem inventory_ok_inv (bit : Bool) {b : BitVector} (hb : Inv b) :
    (invNew bit b).nSets = (abs b).count bit ∧
      InvSpec (Spec.positions bit (abs b)) (invNew bit b) :=
  inventory_ok bit (posIterSpec_of_inv hb)

theorem countOnes_ok_inv (s0 : Bool) {b : BitVector} (hb : Inv b) :
    DA.countOnes (DA.new s0 b) = (abs b).count true :=
  countOnes_ok s0 (posIterSpec_of_inv hb)

theorem countZeros_ok_inv (s0 : Bool) {b : BitVector} (hb : Inv b) :
    DA.countZeros (DA.new s0 b) = .ok ((abs b).count false) :=
  countZeros_ok s0 (holds_of_inv hb) (posIterSpec_of_inv hb)

theorem len_ok_inv (s0 : Bool) {b : BitVector} (hb : Inv b) :
    DA.len (DA.new s0 b) = (abs b).length := len_ok s0 (holds_of_inv hb)

theorem get_ok_inv (s0 : Bool) {b : BitVector} (hb : Inv b) (i : Nat) :
    DA.get (DA.new s0 b) i = .ok (abs b)[i]? := get_ok s0 (holds_of_inv hb) i

end Qwt.Props.C07
