import Qwt.Spec.Basic
import Qwt.Extracted

/-! The byte table of `select_in_word` against the specification (kernel evaluation of the extracted
    definition, row by row). -/
namespace Qwt.Proofs.Word
open Qwt Qwt.Extracted

theorem table_list :
    kSelectInByte.toList = (List.range 8).flatMap fun k =>
      (List.range 256).map fun b => (Spec.select true k (Spec.bitsOf b 8)).getD 8 := by
  decide +kernel

theorem getElem?_flatMap_range {α} {L : Nat} :
    ∀ (n : Nat) (f : Nat → List α) (k b : Nat), (∀ k, (f k).length = L) → k < n → b < L →
      ((List.range n).flatMap f)[k * L + b]? = (f k)[b]?
  | n + 1, f, 0, b, hf, _, hb => by
    rw [List.range_succ_eq_map, List.flatMap_cons, Nat.zero_mul, Nat.zero_add,
      List.getElem?_append_left (by rw [hf]; exact hb)]
  | n + 1, f, k + 1, b, hf, hk, hb => by
    rw [List.range_succ_eq_map, List.flatMap_cons, List.flatMap_map,
      List.getElem?_append_right (by rw [hf, Nat.succ_mul]; omega), hf,
      show (k + 1) * L + b - L = k * L + b by rw [Nat.succ_mul]; omega]
    exact getElem?_flatMap_range n _ k b (fun k => hf _) (Nat.lt_of_succ_lt_succ hk) hb

theorem table_get (k b : Nat) (hk : k < 8) (hb : b < 256) :
    kSelectInByte[k * 256 + b]? = some ((Spec.select true k (Spec.bitsOf b 8)).getD 8) := by
  have h := getElem?_flatMap_range 8
    (fun k => (List.range 256).map fun b => (Spec.select true k (Spec.bitsOf b 8)).getD 8) k b
    (fun _ => by rw [List.length_map, List.length_range]) hk hb
  rwa [← table_list, List.getElem?_map, List.getElem?_range hb, Array.getElem?_toList,
    Option.map_some] at h

end Qwt.Proofs.Word
