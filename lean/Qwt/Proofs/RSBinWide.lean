import Qwt.Proofs.RSBinHolds
import Qwt.Proofs.RSBinHints

/-! `RSWide` (rs_wide.rs): the representation invariant established by `RSWide::new`, and the
rank / select queries proved against it. -/
namespace Qwt.RSW
open Qwt Qwt.BV Qwt.RSBin Qwt.Extracted

/-- counter `j` of superblock `q`: ones in its first `j` lines -/
def cq (s : List Bool) (q j : Nat) : Nat := R s (512 * (8 * q + j)) - R s (4096 * q)

/-- the 128-bit metadata word of superblock `q` -/
def mdOf (s : List Bool) (q : Nat) : Nat := packN 12 (R s (4096 * q)) (cq s q) 7

theorem cq_lt (s : List Bool) (q j : Nat) (hj : j ≤ 7) : cq s q j < 2 ^ 12 := by
  have := rank_add_le true s (4096 * q) (512 * j)
  unfold cq R
  rw [show 512 * (8 * q + j) = 4096 * q + 512 * j by omega]
  omega

theorem count_lt (s : List Bool) (hlen : s.length < 2 ^ 43) : s.count true < 2 ^ 43 :=
  Nat.lt_of_le_of_lt List.count_le_length hlen

theorem R_lt (s : List Bool) (hlen : s.length < 2 ^ 43) (i : Nat) : R s i < 2 ^ 43 := by
  have h1 := Spec.rank_mono true s (Nat.le_add_right i s.length)
  rw [Spec.rank_of_ge true s (Nat.le_add_left _ _)] at h1
  exact Nat.lt_of_le_of_lt h1 (count_lt s hlen)

theorem packN_cq_lt (s : List Bool) (hl : s.length < 2 ^ 43) (q r : Nat) (hr : r ≤ 7) :
    packN 12 (R s (4096 * q)) (cq s q) r < 2 ^ (44 + 12 * r) :=
  packN_lt 12 _ _ 44 (Nat.lt_trans (R_lt s hl _) (by decide)) r fun j _ hj => cq_lt s q j (Nat.le_trans hj hr)

theorem md_step (s : List Bool) (hl : s.length < 2 ^ 43) (q r : Nat) (hr : r < 7) :
    ((packN 12 (R s (4096 * q)) (cq s q) r <<< 12) % two128) ||| cq s q (r + 1)
      = packN 12 (R s (4096 * q)) (cq s q) (r + 1) :=
  packN_step 12 128 _ _ r (Nat.lt_of_lt_of_le (packN_cq_lt s hl q (r + 1) hr)
    (Nat.pow_le_pow_right (by decide) (by omega))) (cq_lt s q _ hr)

/-- `buildLine` with the triple and the pairs `(s1, hint1)`, `(s0, hint0)` taken apart -/
theorem buildLine_eq (data : Array Nat) (st : BuildSt) (b : Nat) :
    buildLine data st b =
      let totalRank := if b % 8 = 0 then st.totalRank + st.wordPop else st.totalRank
      let wp0 := if b % 8 = 0 then 0 else st.wordPop
      let curMd := if b % 8 = 0 then st.totalRank + st.wordPop
                   else ((st.curMd <<< 12) % two128) ||| st.wordPop
      let ones := lineOnes data b
      let wordPop := wp0 + ones
      let c1 := (totalRank + wordPop) / wideOnesPerHint > st.hint1
      let zeros := st.zeros + (512 - ones)
      let c0 := zeros / wideZerosPerHint > st.hint0
      { sm := if (b + 1) % 8 = 0 then st.sm.push curMd else st.sm,
        totalRank, curMd, wordPop, zeros,
        s0 := if c0 then st.s0.push (b / 8) else st.s0,
        s1 := if c1 then st.s1.push (b / 8) else st.s1,
        hint0 := if c0 then st.hint0 + 1 else st.hint0,
        hint1 := if c1 then st.hint1 + 1 else st.hint1 } := by
  unfold buildLine
  by_cases h8 : b % 8 = 0 <;>
    simp only [beq_iff_eq, h8, if_true, if_false, apply_ite Prod.fst, apply_ite Prod.snd]

/-- state of the construction loop after `n` lines; the counters of a superblock are opened by
its first line, so after `n ≥ 1` lines they are those of superblock `(n - 1) / 8` -/
structure BInv (s : List Bool) (n : Nat) (st : BuildSt) : Prop where
  totalRank : st.totalRank = R s (4096 * ((n - 1) / 8))
  wordPop : st.wordPop = R s (512 * n) - R s (4096 * ((n - 1) / 8))
  curMd : st.curMd = packN 12 (R s (4096 * ((n - 1) / 8))) (cq s ((n - 1) / 8)) ((n - 1) % 8)
  smSize : st.sm.size = n / 8
  sm : ∀ q, q < n / 8 → st.sm.getD q 0 = mdOf s q
  zeros : st.zeros = Z s (512 * n)
  h1 : HintInv (fun m => C true s (512 * m)) wideOnesPerHint n st.s1 st.hint1
  h0 : HintInv (fun m => C false s (512 * m)) wideZerosPerHint n st.s0 st.hint0

theorem BInv.init (s : List Bool) : BInv s 0 {} where
  totalRank := (Spec.rank_zero true s).symm
  wordPop := (Nat.sub_self _).symm
  curMd := (Spec.rank_zero true s).symm
  smSize := rfl
  sm := fun q hq => absurd hq (Nat.not_lt_zero q)
  zeros := by rw [Z, R, Nat.mul_zero, Spec.rank_zero]
  h1 := HintInv.init _ _ (C_zero _ _)
  h0 := HintInv.init _ _ (C_zero _ _)

theorem super_le (n : Nat) : 4096 * ((n - 1) / 8) ≤ 512 * n ∧ 4096 * (n / 8) ≤ 512 * n := by omega

theorem super_first {n : Nat} (h : n % 8 = 0) : 4096 * (n / 8) = 512 * n := by omega

theorem super_next {n : Nat} (h : n % 8 ≠ 0) :
    (n - 1) / 8 = n / 8 ∧ n % 8 = (n - 1) % 8 + 1 ∧ (n - 1) % 8 < 7 := by
  cases n with
  | zero => exact absurd rfl h
  | succ m =>
    have h7 : m % 8 ≠ 7 := fun e => h (succ_last e).2.1
    obtain ⟨ed, em⟩ := succ_mid h7
    exact ⟨ed.symm, em, Nat.lt_of_le_of_ne (Nat.le_of_lt_succ (Nat.mod_lt m (by decide))) h7⟩

/-- a last superblock of `L % 8 ≠ 0` lines lacks `8 - L % 8` lines, which lie beyond line `L` -/
theorem super_partial {L : Nat} (h : L % 8 ≠ 0) :
    (L - 1) % 8 + (8 - L % 8) = 7 ∧ (L + 7) / 8 = L / 8 + 1 ∧ ∀ j, (L - 1) % 8 < j → L ≤ 8 * (L / 8) + j :=
  ⟨by omega, by omega, fun j hj => by omega⟩

theorem BInv.counters_step {s : List Bool} (hlen : s.length < 2 ^ 43) {n ones : Nat} {st : BuildSt}
    (hv : BInv s n st) (hones : R s (512 * (n + 1)) = R s (512 * n) + ones) :
    (if n % 8 = 0 then st.totalRank + st.wordPop else st.totalRank) = R s (4096 * (n / 8)) ∧
    (if n % 8 = 0 then 0 else st.wordPop) + ones = R s (512 * (n + 1)) - R s (4096 * (n / 8)) ∧
    (if n % 8 = 0 then st.totalRank + st.wordPop else ((st.curMd <<< 12) % two128) ||| st.wordPop)
      = packN 12 (R s (4096 * (n / 8))) (cq s (n / 8)) (n % 8) := by
  have hsum : st.totalRank + st.wordPop = R s (512 * n) := by
    rw [hv.totalRank, hv.wordPop]
    exact Nat.add_sub_cancel' (Spec.rank_mono true s (super_le n).1)
  by_cases h8 : n % 8 = 0
  · have e := super_first h8
    simp only [h8, if_true, hsum, e, hones, Nat.zero_add, Nat.add_sub_cancel_left]
    exact ⟨trivial, trivial, rfl⟩
  · obtain ⟨eq, er, hr⟩ := super_next h8
    have hmono : R s (4096 * (n / 8)) ≤ R s (512 * n) := Spec.rank_mono true s (super_le n).2
    have hwp : st.wordPop = cq s (n / 8) ((n - 1) % 8 + 1) := by
      rw [hv.wordPop, eq, cq, ← er, Nat.div_add_mod]
    simp only [h8, if_false]
    refine ⟨by rw [hv.totalRank, eq], by rw [hv.wordPop, eq, hones]; omega, ?_⟩
    rw [hv.curMd, hwp, eq, er]
    exact md_step s hlen _ _ hr

theorem BInv.step {b : BitVector} {s : List Bool} (h : Holds b s) (hlen : s.length < 2 ^ 43)
    {n : Nat} {st : BuildSt} (hv : BInv s n st) (hn : n < nLines b) :
    BInv s (n + 1) (buildLine b.data st n) := by
  have hones := h.lineOnes_eq n hn
  obtain ⟨htr, hwp, hmd⟩ := hv.counters_step hlen hones
  have hz : st.zeros + (512 - lineOnes b.data n) = Z s (512 * (n + 1)) := by
    rw [hv.zeros, Nat.mul_succ]
    exact (Z_add s _ 512 _ (Nat.mul_succ 512 n ▸ hones)).symm
  have hc1 : R s (4096 * (n / 8)) + (R s (512 * (n + 1)) - R s (4096 * (n / 8))) = R s (512 * (n + 1)) :=
    Nat.add_sub_cancel' (Spec.rank_mono true s
      (Nat.le_trans (super_le n).2 (Nat.mul_le_mul_left 512 (Nat.le_succ n))))
  have hsz := hv.smSize
  simp only [buildLine_eq, htr, hwp, hmd, hz, hc1]
  have hh1 := hv.h1.step_C (c := R s (512 * (n + 1))) (by decide) (by decide) rfl
  have hh0 := hv.h0.step_C (c := Z s (512 * (n + 1))) (by decide) (by decide) rfl
  by_cases h7 : n % 8 = 7
  · -- line `n` closes superblock `n / 8`: its metadata word is pushed
    obtain ⟨ed, em, _⟩ := succ_last h7
    rw [if_pos em]
    refine ⟨rfl, rfl, rfl, by rw [ed, Array.size_push, hsz], fun q hq => ?_, rfl, hh1, hh0⟩
    rw [ed] at hq
    by_cases hql : q < n / 8
    · rw [getD_push_lt _ _ _ (hsz ▸ hql)]; exact hv.sm q hql
    · rw [show q = st.sm.size by omega, getD_push_eq, hsz, h7]; rfl
  · obtain ⟨ed, em⟩ := succ_mid h7
    rw [if_neg (by rw [em]; exact Nat.succ_ne_zero _)]
    exact ⟨rfl, rfl, rfl, ed ▸ hsz, ed ▸ hv.sm, rfl, hh1, hh0⟩

theorem BInv.fold {b : BitVector} {s : List Bool} (h : Holds b s) (hlen : s.length < 2 ^ 43) :
    ∀ n, n ≤ nLines b → BInv s n ((List.range n).foldl (buildLine b.data) {}) :=
  foldl_range_inv (BInv s) _ (BInv.init s) fun _ _ hn hv => hv.step h hlen hn

/-- what `RSWide::new` does after the loop: the metadata array with the last superblock filled up
and the sentinel entry -/
def finalSm (bv : BitVector) (st : BuildSt) : Array Nat :=
  let sm := if nLines bv % 8 != 0 then
      st.sm.push ((List.range (8 - nLines bv % 8)).foldl (fun md _ => ((md <<< 12) % two128) ||| st.wordPop) st.curMd)
    else st.sm
  sm.push (((st.totalRank + st.wordPop) <<< (128 - 44)) % two128)

def buildAll (bv : BitVector) : BuildSt := (List.range (nLines bv)).foldl (buildLine bv.data) {}

theorem new_eq (bv : BitVector) (h : ((buildAll bv).totalRank + (buildAll bv).wordPop) % two64 ≤ bv.nBits) :
    new bv = .ok
      { bv, superblockMetadata := finalSm bv (buildAll bv),
        selectSamples := #[(buildAll bv).s0.push ((finalSm bv (buildAll bv)).size - 1),
                           (buildAll bv).s1.push ((finalSm bv (buildAll bv)).size - 1)],
        nZeros := bv.nBits - ((buildAll bv).totalRank + (buildAll bv).wordPop) % two64 } := by
  have h1 : 1 ≤ (finalSm bv (buildAll bv)).size := by simp [finalSm]
  unfold new
  simp only [sub, bind, Except.bind, pure, Except.pure]
  unfold buildAll at h h1 ⊢
  unfold finalSm at h1 ⊢
  simp only [] at h1 ⊢
  rw [if_pos h1, if_pos h]

/-- the filler counters of a last, partial superblock repeat the running count -/
theorem filler_fold (s : List Bool) (hlen : s.length < 2 ^ 43) (q wp : Nat) :
    ∀ m r, r + m ≤ 7 → (∀ j, r < j → j ≤ r + m → cq s q j = wp) →
      (List.range m).foldl (fun md _ => ((md <<< 12) % two128) ||| wp) (packN 12 (R s (4096 * q)) (cq s q) r)
        = packN 12 (R s (4096 * q)) (cq s q) (r + m) := by
  intro m
  induction m with
  | zero => intro r _ _; rfl
  | succ m ih =>
    intro r hr hc
    rw [List.range_succ, List.foldl_append, ih r (by omega) fun j h1 h2 => hc j h1 (by omega),
      List.foldl_cons, List.foldl_nil, ← hc (r + m + 1) (by omega) (by omega)]
    exact md_step s hlen q (r + m) (by omega)

def per (bit : Bool) : Nat := if bit then wideOnesPerHint else wideZerosPerHint

theorem per_pos (bit : Bool) : 0 < per bit := by cases bit <;> decide

/-- number of superblocks, which is also the index of the sentinel entry -/
def nsb (b : BitVector) : Nat := (nLines b + 7) / 8

/-- `r` represents `s`: the packed metadata word of every superblock, the total in the sentinel
entry, and the hints the build loop recorded with the sentinel index pushed -/
structure Inv (r : RSWide) (s : List Bool) : Prop where
  holds : Holds r.bv s
  -- the crate's asserted limit; the proofs need the counts to fit the 44-bit field, i.e. `< 2 ^ 44`
  len : s.length < 2 ^ 43
  smSize : r.superblockMetadata.size = nsb r.bv + 1
  md : ∀ q, q < nsb r.bv → r.superblockMetadata.getD q 0 = mdOf s q
  last : r.superblockMetadata.getD (nsb r.bv) 0 = s.count true * 2 ^ 84
  nZeros : r.nZeros = s.count false
  ssize : r.selectSamples.size = 2
  samples : ∀ bit, ∃ smp hint,
    r.selectSamples.getD (if bit then 1 else 0) #[] = smp.push (nsb r.bv) ∧
    HintInv (fun m => C bit s (512 * m)) (per bit) (nLines r.bv) smp hint

theorem BInv.final {b : BitVector} {s : List Bool} (h : Holds b s) (hlen : s.length < 2 ^ 43) {st : BuildSt}
    (hv : BInv s (nLines b) st) :
    st.totalRank + st.wordPop = s.count true ∧ (finalSm b st).size = nsb b + 1 ∧
      (∀ q, q < nsb b → (finalSm b st).getD q 0 = mdOf s q) ∧
      (finalSm b st).getD (nsb b) 0 = s.count true * 2 ^ 84 := by
  have hll := h.len_le
  have htot : st.totalRank + st.wordPop = s.count true := by
    rw [hv.totalRank, hv.wordPop, ← R_of_ge s (512 * nLines b) hll]
    exact Nat.add_sub_cancel' (Spec.rank_mono true s (super_le _).1)
  have hlast : ((st.totalRank + st.wordPop) <<< (128 - 44)) % two128 = s.count true * 2 ^ 84 := by
    rw [htot, Nat.shiftLeft_eq]
    exact Nat.mod_eq_of_lt (Nat.lt_of_lt_of_le
      (Nat.mul_lt_mul_of_pos_right (count_lt s hlen) (by decide)) (by decide))
  have hsz := hv.smSize
  refine ⟨htot, ?_⟩
  unfold finalSm nsb
  simp only [hlast]
  by_cases h8 : nLines b % 8 = 0
  · rw [if_neg (by simpa using h8)]
    have e : (nLines b + 7) / 8 = st.sm.size := by omega
    rw [e]
    exact ⟨Array.size_push _, fun q hq => by rw [getD_push_lt _ _ _ hq]; exact hv.sm q (hsz ▸ hq),
      getD_push_eq _ _⟩
  · -- a partial last superblock: the missing line counts repeat the running count
    rw [if_pos (by simpa using h8)]
    obtain ⟨hq8, _, _⟩ := super_next h8
    obtain ⟨e7, e8, hbeyond⟩ := super_partial h8
    have hfill := filler_fold s hlen (nLines b / 8) st.wordPop (8 - nLines b % 8) ((nLines b - 1) % 8)
      (Nat.le_of_eq e7) (by
        intro j hj1 _
        have := hbeyond j hj1
        rw [hv.wordPop, hq8, cq, R_of_ge s (512 * (8 * (nLines b / 8) + j)) (by omega),
          R_of_ge s (512 * nLines b) hll])
    have hmd : packN 12 (R s (4096 * (nLines b / 8))) (cq s (nLines b / 8)) 7 = mdOf s st.sm.size := hsz ▸ rfl
    rw [hv.curMd, hq8, hfill, e7, hmd, e8, ← hsz, ← Array.size_push (mdOf s st.sm.size)]
    refine ⟨Array.size_push _, fun q hq => ?_, getD_push_eq _ _⟩
    rw [getD_push_lt _ _ _ hq]
    by_cases hql : q < st.sm.size
    · rw [getD_push_lt _ _ _ hql]; exact hv.sm q (hsz ▸ hql)
    · rw [show q = st.sm.size by rw [Array.size_push] at hq; omega, getD_push_eq]

theorem new_inv {b : BitVector} {s : List Bool} (h : Holds b s) (hlen : s.length < 2 ^ 43) :
    ∃ r, new b = .ok r ∧ r.bv = b ∧ Inv r s := by
  have hv : BInv s (nLines b) (buildAll b) := BInv.fold h hlen (nLines b) (Nat.le_refl _)
  obtain ⟨htot, hsz, hmd, hlst⟩ := hv.final h hlen
  have h64 : s.count true % two64 = s.count true :=
    Nat.mod_eq_of_lt (Nat.lt_trans (count_lt s hlen) (by decide))
  have hnz : b.nBits - s.count true = s.count false := by
    rw [h.nBits, ← count_true_add_false s, Nat.add_sub_cancel_left]
  have hsent : (finalSm b (buildAll b)).size - 1 = nsb b := by rw [hsz]; rfl
  refine ⟨_, new_eq b (by rw [htot, h64, h.nBits]; exact List.count_le_length), rfl, h, hlen, hsz, hmd, hlst,
    ?_, rfl, fun bit => ?_⟩
  · show b.nBits - (_ + _) % two64 = s.count false
    rw [htot, h64, hnz]
  · cases bit
    · exact ⟨_, _, congrArg (buildAll b).s0.push hsent, hv.h0⟩
    · exact ⟨_, _, congrArg (buildAll b).s1.push hsent, hv.h1⟩

theorem mdOf_fields (s : List Bool) (q : Nat) :
    mdOf s q / 2 ^ 84 = R s (4096 * q) ∧
    ∀ j, 1 ≤ j → j ≤ 7 → mdOf s q / 2 ^ ((7 - j) * 12) % 4096 = cq s q j :=
  packN_fields 12 _ (cq s q) 7 fun j _ hj => cq_lt s q j hj

theorem linesPerSuper_eq : linesPerSuper = 8 := by decide

theorem R_add_cq (s : List Bool) (j : Nat) : R s (4096 * (j / 8)) + cq s (j / 8) (j % 8) = R s (512 * j) := by
  rw [cq, Nat.div_add_mod]
  exact Nat.add_sub_cancel' (Spec.rank_mono true s (super_le j).2)

namespace Inv
variable {r : RSWide} {s : List Bool}

theorem len_le_nsb (hv : Inv r s) : s.length ≤ 4096 * nsb r.bv := by
  have := hv.holds.len_le
  unfold nsb; omega

theorem superblockRank_eq (hv : Inv r s) (q : Nat) (hq : q ≤ nsb r.bv) :
    superblockRank r q = .ok (R s (4096 * q)) := by
  have hlt : R s (4096 * q) < two64 := Nat.lt_trans (R_lt s hv.len _) (by decide)
  unfold superblockRank
  rw [idx_getD 0 (by rw [hv.smSize]; omega), ok_bind, Nat.shiftRight_eq_div_pow]
  by_cases hql : q < nsb r.bv
  · rw [hv.md q hql, (mdOf_fields s q).1, Nat.mod_eq_of_lt hlt]; rfl
  · -- the sentinel entry holds the total
    obtain rfl : q = nsb r.bv := by omega
    rw [hv.last, Nat.mul_div_cancel _ (by decide : 0 < 2 ^ (128 - 44)), ← R_of_ge s _ hv.len_le_nsb,
      Nat.mod_eq_of_lt hlt]; rfl

theorem subBlockRank_eq (hv : Inv r s) (sb : Nat) (hsb : sb < 8 * nsb r.bv) :
    subBlockRank r sb = .ok (R s (512 * sb)) := by
  simp only [subBlockRank, linesPerSuper_eq]
  rw [hv.superblockRank_eq (sb / 8) (by omega), ok_bind]
  by_cases h0 : sb % 8 = 0
  · rw [if_neg (by simpa using h0), super_first h0]; rfl
  · have hc : cq s (sb / 8) (sb % 8) < two64 :=
      Nat.lt_trans (cq_lt s _ _ (Nat.le_of_lt_succ (Nat.mod_lt sb (by decide)))) (by decide)
    rw [if_pos (by simpa using h0), idx_getD 0 (by rw [hv.smSize]; omega), ok_bind, hv.md _ (by omega),
      Nat.shiftRight_eq_div_pow, show (0xFFF : Nat) = 2 ^ 12 - 1 from rfl, Nat.and_two_pow_sub_one_eq_mod,
      (mdOf_fields s (sb / 8)).2 _ (Nat.pos_of_ne_zero h0) (Nat.le_of_lt_succ (Nat.mod_lt sb (by decide))),
      Nat.mod_eq_of_lt hc]
    exact congrArg Except.ok (R_add_cq s sb)

theorem rank1Unchecked_eq (hv : Inv r s) (i : Nat) (hi : i ≤ s.length) :
    rank1Unchecked r i = .ok (Spec.rank true i s) := by
  unfold rank1Unchecked
  cases i with
  | zero => rw [Spec.rank_zero]; rfl
  | succ i =>
    have hll := hv.holds.len_le
    have hline : i / 512 < nLines r.bv := by omega
    have hmono := Spec.rank_mono true s (Nat.le_trans (Nat.mul_div_le i 512) (Nat.le_succ i))
    have e : 512 * (i / 512) + (i % 512 + 1) = i + 1 := by rw [← Nat.add_assoc, Nat.div_add_mod]
    simp only [Nat.add_sub_cancel, Nat.succ_ne_zero, beq_iff_eq, if_false, Nat.shiftRight_eq_div_pow i 9,
      show i &&& 511 = i % 512 from Nat.and_two_pow_sub_one_eq_mod i 9,
      hv.subBlockRank_eq _ (show i / 512 < 8 * nsb r.bv by unfold nsb; omega), ok_bind, Nat.not_le.2 hline,
      hv.holds.lineRank1Checked_eq _ hline _ (Nat.mod_lt i (by decide : 0 < 512)), unwrap, e]
    exact congrArg Except.ok (Nat.add_sub_cancel' hmono)

theorem rank1_eq (hv : Inv r s) (i : Nat) :
    rank1 r i = .ok (if s ≠ [] ∧ i ≤ s.length then some (Spec.rank true i s) else none) :=
  hv.holds.rank1_checked hv.rank1Unchecked_eq i

theorem rank0_eq (hv : Inv r s) (i : Nat) :
    rank0 r i = .ok (if s ≠ [] ∧ i ≤ s.length then some (Spec.rank false i s) else none) :=
  rank0_of_rank1 (hv.rank1_eq i)

theorem nOnes_eq (hv : Inv r s) : nOnes r = .ok (s.count true) := by
  rw [nOnes, hv.nZeros, hv.holds.nBits, ← count_true_add_false s, sub_ok (Nat.le_add_left _ _), Nat.add_sub_cancel]

theorem get_eq (hv : Inv r s) (i : Nat) : get r i = .ok s[i]? := hv.holds.get_eq i

theorem getUnchecked_eq (hv : Inv r s) (i : Nat) (hi : i < s.length) :
    getUnchecked r i = .ok (s.getD i false) := hv.holds.getUnchecked_eq i hi

end Inv

theorem hintLoop_eq_scan (r : RSWide) (bit : Bool) (i hintEnd : Nat) :
    ∀ f hs, hintLoop r bit i hintEnd f hs = hintScan (readC (superblockRank r) (wideSuperblockSize * 64) bit) i hintEnd f hs := by
  intro f
  induction f with
  | zero => intro hs; rfl
  | succ f ih => intro hs; cases bit <;>
      simp only [hintLoop, hintScan, readC, ih, Bool.false_eq_true, ↓reduceIte, bind_assoc, pure_bind, bind_pure]

theorem subLoop_eq_scan (r : RSWide) (bit : Bool) (i position : Nat) :
    ∀ f j, subLoop r bit i position f j = unitScan (readC (subBlockRank r) (wideBlockSize * 64) bit) i position f j := by
  intro f
  induction f with
  | zero => intro j; rfl
  | succ f ih => intro j; cases bit <;>
      simp only [subLoop, unitScan, readC, ih, Bool.false_eq_true, ↓reduceIte, bind_assoc, pure_bind, bind_pure]

theorem selectSubblock_eq_scan (r : RSWide) (bit : Bool) (i : Nat) :
    selectSubblock r bit i = idx r.selectSamples (if bit then 1 else 0) >>= fun samples =>
      selectScan (readC (superblockRank r) (wideSuperblockSize * 64) bit) (readC (subBlockRank r) (wideBlockSize * 64) bit) samples (per bit) i := by
  cases bit <;>
    simp only [selectSubblock, selectScan, hintLoop_eq_scan, subLoop_eq_scan, readC, Bool.false_eq_true, ↓reduceIte,
      bind_assoc, pure_bind, bind_pure] <;> rfl

namespace Inv
variable {r : RSWide} {s : List Bool}

theorem selectSubblock_eq (hv : Inv r s) (bit : Bool) (k : Nat) (hk : k < s.count bit) :
    ∃ l, selectSubblock r bit k = .ok (l, C bit s (512 * l)) ∧ l < nLines r.bv ∧
      C bit s (512 * l) ≤ k ∧ k < C bit s (512 * (l + 1)) := by
  obtain ⟨smp, hint, hsmp, hh⟩ := hv.samples bit
  obtain ⟨l, hl, hlN⟩ := selectScan_C (U := 512) hh (per_pos bit) (show nLines r.bv ≤ 8 * nsb r.bv by unfold nsb; omega) (Nat.le_refl _)
    hv.superblockRank_eq hv.subBlockRank_eq hv.holds.len_le hk
  refine ⟨l, ?_, hlN⟩
  rw [selectSubblock_eq_scan, idx_getD #[] (by rw [hv.ssize]; cases bit <;> decide), hsmp, ok_bind]
  exact hl

theorem selectUnchecked_eq (hsel : SelSpec) (hv : Inv r s) (bit : Bool) (k : Nat) (hk : k < s.count bit) :
    ∃ pos, selectUnchecked r bit k = .ok pos ∧ Spec.select bit k s = some pos := by
  obtain ⟨l, hl, hlN, hl1, hl2⟩ := hv.selectSubblock_eq bit k hk
  obtain ⟨p, hp, _, hpb, hpc⟩ := hv.holds.lineSelect_eq hsel bit l hlN (k - C bit s (512 * l)) (by omega)
  rw [Nat.add_sub_cancel' hl1] at hpc
  refine ⟨l * 512 + p, ?_, select_of_C bit s k _ hk (Nat.mul_comm l 512 ▸ hpb) (Nat.mul_comm l 512 ▸ hpc)⟩
  rw [selectUnchecked, hl, ok_bind]
  simp only [Nat.not_le.2 hlN, if_false]
  rw [sub_ok hl1, ok_bind, hp]; rfl

theorem select1_eq (hsel : SelSpec) (hv : Inv r s) (k : Nat) : select1 r k = .ok (Spec.select true k s) := by
  unfold select1
  rw [hv.nOnes_eq, ok_bind]
  exact select_checked (hv.selectUnchecked_eq hsel true k)

theorem select0_eq (hsel : SelSpec) (hv : Inv r s) (k : Nat) : select0 r k = .ok (Spec.select false k s) := by
  unfold select0
  rw [hv.nZeros]
  exact select_checked (hv.selectUnchecked_eq hsel false k)

end Inv

end Qwt.RSW
