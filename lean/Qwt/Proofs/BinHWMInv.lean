import Qwt.Proofs.BinHWMNew
import Qwt.Proofs.BinHWMValid
import Qwt.Proofs.CraftDecode

/-!
Representation invariant of the Huffman-shaped binary wavelet tree (`compressed = true`), its
establishment by `BinWT.new` from a valid code table, and the query theorems from the
invariant.
-/

namespace Qwt.BinWM
open Qwt Qwt.BinWT Qwt.RSW
open Qwt.Huff (PrefixCode)
open Qwt.Props.C02 (WMValid)

/-- the representation invariant of a Huffman-shaped tree `t` for the non-empty sequence `S`
    and the code table `codes` -/
structure HWMb (c : Cfg) (S : List Nat) (codes : Array PrefixCode) (t : WT) : Prop where
  n_eq : t.n = S.length
  codes_eq : t.codesEncode = some codes
  sigma_eq : t.sigma = none
  dec : ∃ dec, t.codesDecode = some dec ∧ DecOK codes dec S
  hok : HOK (cbit codes) (clen codes) S
  levels : LevelsH codes S t
  mem_in : ∀ x ∈ S, x < codes.size ∧ clen codes x ≠ 0
  nonmem : ∀ x, x ∉ S → clen codes x = 0
  code_bound : ∀ x, clen codes x ≤ 32 ∧ codes[x]!.content < 2 ^ clen codes x
  bound : ∀ x ∈ S, x < 2 ^ c.W
  w64 : c.W ≤ 64
  len_lt : S.length < 2 ^ 43
  ne : S ≠ []

theorem lt_two64 {c : Cfg} (hW : c.W ≤ 64) {x : Nat} (hx : x < 2 ^ c.W) : x < two64 :=
  Nat.lt_of_lt_of_le hx (by
    have : two64 = 2 ^ 64 := by decide
    rw [this]; exact Nat.pow_le_pow_right (by decide) hW)

/-- the decode tables built for a valid code table find every coded symbol back -/
theorem decOK_of_valid {D : Nat} {codes : Array PrefixCode} {occ : List Nat}
    (hv : WMValid D codes occ) (S : List Nat) (hin : ∀ x ∈ S, clen codes x ≠ 0) :
    DecOK codes (Huff.decodeTables codes (codes.foldl (fun m x => max m x.len) 0)) S := by
  intro x hx
  have hlt : clen codes x <
      (Huff.decodeTables codes (codes.foldl (fun m x => max m x.len) 0)).size := by
    rw [Proofs.Craft.decodeTables_eq, Array.size_map, (Proofs.Craft.fill_spec codes _ codes.size).1]
    exact Nat.lt_succ_of_le (Proofs.Craft.len_le_maxLen codes x)
  refine ⟨_, Array.getElem?_eq_getElem hlt, ?_⟩
  rw [← getElem!_pos (Huff.decodeTables codes _) (clen codes x) hlt]
  exact (Proofs.Craft.decode_tables_find (Proofs.Craft.wmvalid_inj hv)
    (Proofs.Craft.len_le_maxLen codes) (clen codes x) codes[x]!.content x).mpr ⟨rfl, hin x hx⟩

theorem new_okH (c : Cfg) (hW : c.W ≤ 64) (hLaw : BinLevelLaw) (S : List Nat) (hne : S ≠ [])
    (hb : ∀ x ∈ S, x < 2 ^ c.W) (hS : S.length < 2 ^ 43) (lens : List (Nat × Nat))
    (codes : Array PrefixCode)
    (hcraft : Huff.craftWmCodes 2 lens (Utils.asUsize (Spec.maxNat S)) = .ok codes)
    (occ : List Nat) (hv : WMValid 2 codes occ) (hocc : ∀ s, s ∈ occ ↔ s ∈ S) :
    ∃ t, BinWT.new c true S.toArray lens = .ok t ∧ HWMb c S codes t := by
  have hok := hok_of_valid hv hocc
  have hin : ∀ x ∈ S, x < codes.size ∧ clen codes x ≠ 0 :=
    fun x hx => hv.occ_len x ((hocc x).mpr hx)
  have hin' : ∀ s ∈ S, s < codes.size ∧ s < two64 :=
    fun s hs => ⟨(hin s hs).1, lt_two64 hW (hb s hs)⟩
  obtain ⟨st, h1, -, -, h4, h5, h6, h7⟩ :=
    levels_loop c true (codes.foldl (fun m x => max m x.len) 0) codes
      (seqH (cbit codes) (clen codes) · S) (bitsH (cbit codes) (clen codes) · S)
      (fun k => (lvlH (cbit codes) (clen codes) k S).length) _
      (fun k _ => levelStepH_ok c hLaw _ k codes S hS hok.pos hin')
      (codes.foldl (fun m x => max m x.len) 0) (Nat.le_refl _)
  rw [seqH] at h1
  have hemp : S.toArray.isEmpty = false := by
    cases S with
    | nil => exact absurd rfl hne
    | cons _ _ => rfl
  have hfold : S.toArray.foldl max 0 = Spec.maxNat S := by simp [Spec.maxNat]
  have hdec := decOK_of_valid hv S (fun x hx => (hin x hx).2)
  refine ⟨{ n := S.length, nLevels := codes.foldl (fun m x => max m x.len) 0, sigma := none,
            codesEncode := some codes,
            codesDecode := some (Huff.decodeTables codes (codes.foldl (fun m x => max m x.len) 0)),
            bvs := st.bvs, lens := st.lens }, ?_, ?_⟩
  · unfold BinWT.new
    simp only [hemp, Bool.false_eq_true, if_false, hfold, if_true, hcraft, ok_bind, pure_bind',
      Option.getD_some, h1]
    rfl
  · exact ⟨rfl, rfl, rfl, ⟨_, rfl, hdec⟩, hok,
      ⟨h4, h5, h6, h7, fun x _ => Proofs.Craft.len_le_maxLen codes x⟩, hin,
      fun x hx => hv.nonocc_len x (fun h => hx ((hocc x).mp h)),
      fun x => ⟨(hv.len_le x).1, (hv.len_le x).2.2⟩, hb, hW, hS, hne⟩

section inv
variable {c : Cfg} {S : List Nat} {codes : Array PrefixCode} {t : WT}

theorem reprOfH (h : HWMb c S codes t) (sym : Nat) :
    reprOf true t sym =
      .ok (if sym ∈ S then some (codes[sym]!.content, clen codes sym) else none) := by
  unfold reprOf
  simp only [if_true, h.codes_eq]
  by_cases hs : sym ∈ S
  · obtain ⟨h1, h2⟩ := h.mem_in sym hs
    have h64 : ¬ sym ≥ two64 := Nat.not_le.mpr (lt_two64 h.w64 (h.bound sym hs))
    have hlen : (codes[sym]!.len == 0) = false := beq_false_of_ne h2
    rw [if_neg h64, if_pos hs, Array.getElem?_eq_getElem h1, ← getElem!_pos codes sym h1]
    simp only [hlen, Bool.false_eq_true, if_false]
    rfl
  · rw [if_neg hs]
    have h0 := h.nonmem sym hs
    by_cases h64 : sym ≥ two64
    · rw [if_pos h64]; rfl
    · rw [if_neg h64]
      by_cases h1 : sym < codes.size
      · have hlen : (codes[sym]!.len == 0) = true := beq_iff_eq.mpr h0
        rw [Array.getElem?_eq_getElem h1, ← getElem!_pos codes sym h1]
        simp only [hlen, if_true]
        rfl
      · rw [Array.getElem?_eq_none (Nat.le_of_not_lt h1)]
        rfl

theorem invH_getUnchecked (h : HWMb c S codes t) (i : Nat) (hi : i < S.length) :
    BinWT.getUnchecked c true t i = .ok S[i] := by
  obtain ⟨dec, hd1, hd2⟩ := h.dec
  have hmem : S[i] ∈ S := List.getElem_mem hi
  exact getUncheckedH_ok c h.hok h.levels hd1 hd2 S[i] i (List.getElem?_eq_getElem hi)
    (h.code_bound _).2 (h.code_bound _).1 (h.bound _ hmem)

theorem invH_get (h : HWMb c S codes t) (i : Nat) : BinWT.get c true t i = .ok S[i]? := by
  unfold BinWT.get
  rw [h.n_eq]
  by_cases hi : i < S.length
  · rw [if_neg (Nat.not_le.mpr hi), invH_getUnchecked h i hi, List.getElem?_eq_getElem hi]; rfl
  · rw [if_pos (Nat.le_of_not_lt hi), List.getElem?_eq_none (Nat.le_of_not_lt hi)]; rfl

theorem len_le_size (h : HWMb c S codes t) {sym : Nat} (hs : sym ∈ S) :
    clen codes sym ≤ t.bvs.size := by
  rw [h.levels.size_eq]; exact h.levels.len_le sym hs

theorem invH_rankWalk (h : HWMb c S codes t) {sym : Nat} (hs : sym ∈ S) (i : Nat)
    (hi : i ≤ S.length) :
    ∃ p, rankWalk t codes[sym]!.content (clen codes sym) (clen codes sym) 0 i 0 =
      .ok (p + Spec.rank sym i S, p) :=
  rankWalk_spec h.hok h.levels.repr (Or.inl hs) (fun _ hx => agR_full h.hok hs hx)
    (len_le_size h hs) (fun _ => rfl) i hi

theorem invH_rank (h : HWMb c S codes t) (sym i : Nat) :
    BinWT.rank c true t sym i =
      .ok (if sym ∈ S ∧ i ≤ S.length then some (Spec.rank sym i S) else none) :=
  rank_of_walk c h.n_eq (reprOfH h sym) (fun hs i hi => invH_rankWalk h hs i hi) i

theorem invH_rankUnchecked (h : HWMb c S codes t) (sym i : Nat) (hs : sym ∈ S)
    (hi : i ≤ S.length) : BinWT.rankUnchecked c true t sym i = .ok (Spec.rank sym i S) := by
  obtain ⟨p, hp⟩ := invH_rankWalk h hs i hi
  obtain ⟨h1, _⟩ := h.mem_in sym hs
  have hlk := (code_lookup h1 (lt_two64 h.w64 (h.bound sym hs))).2
  unfold BinWT.rankUnchecked
  simp only [if_true, h.codes_eq, unwrap, ok_bind, hlk, pure_bind']
  have e : codes[sym]!.len = clen codes sym := rfl
  simp only [e, hp, ok_bind]
  rw [sub_ok (h := Nat.le_add_right _ _), Nat.add_sub_cancel_left]

theorem invH_select (h : HWMb c S codes t) (sym k : Nat) :
    BinWT.select c true t sym k = .ok (if sym ∈ S then Spec.select sym k S else none) :=
  select_of_walk c (reprOfH h sym) (fun hs k =>
    select_spec h.hok h.levels.repr (Or.inl hs) (fun _ hx => agR_full h.hok hs hx)
      (len_le_size h hs) (fun _ => rfl) (Nat.pos_of_ne_zero (h.mem_in sym hs).2)
      (Nat.lt_trans h.len_lt (by decide)) k) k

end inv

end Qwt.BinWM
