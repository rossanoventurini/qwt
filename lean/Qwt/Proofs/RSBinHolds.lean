import Qwt.Model.RSBin
import Qwt.Proofs.RSBinWord

/-! `BV.Holds b s`: the word-level reading of "the bit vector `b` stores the bit list `s`", the
per-line rank / select of `DataLine` proved against it, and the bounds checks that `RSNarrow` and
`RSWide` alike put around their unchecked queries. -/
namespace Qwt.BV
open Qwt Qwt.RSBin Qwt.Proofs.Word

/-- `b` stores `s`: bit `i` of `s` is bit `i % 64` of word `i / 64`, lines are complete
(eight words per 512 bits), padding bits are zero, words are `u64`s. -/
structure Holds (b : BitVector) (s : List Bool) : Prop where
  nBits : b.nBits = s.length
  size : b.data.size = 8 * ((s.length + 511) / 512)
  lt : ∀ j, j < b.data.size → b.data.getD j 0 < 2 ^ 64
  bit : ∀ i, i < 64 * b.data.size → (b.data.getD (i / 64) 0).testBit (i % 64) = s.getD i false
  nOnes : b.nOnes = s.count true

/-- the hypothesis on `select_in_word` (property C17) -/
def SelSpec : Prop :=
  ∀ w k, w < 2 ^ 64 → k < 128 →
    Utils.selectInWord w k = .ok (match Spec.select true k (Spec.bitsOf w 64) with | some p => p | none => 64)

def wordOf (bit : Bool) (w : Nat) : Nat := if bit then w else not64 w

theorem wordOf_lt (bit : Bool) (w : Nat) (h : w < 2 ^ 64) : wordOf bit w < 2 ^ 64 := by
  cases bit
  · exact not64_lt w
  · exact h

namespace Holds
variable {b : BitVector} {s : List Bool}

theorem nLines_eq (h : Holds b s) : nLines b = (s.length + 511) / 512 := by
  unfold nLines; rw [h.size]; omega

theorem size_eq (h : Holds b s) : b.data.size = 8 * nLines b := by
  rw [h.nLines_eq, h.size]

theorem len_le (h : Holds b s) : s.length ≤ 512 * nLines b := by
  rw [h.nLines_eq]; omega

theorem bitw (h : Holds b s) (j t : Nat) (hj : j < b.data.size) (ht : t < 64) :
    b.data.getD j 0 / 2 ^ t % 2 = if s.getD (64 * j + t) false then 1 else 0 := by
  have := h.bit (64 * j + t) (by omega)
  rw [Nat.mul_add_div (by decide), Nat.div_eq_of_lt ht, Nat.add_zero, Nat.mul_add_mod, Nat.mod_eq_of_lt ht,
    Nat.testBit_eq_decide_div_mod_eq] at this
  rcases Nat.mod_two_eq_zero_or_one (b.data.getD j 0 / 2 ^ t) with e | e <;> rw [e] at this ⊢ <;> rw [← this] <;> rfl

theorem wordOf_bitw (h : Holds b s) (bit : Bool) (j t : Nat) (hj : j < b.data.size) (ht : t < 64) :
    wordOf bit (b.data.getD j 0) / 2 ^ t % 2 = if s.getD (64 * j + t) false = bit then 1 else 0 := by
  have hb := h.bitw j t hj ht
  cases bit
  · simp only [wordOf, Bool.false_eq_true, if_false]
    rw [not64_eq _ (h.lt j hj), compl_div_mod 64 _ t (h.lt j hj) ht, hb]
    cases s.getD (64 * j + t) false <;> simp
  · simp only [wordOf, if_true, hb]

theorem C_word (h : Holds b s) (bit : Bool) (j : Nat) (hj : j < b.data.size) (t : Nat) (ht : t ≤ 64) :
    C bit s (64 * j + t) = C bit s (64 * j) + popc (wordOf bit (b.data.getD j 0) % 2 ^ t) := by
  induction t with
  | zero => simp [Nat.mod_one, popc_zero]
  | succ t ih =>
    rw [← Nat.add_assoc, C_succ, ih (by omega), popc_mod_succ, h.wordOf_bitw bit j t hj (by omega)]
    omega

theorem C_word_full (h : Holds b s) (bit : Bool) (j : Nat) (hj : j < b.data.size) :
    C bit s (64 * (j + 1)) = C bit s (64 * j) + popc (wordOf bit (b.data.getD j 0)) := by
  have := h.C_word bit j hj 64 (Nat.le_refl _)
  rw [Nat.mod_eq_of_lt (wordOf_lt bit _ (h.lt j hj))] at this
  rw [← this]; congr 1

theorem R_word (h : Holds b s) (j : Nat) (hj : j < b.data.size) (t : Nat) (ht : t ≤ 64) :
    R s (64 * j + t) = R s (64 * j) + popc (b.data.getD j 0 % 2 ^ t) :=
  h.C_word true j hj t ht

theorem R_word_full (h : Holds b s) (j : Nat) (hj : j < b.data.size) :
    R s (64 * (j + 1)) = R s (64 * j) + popc (b.data.getD j 0) :=
  h.C_word_full true j hj

theorem lineOnes_prefix (h : Holds b s) (l : Nat) (hl : l < nLines b) :
    ∀ k, k ≤ 8 → R s (64 * (8 * l + k)) =
      R s (512 * l) + (List.range k).foldl (fun a w => a + popc (b.data.getD (8 * l + w) 0)) 0 := by
  intro k
  induction k with
  | zero => intro _; rw [Nat.add_zero, ← Nat.mul_assoc]; rfl
  | succ k ih =>
    intro hk
    have hj : 8 * l + k < b.data.size := by rw [h.size_eq]; omega
    rw [List.range_succ, List.foldl_append, List.foldl_cons, List.foldl_nil, ← Nat.add_assoc (R s _),
      ← ih (Nat.le_of_succ_le hk)]
    exact h.R_word_full _ hj

theorem lineOnes_eq (h : Holds b s) (l : Nat) (hl : l < nLines b) :
    R s (512 * (l + 1)) = R s (512 * l) + lineOnes b.data l := by
  rw [lineOnes, ← h.lineOnes_prefix l hl 8 (Nat.le_refl _), show 64 * (8 * l + 8) = 512 * (l + 1) by omega]

theorem lineOnes_le (h : Holds b s) (l : Nat) (hl : l < nLines b) : lineOnes b.data l ≤ 512 := by
  have h1 := h.lineOnes_eq l hl
  have h2 := rank_add_le true s (512 * l) 512
  rw [show 512 * (l + 1) = 512 * l + 512 by omega] at h1
  unfold R at *
  omega

theorem lineRank1_go_neg (data : Array Nat) (l f w : Nat) (left : Int) (rank : Nat) (hneg : left < 0) :
    lineRank1.go data l f w left rank = .ok rank := by
  cases f with
  | zero => rfl
  | succ f => simp [lineRank1.go, hneg]; rfl

theorem lineRank1_go (h : Holds b s) (l : Nat) (hl : l < nLines b) :
    ∀ (f w n rank : Nat), w + f = 8 → n ≤ 64 * f →
      lineRank1.go b.data l f w (Int.ofNat n) rank =
        .ok (rank + (R s (64 * (8 * l + w) + n) - R s (64 * (8 * l + w)))) := by
  intro f
  induction f with
  | zero =>
    intro w n rank _ hn
    have : n = 0 := by omega
    subst this
    simp [lineRank1.go]; rfl
  | succ f ih =>
    intro w n rank hw hn
    have hs := h.size_eq
    have hj : 8 * l + w < b.data.size := by omega
    have hnn : ¬ (Int.ofNat n < 0) := by simp
    simp only [lineRank1.go, hnn, if_false]
    rw [uidx_getD 0 hj]
    simp only [bind, Except.bind]
    by_cases hbig : n > 63
    · have h63 : (Int.ofNat n > 63) := by simp; omega
      simp only [h63, if_true]
      rw [and_mask64 _ (h.lt _ hj)]
      have e : Int.ofNat n - 64 = Int.ofNat (n - 64) := by simp; omega
      rw [e, ih (w + 1) (n - 64) _ (by omega) (by omega)]
      have hf := h.R_word_full (8 * l + w) hj
      have e2 : 64 * (8 * l + (w + 1)) + (n - 64) = 64 * (8 * l + w) + n := by omega
      have e3 : 64 * (8 * l + (w + 1)) = 64 * (8 * l + w + 1) := by omega
      rw [e2, e3]
      have := Spec.rank_mono true s (i := 64 * (8 * l + w + 1)) (j := 64 * (8 * l + w) + n) (by omega)
      unfold R at *
      congr 1; omega
    · have h63 : ¬ (Int.ofNat n > 63) := by simp; omega
      simp only [h63, if_false]
      have e : (Int.ofNat n).toNat = n := by simp
      rw [e, popc_and_mask, lineRank1_go_neg _ _ _ _ _ _ (by simp; omega)]
      have := h.R_word (8 * l + w) hj n (by omega)
      congr 1; omega

theorem lineRank1_eq (h : Holds b s) (l : Nat) (hl : l < nLines b) (i : Nat) (hi : i ≤ 512) :
    lineRank1 b.data l i = .ok (R s (512 * l + i) - R s (512 * l)) := by
  rw [lineRank1, h.lineRank1_go l hl 8 0 i 0 rfl hi, Nat.zero_add, Nat.add_zero, ← Nat.mul_assoc]

theorem lineRank1Checked_eq (h : Holds b s) (l : Nat) (hl : l < nLines b) (i : Nat) (hi : i ≤ 512) :
    lineRank1Checked b.data l i = .ok (some (R s (512 * l + i) - R s (512 * l))) := by
  unfold lineRank1Checked
  have : ¬ i > 512 := by omega
  simp only [this, if_false, h.lineRank1_eq l hl i hi]; rfl

theorem word_select (hsel : SelSpec) (h : Holds b s) (bit : Bool) (j : Nat) (hj : j < b.data.size) (k : Nat)
    (h1 : C bit s (64 * j) ≤ k) (h2 : k < C bit s (64 * (j + 1))) :
    ∃ p, Utils.selectInWord (wordOf bit (b.data.getD j 0)) (k - C bit s (64 * j)) = .ok p ∧ p < 64 ∧
      s.getD (64 * j + p) false = bit ∧ C bit s (64 * j + p) = k := by
  have hW := wordOf_lt bit _ (h.lt j hj)
  have hfull := h.C_word_full bit j hj
  have hple := popc_le_of_lt _ 64 hW
  obtain ⟨p, hp, hp64, hpbit, hppop⟩ := select_bitsOf _ (k - C bit s (64 * j)) hW (by omega)
  refine ⟨p, by rw [hsel _ _ hW (by omega), hp], hp64, ?_, ?_⟩
  · have := h.wordOf_bitw bit j p hj hp64
    rw [hpbit] at this
    by_cases hb : s.getD (64 * j + p) false = bit
    · exact hb
    · rw [if_neg hb] at this; exact absurd this (by decide)
  · rw [h.C_word bit j hj p (Nat.le_of_lt hp64), hppop]; omega

theorem lineSelect_go (hsel : SelSpec) (h : Holds b s) (bit : Bool) (l : Nat) (hl : l < nLines b) (i : Nat)
    (hi : C bit s (512 * l) + i < C bit s (512 * (l + 1))) :
    ∀ (f w : Nat), w + f = 8 → C bit s (64 * (8 * l + w)) ≤ C bit s (512 * l) + i →
      ∃ p, lineSelect.go bit b.data l i f w (64 * w) (C bit s (64 * (8 * l + w)) - C bit s (512 * l)) = .ok p ∧
        p < 512 ∧ s.getD (512 * l + p) false = bit ∧ C bit s (512 * l + p) = C bit s (512 * l) + i := by
  intro f
  induction f with
  | zero =>
    intro w hw hle
    rw [show 64 * (8 * l + w) = 512 * (l + 1) by omega] at hle
    exact absurd hi (Nat.not_lt_of_ge hle)
  | succ f ih =>
    intro w hw hle
    have hj : 8 * l + w < b.data.size := by rw [h.size_eq]; omega
    have hmono := C_mono bit s (i := 512 * l) (j := 64 * (8 * l + w)) (by omega)
    have hfull := h.C_word_full bit (8 * l + w) hj
    have hsub : i - (C bit s (64 * (8 * l + w)) - C bit s (512 * l))
        = C bit s (512 * l) + i - C bit s (64 * (8 * l + w)) := by omega
    rw [lineSelect.go, uidx_getD 0 hj, ok_bind, sub_ok (by omega), ok_bind, hsub,
      show (if bit = true then b.data.getD (8 * l + w) 0 else not64 (b.data.getD (8 * l + w) 0))
        = wordOf bit (b.data.getD (8 * l + w) 0) from rfl]
    by_cases hk : popc (wordOf bit (b.data.getD (8 * l + w) 0))
        > C bit s (512 * l) + i - C bit s (64 * (8 * l + w))
    · obtain ⟨p, hp, hp64, hpb, hpc⟩ := h.word_select hsel bit _ hj _ hle (by omega)
      rw [if_pos hk, hp]
      rw [show 64 * (8 * l + w) + p = 512 * l + (64 * w + p) by omega] at hpb hpc
      exact ⟨64 * w + p, rfl, by omega, hpb, hpc⟩
    · rw [if_neg hk]
      have := ih (w + 1) (by omega) (by rw [← Nat.add_assoc, hfull]; omega)
      rwa [← Nat.add_assoc, hfull, Nat.mul_succ, Nat.sub_add_comm hmono] at this

theorem lineSelect_eq (hsel : SelSpec) (h : Holds b s) (bit : Bool) (l : Nat) (hl : l < nLines b) (i : Nat)
    (hi : C bit s (512 * l) + i < C bit s (512 * (l + 1))) :
    ∃ p, lineSelect bit b.data l i = .ok p ∧
      p < 512 ∧ s.getD (512 * l + p) false = bit ∧ C bit s (512 * l + p) = C bit s (512 * l) + i := by
  have e : 64 * (8 * l + 0) = 512 * l := by rw [Nat.add_zero, ← Nat.mul_assoc]
  have := h.lineSelect_go hsel bit l hl i hi 8 0 rfl (e ▸ Nat.le_add_right _ i)
  rwa [e, Nat.sub_self] at this

theorem getUnchecked_eq (h : Holds b s) (i : Nat) (hi : i < s.length) :
    BV.getUnchecked b i = .ok (s.getD i false) := by
  have hj : i / 64 < b.data.size := by have := h.len_le; rw [h.size_eq]; omega
  have hbit := h.bitw (i / 64) (i % 64) hj (Nat.mod_lt _ (by decide))
  rw [Nat.div_add_mod] at hbit
  rw [getUnchecked, getBitSlice, Nat.shiftRight_eq_div_pow i 6, Nat.and_two_pow_sub_one_eq_mod i 6, idx_getD 0 hj,
    ok_bind, Nat.shiftRight_eq_div_pow, Nat.and_one_is_mod, hbit]
  cases s.getD i false <;> rfl

theorem get_eq (h : Holds b s) (i : Nat) : BV.get b i = .ok s[i]? := by
  unfold BV.get
  rw [h.nBits]
  by_cases hi : i ≥ s.length
  · rw [if_pos hi, List.getElem?_eq_none hi]; rfl
  · rw [if_neg hi, h.getUnchecked_eq i (Nat.lt_of_not_le hi), ok_bind, getD_of_lt (Nat.lt_of_not_le hi),
      List.getElem?_eq_getElem (Nat.lt_of_not_le hi)]
    rfl

end Holds

/-! The checked queries of both structures are the same wrappers around the unchecked ones `f`, `x`:
`rank1` a bounds check, `rank0` the trait's default on top of `rank1`, `select1` / `select0` a check
against the total. -/

theorem Holds.rank1_checked {b : BitVector} {s : List Bool} (h : Holds b s) {f : Nat → M Nat}
    (hf : ∀ i, i ≤ s.length → f i = .ok (Spec.rank true i s)) (i : Nat) :
    (if isEmpty b || i > b.nBits then pure none else do let v ← f i; pure (some v) : M (Option Nat))
      = .ok (if s ≠ [] ∧ i ≤ s.length then some (Spec.rank true i s) else none) := by
  unfold isEmpty
  rw [h.nBits]
  by_cases hc : s ≠ [] ∧ i ≤ s.length
  · have : (s.length == 0 || decide (i > s.length)) = false := by simp [hc.1, Nat.not_lt.2 hc.2]
    rw [if_pos hc, this, if_neg Bool.false_ne_true, hf i hc.2]; rfl
  · have : (s.length == 0 || decide (i > s.length)) = true := by
      simp only [Bool.or_eq_true, beq_iff_eq, List.length_eq_zero_iff, decide_eq_true_eq]
      exact Decidable.or_iff_not_imp_left.2 fun hs => Nat.lt_of_not_le fun hi => hc ⟨hs, hi⟩
    rw [if_neg hc, this, if_pos rfl]; rfl

theorem sub_rank (s : List Bool) (i : Nat) (h : i ≤ s.length) :
    sub i (Spec.rank true i s) = .ok (Spec.rank false i s) := by
  rw [sub_ok (Spec.rank_le true s i)]
  exact congrArg Except.ok (Nat.sub_eq_of_eq_add (rank_false_add s i h).symm)

theorem rank0_of_rank1 {x : M (Option Nat)} {s : List Bool} {i : Nat}
    (hx : x = .ok (if s ≠ [] ∧ i ≤ s.length then some (Spec.rank true i s) else none)) :
    (do match ← x with
        | some k => let v ← sub i k; pure (some v)
        | none => pure none : M (Option Nat))
      = .ok (if s ≠ [] ∧ i ≤ s.length then some (Spec.rank false i s) else none) := by
  rw [hx]
  by_cases hc : s ≠ [] ∧ i ≤ s.length
  · rw [if_pos hc, if_pos hc]
    show (sub i _ >>= _) = _
    rw [sub_rank s i hc.2]; rfl
  · rw [if_neg hc, if_neg hc]; rfl

theorem select_checked {bit : Bool} {s : List Bool} {k : Nat} {x : M Nat}
    (hx : k < s.count bit → ∃ pos, x = .ok pos ∧ Spec.select bit k s = some pos) :
    (if k ≥ s.count bit then pure none else do let v ← x; pure (some v) : M (Option Nat))
      = .ok (Spec.select bit k s) := by
  by_cases hk : k ≥ s.count bit
  · rw [if_pos hk, select_none bit s k hk]; rfl
  · obtain ⟨pos, h1, h2⟩ := hx (Nat.lt_of_not_le hk)
    rw [if_neg hk, h1, h2]; rfl

end Qwt.BV
