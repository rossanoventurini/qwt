import Qwt.Proofs.QWTSim
import Qwt.Proofs.HQWMPlain
import Qwt.Proofs.WordBits

/-!
The constructor `QWTree.new` and the invariant `WM c S t` it establishes (every level represents
the digit list of its partition of `S`), and from the invariant alone the answers of `get`,
`rank`, `select`, `rank_prefetch` (the walks of `QWTSim.lean` composed with the correctness of
the list-level walks, `WaveletMatrix.lean` / `HQWMPlain.lean`).

Premises about `PrefetchSupport::new`, which the constructor calls once per level when
`c.pfs = true`:
* `QWTree.PfsTotal c` asks for totality on every vector.  `PFS.new` faults on ill-formed vectors, so
  it holds exactly when `c.pfs = false`; the statements of `Props/C01.lean` carry it.
* `Props.C02.PfsTotalH c` asks for totality on the vectors a push loop produces.  It holds for
  every `c` (`HQWM.pfsTotalH`, in `PfsTree.lean`), and the constructor lemmas below use it.
  (`PfsTree.lean` has a third form, `PfsTotal'`, on vectors satisfying the quad-vector invariant.)
-/

namespace Qwt.QWTree

/-- what the construction needs from the sampling structure when `pfs = true` -/
def PfsTotal (c : Cfg) : Prop :=
  c.pfs = true → ∀ qv, ∃ p, PFS.new qv Extracted.pfsSampleShift = .ok p

end Qwt.QWTree

namespace Qwt.Props.C02
open Qwt

/-- what the construction needs from the sampling structure when `pfs = true`: totality of
    `PrefetchSupport::new` on every quad vector produced by pushes of two-bit symbols -/
def PfsTotalH (c : Cfg) : Prop :=
  c.pfs = true → ∀ digits : List Nat, (∀ d ∈ digits, d < 4) → ∀ qvb,
    digits.foldlM (fun (b : QV.QVectorBuilder) d => QV.push b d) {} = .ok qvb →
    ∃ p, PFS.new (QV.build qvb) Extracted.pfsSampleShift = .ok p

theorem pfsTotalH_of_false {c : Cfg} (h : c.pfs = false) : PfsTotalH c := by
  intro h'; rw [h] at h'; cases h'

end Qwt.Props.C02

namespace Qwt.QWTree
open Qwt Qwt.WM Qwt.Spec Qwt.RSQ
open Qwt.Props.C02 (PfsTotalH)

theorem pfsTotalH_of_total {c : Cfg} (h : PfsTotal c) : PfsTotalH c :=
  fun hp _ _ qvb _ => h hp (QV.build qvb)

/-- a level law can only hold for the two block sizes the vector accepts: run it on `[]` -/
theorem levelLaw_B {dbg : Bool} {B : Nat} (h : LevelLaw dbg B) : B = 256 ∨ B = 512 := by
  obtain ⟨r, hr, _⟩ := h [] (by simp) (by simp [Extracted.rsqLenLimitLog])
  by_cases h1 : B = 256
  · exact Or.inl h1
  · by_cases h2 : B = 512
    · exact Or.inr h2
    · exfalso
      simp [mkLevel, RSQ.fromQV, RSQ.rsNew, QV.build, QV.len, guardM, Extracted.rsqLenLimitLog, h1, h2,
        bind, Except.bind, pure, Except.pure] at hr

/-- the value of `RSQVector::default()` -/
def dfltRSQ : RSQVector :=
  ⟨⟨#[], 0⟩, ⟨#[0, 0, 0, 0], #[#[0, 0], #[0, 0], #[0, 0], #[0, 0]]⟩, #[0, 0, 0, 0, 0]⟩

theorem default_ok {B : Nat} (h : B = 256 ∨ B = 512) : RSQ.default B = .ok dfltRSQ := by
  rcases h with rfl | rfl <;> decide +kernel

/-- `stable_partition_of_4` is the list-level stable partition by the digit at `sh` -/
theorem stablePartitionOf4_ok (W sh : Nat) (l : List Nat) (h : sh < W) :
    Utils.stablePartitionOf4 W l.toArray sh = .ok (stablePart (dig sh) 4 l).toArray :=
  Proofs.Word.stablePartitionOf4_eq W sh l.toArray h

theorem withCapacity_ok (n : Nat) (h : n < 2 ^ 43) : QV.withCapacity n = .ok {} := by
  have h1 : 2 * n < two64 := by simp only [two64]; omega
  have h2 : 2 * n + (Extracted.qvNBitsWord - 1) < two64 := by
    simp only [two64, Extracted.qvNBitsWord]; omega
  simp [QV.withCapacity, mul64, add64, h1, h2, bind, Except.bind, pure, Except.pure]

theorem mkLevel_inv {dbg : Bool} {B : Nat} {digits : List Nat} {r : RSQVector}
    (h : RSQ.mkLevel dbg B digits = .ok r) :
    ∃ qvb, digits.foldlM (fun (b : QV.QVectorBuilder) d => QV.push b d) {} = .ok qvb ∧
      RSQ.fromQV dbg B (QV.build qvb) = .ok r := by
  unfold RSQ.mkLevel at h
  cases hq : digits.foldlM (fun (b : QV.QVectorBuilder) d => QV.push b d) {} with
  | error e => rw [hq] at h; cases h
  | ok qvb => rw [hq] at h; exact ⟨qvb, rfl, h⟩

/-- `p` is what `PrefetchSupport::new` builds for the digit list `ds`: it is built from the vector
    the push loop over `ds` produces -/
def PfsOf (ds : List Nat) (p : PFS.PrefetchSupport) : Prop :=
  ∃ qvb, ds.foldlM (fun (b : QV.QVectorBuilder) d => QV.push b d) {} = .ok qvb ∧
    PFS.new (QV.build qvb) Extracted.pfsSampleShift = .ok p

/-- the sampling structures of `f` levels starting at `level` are those of the wavelet-matrix
    levels of `s` (same indexing as `RepLevels`) -/
def PfsBuilt (pfs : Array PFS.PrefetchSupport) : Nat → Nat → List Nat → Prop
  | _, 0, _ => True
  | level, f + 1, s =>
    (∃ p, pfs[level]? = some p ∧ PfsOf (s.map (dig (2 * f))) p) ∧
      PfsBuilt pfs (level + 1) f (stablePart (dig (2 * f)) 4 s)

theorem levelStep_ok (c : Cfg) (hLaw : LevelLaw c.dbg c.B) (hP : PfsTotalH c) (s : List Nat)
    (sh : Nat) (qvs : Array RSQVector) (pfs : Array PFS.PrefetchSupport) (hsh : sh < c.W)
    (hlen : s.length < 2 ^ 43) :
    ∃ r pf, levelStep c { seq := s.toArray, shift := sh, qvs := qvs, pfs := pfs } = .ok
        { seq := (stablePart (dig sh) 4 s).toArray, shift := if sh ≥ 2 then sh - 2 else sh,
          qvs := qvs.push r, pfs := pf } ∧
      Represents c.B r (s.map (dig sh)) ∧
      (c.pfs = true → ∃ pp, pf = pfs.push pp ∧ PfsOf (s.map (dig sh)) pp) := by
  have hdig : ∀ d ∈ s.map (dig sh), d < 4 := by
    intro d hd; obtain ⟨x, _, rfl⟩ := List.mem_map.mp hd; exact dig_lt _ _
  obtain ⟨r, hr, hR⟩ := hLaw (s.map (dig sh)) hdig (by rw [List.length_map]; exact hlen)
  obtain ⟨qvb, hq, hfrom⟩ := mkLevel_inv hr
  have hfold : s.foldlM (fun (b : QV.QVectorBuilder) symbol => do
      let tb ← twoBits c symbol sh
      QV.push b tb) {} = .ok qvb := by
    rw [← hq, List.foldlM_map]
    congr 1
    funext b symbol
    rw [twoBits_ok c symbol _ hsh, ok_bind]
  have hpart := stablePartitionOf4_ok c.W sh s hsh
  by_cases hp : c.pfs = true
  · obtain ⟨pp, hpp⟩ := hP hp _ hdig qvb hq
    refine ⟨r, pfs.push pp, ?_, hR, fun _ => ⟨pp, rfl, qvb, hq, hpp⟩⟩
    simp only [levelStep, List.size_toArray, withCapacity_ok _ hlen, List.foldlM_toArray', hfold,
      hp, hpp, hfrom, hpart, ok_bind, if_true, pure_eq_ok]
  · refine ⟨r, pfs, ?_, hR, fun h => absurd h hp⟩
    simp only [levelStep, List.size_toArray, withCapacity_ok _ hlen, List.foldlM_toArray', hfold,
      hp, hfrom, hpart, ok_bind, pure_eq_ok]
    rfl

/-- the shift the loop hands to the next level; at the last level it stays `0` -/
theorem next_shift (f : Nat) : (if 2 * f ≥ 2 then 2 * f - 2 else 2 * f) = 2 * (f - 1) := by
  cases f with
  | zero => rfl
  | succ f => exact if_pos (Nat.le_add_left 2 (2 * f))

/-- an array that agrees with `a.push x` on its indices extends `a` by `x` -/
theorem agree_push {α : Type} {a a' : Array α} {x : α}
    (h : ∀ j, j < (a.push x).size → a'[j]? = (a.push x)[j]?) :
    (∀ j, j < a.size → a'[j]? = a[j]?) ∧ a'[a.size]? = some x := by
  rw [Array.size_push] at h
  constructor
  · intro j hj
    rw [h j (Nat.lt_succ_of_lt hj), Array.getElem?_push, if_neg (Nat.ne_of_lt hj)]
  · rw [h _ (Nat.lt_succ_self _), Array.getElem?_push_size]

theorem levels_fold (c : Cfg) (hLaw : LevelLaw c.dbg c.B) (hP : PfsTotalH c) :
    ∀ (l s : List Nat) (qvs : Array RSQVector) (pfs : Array PFS.PrefetchSupport),
      2 * l.length < c.W + 2 → s.length < 2 ^ 43 →
      ∃ st', l.foldlM (fun st _ => levelStep c st)
          { seq := s.toArray, shift := 2 * (l.length - 1), qvs := qvs, pfs := pfs } = .ok st' ∧
        (∀ j, j < qvs.size → st'.qvs[j]? = qvs[j]?) ∧
        RepLevels c.B st'.qvs qvs.size l.length s ∧
        (c.pfs = true → (∀ j, j < pfs.size → st'.pfs[j]? = pfs[j]?) ∧
          PfsBuilt st'.pfs pfs.size l.length s) := by
  intro l
  induction l with
  | nil =>
    intro s qvs pfs _ _
    exact ⟨_, rfl, fun _ _ => rfl, trivial, fun _ => ⟨fun _ _ => rfl, trivial⟩⟩
  | cons a l ih =>
    intro s qvs pfs hW hlen
    rw [List.length_cons] at hW
    obtain ⟨r, pf, hstep, hR, hpf⟩ :=
      levelStep_ok c hLaw hP s (2 * l.length) qvs pfs (by omega) hlen
    obtain ⟨st', h1, h3, h4, h5⟩ := ih (stablePart (dig (2 * l.length)) 4 s) (qvs.push r) pf
      (by omega) (by rw [length_part]; exact hlen)
    obtain ⟨hq1, hq2⟩ := agree_push h3
    rw [Array.size_push] at h4
    refine ⟨st', ?_, hq1, ⟨⟨r, hq2, hR⟩, h4⟩, ?_⟩
    · rw [List.foldlM_cons, List.length_cons, Nat.add_sub_cancel, hstep, ok_bind, next_shift]
      exact h1
    · intro hp
      obtain ⟨pp, rfl, hof⟩ := hpf hp
      obtain ⟨g2, g3⟩ := h5 hp
      obtain ⟨hp1, hp2⟩ := agree_push g2
      rw [Array.size_push] at g3
      exact ⟨hp1, ⟨pp, hp2, hof⟩, g3⟩

theorem msb_ok (W v : Nat) (h : v < 2 ^ W) : Utils.msb W v = .ok (Nat.log2 v) :=
  Proofs.Word.msb_eq_log2 W v h

/-- number of levels for maximum `v` -/
def nLevelsOf (v : Nat) : Nat := (bitlen v + 1) / 2

theorem nLevelsOf_pos (v : Nat) : nLevelsOf v ≠ 0 := by
  simp only [nLevelsOf, bitlen]; omega

theorem nLevelsOf_shift (v W : Nat) (h : v < 2 ^ W) (hW : 0 < W) : 2 * (nLevelsOf v - 1) < W := by
  have hl : Nat.log2 v < W := by
    by_cases h0 : v = 0
    · subst h0; simpa using hW
    · exact (Nat.log2_lt h0).mpr h
  simp only [nLevelsOf, bitlen, msb]; omega

theorem lt_pow_nLevelsOf (v : Nat) : v < 4 ^ nLevelsOf v := by
  have h1 : v < 2 ^ (Nat.log2 v + 1) := Nat.lt_log2_self
  have h2 : 2 ^ (Nat.log2 v + 1) ≤ 2 ^ (2 * nLevelsOf v) :=
    Nat.pow_le_pow_right (by decide) (by simp only [nLevelsOf, bitlen, msb]; omega)
  have h3 : (4 : Nat) ^ nLevelsOf v = 2 ^ (2 * nLevelsOf v) := by
    rw [Nat.pow_mul]
  omega

/-- `t` is the quad wavelet matrix of `S`: sizes, alphabet bound, number of levels, and level
    `k` represents the digit list of the `k`-th partition of `S` -/
structure WM (c : Cfg) (S : List Nat) (t : QWT) : Prop where
  n_eq : t.n = S.length
  sigma_eq : t.sigma = maxNat S
  nLevels_eq : S ≠ [] → t.nLevels = nLevelsOf (maxNat S)
  levels : S ≠ [] → RepLevels c.B t.qvs 0 t.nLevels S
  pfs_none : c.pfs = false → t.pfs = none

/-- `new` under the satisfiable totality premise: the invariant, and with prefetch support the
    sampling structures it has built -/
theorem new_wm_pfs (c : Cfg) (hW : 0 < c.W) (S : List Nat) (hS : ∀ x ∈ S, x < 2 ^ c.W)
    (hlen : S.length < 2 ^ 43) (hLaw : LevelLaw c.dbg c.B) (hP : PfsTotalH c) :
    ∃ t, new c S.toArray = .ok t ∧ WM c S t ∧
      (c.pfs = true → S ≠ [] → ∃ pfs, t.pfs = some pfs ∧ PfsBuilt pfs 0 t.nLevels S) ∧
      (S = [] → t.pfs = none) := by
  by_cases hemp : S = []
  · subst hemp
    refine ⟨{ n := 0, nLevels := 0, sigma := 0, qvs := (#[dfltRSQ]), pfs := none }, ?_,
      ⟨rfl, rfl, fun h => absurd rfl h, fun h => absurd rfl h, fun _ => rfl⟩,
      fun _ h => absurd rfl h, fun _ => rfl⟩
    simp [new, default_ok (levelLaw_B hLaw), bind, Except.bind, pure, Except.pure]
  · have hne : S.toArray.isEmpty = false := by
      cases S with
      | nil => exact absurd rfl hemp
      | cons a l => rfl
    have hsig : S.toArray.foldl max 0 = maxNat S := by rw [List.foldl_toArray]; rfl
    have hsl := Spec.maxNat_lt (Nat.two_pow_pos c.W) hS
    have hL := nLevelsOf_shift _ _ hsl hW
    have hL0 := nLevelsOf_pos (maxNat S)
    obtain ⟨st', h1, -, h4, h5⟩ := levels_fold c hLaw hP (List.range (nLevelsOf (maxNat S))) S
      #[] #[] (by rw [List.length_range]; omega) hlen
    rw [List.length_range] at h1 h4 h5
    refine ⟨
      { n := S.length, nLevels := nLevelsOf (maxNat S), sigma := maxNat S, qvs := st'.qvs,
        pfs := if c.pfs then some st'.pfs else none }, ?_,
      ⟨rfl, rfl, fun _ => rfl, fun _ => h4, fun h => by simp [h]⟩,
      fun hp _ => ⟨st'.pfs, by simp [hp], (h5 hp).2⟩, fun h => absurd h hemp⟩
    have e : (Nat.log2 (maxNat S) + 1 + 1) / 2 = nLevelsOf (maxNat S) := rfl
    simp only [new, hne, Bool.false_eq_true, if_false, hsig, msb_ok _ _ hsl, ok_bind, e, h1,
      pure_eq_ok]
    rfl

theorem new_wm (c : Cfg) (hW : 0 < c.W) (S : List Nat) (hS : ∀ x ∈ S, x < 2 ^ c.W)
    (hlen : S.length < 2 ^ 43) (hLaw : LevelLaw c.dbg c.B) (hP : PfsTotal c) :
    ∃ t, new c S.toArray = .ok t ∧ WM c S t := by
  obtain ⟨t, ht, hwm, -⟩ := new_wm_pfs c hW S hS hlen hLaw (pfsTotalH_of_total hP)
  exact ⟨t, ht, hwm⟩

/-! What follows from the invariant alone.  `WM` here is the structure `QWTree.WM`; the list-level
walks `rankWM`, `getWM`, `selWM` come from the namespace `Qwt.WM` opened at the top. -/
namespace WM

variable {c : Cfg} {S : List Nat} {t : QWT}

theorem nLevels_ne (h : WM c S t) (hne : S ≠ []) : t.nLevels ≠ 0 := by
  rw [h.nLevels_eq hne]; exact nLevelsOf_pos _

theorem shift_lt (h : WM c S t) (hW : 0 < c.W) (hS : ∀ x ∈ S, x < 2 ^ c.W) (hne : S ≠ []) :
    2 * (t.nLevels - 1) < c.W := by
  rw [h.nLevels_eq hne]; exact nLevelsOf_shift _ _ (Spec.maxNat_lt (Nat.two_pow_pos c.W) hS) hW

theorem elem_lt (h : WM c S t) (hne : S ≠ []) {x : Nat} (hx : x ≤ maxNat S) : x < 4 ^ t.nLevels := by
  rw [h.nLevels_eq hne]
  exact Nat.lt_of_le_of_lt hx (lt_pow_nLevelsOf _)

theorem n_ne (h : WM c S t) (hne : S ≠ []) : t.n ≠ 0 := by
  rw [h.n_eq]; cases S with
  | nil => exact absurd rfl hne
  | cons a l => simp

theorem getUnchecked_eq (h : WM c S t) (hS : ∀ x ∈ S, x < 2 ^ c.W) (i : Nat) (hi : i < S.length) :
    getUnchecked c t i = .ok S[i] := by
  have hne : S ≠ [] := by intro e; subst e; simp at hi
  rw [getUnchecked_sim c t i S (h.nLevels_ne hne) (h.levels hne) hi]
  congr 1
  have hmem : S[i] ∈ S := List.getElem_mem hi
  exact getWM_eq_get _ _ S i S[i] (List.getElem?_eq_getElem hi) (hS _ hmem)
    (h.elem_lt hne (le_maxNat hmem))

theorem get_eq (h : WM c S t) (hS : ∀ x ∈ S, x < 2 ^ c.W) (i : Nat) :
    get c t i = .ok S[i]? := by
  by_cases hi : i < S.length
  · have h1 : ¬ i ≥ t.n := by rw [h.n_eq]; omega
    simp only [get, if_neg h1, h.getUnchecked_eq hS i hi, ok_bind, pure_eq_ok,
      List.getElem?_eq_getElem hi]
  · have h1 : i ≥ t.n := by rw [h.n_eq]; omega
    simp only [get, if_pos h1, pure_eq_ok]
    rw [List.getElem?_eq_none (by omega)]

theorem rankUnchecked_eq (h : WM c S t) (hW : 0 < c.W) (hS : ∀ x ∈ S, x < 2 ^ c.W) (sym i : Nat)
    (hne : S ≠ []) (hsym : sym ≤ maxNat S) (hi : i ≤ S.length) :
    rankUnchecked c t sym i = .ok (Spec.rank sym i S) := by
  rw [rankUnchecked_sim c t sym i S (h.nLevels_ne hne) (h.levels hne) (h.shift_lt hW hS hne) hi]
  congr 1
  exact rankWM_eq_rank sym _ S i (h.nLevels_ne hne) hi (fun x hx => h.elem_lt hne (le_maxNat hx))
    (h.elem_lt hne hsym)

/-- the validity test of `rank` and `rank_prefetch`, on the sequence -/
theorem guard_eq (h : WM c S t) (sym i : Nat) :
    (t.n == 0 || decide (i > t.n) || decide (sym > t.sigma)) =
      !decide (S ≠ [] ∧ sym ≤ maxNat S ∧ i ≤ S.length) := by
  rw [h.n_eq, h.sigma_eq, Bool.eq_iff_iff]
  cases S with
  | nil => simp
  | cons a l => simp [Nat.not_le, or_comm]

theorem rank_eq (h : WM c S t) (hW : 0 < c.W) (hS : ∀ x ∈ S, x < 2 ^ c.W) (sym i : Nat) :
    rank c t sym i =
      .ok (if S ≠ [] ∧ sym ≤ maxNat S ∧ i ≤ S.length then some (Spec.rank sym i S) else none) := by
  rw [rank, h.guard_eq]
  by_cases hc : S ≠ [] ∧ sym ≤ maxNat S ∧ i ≤ S.length
  · rw [decide_eq_true hc, if_neg (by decide), if_pos hc,
      h.rankUnchecked_eq hW hS sym i hc.1 hc.2.1 hc.2.2]
    rfl
  · rw [decide_eq_false hc, if_pos (by decide), if_neg hc]
    rfl

theorem select_eq (h : WM c S t) (hW : 0 < c.W) (hS : ∀ x ∈ S, x < 2 ^ c.W)
    (hlen : S.length < 2 ^ 43) (sym k : Nat) :
    select c t sym k =
      .ok (if S ≠ [] ∧ sym ≤ maxNat S then Spec.select sym k S else none) := by
  by_cases hc : S ≠ [] ∧ sym ≤ maxNat S
  · obtain ⟨hne, hsym⟩ := hc
    rw [select_sim c t sym k S (h.n_ne hne) (by rw [h.sigma_eq]; exact hsym) (h.nLevels_ne hne)
      (h.levels hne) (h.shift_lt hW hS hne), if_pos ⟨hne, hsym⟩]
    congr 1
    exact selWM_eq_select sym _ S k (h.nLevels_ne hne)
      (Nat.lt_trans hlen (Nat.pow_lt_pow_right (by decide) (by decide)))
      (fun x hx => h.elem_lt hne (le_maxNat hx)) (h.elem_lt hne hsym)
  · have h1 : (t.n == 0 || decide (sym > t.sigma)) = true := by
      have := h.guard_eq sym 0
      simp only [Nat.zero_le, and_true, decide_eq_false hc, Bool.not_false] at this
      simpa using this
    simp only [select, h1, if_true, if_neg hc, pure_eq_ok]

/-- `rank_prefetch` answers like `rank` as soon as estimation phase 1 (the sampled counters of
    `PrefetchSupport`, only run when `pfs = true`) does not fault; phase 2 never faults -/
theorem rankPrefetch_eq_partial (h : WM c S t) (hW : 0 < c.W) (hS : ∀ x ∈ S, x < 2 ^ c.W)
    (sym i : Nat)
    (hph1 : c.pfs = true → S ≠ [] → sym ≤ maxNat S → i ≤ S.length →
      pfsPhase1 c t sym i = .ok ()) :
    rankPrefetch c t sym i = rank c t sym i := by
  rw [rankPrefetch, rank, h.guard_eq]
  by_cases hc : S ≠ [] ∧ sym ≤ maxNat S ∧ i ≤ S.length
  · obtain ⟨hne, hsym, hi⟩ := hc
    have h2 := pfsPhase2_ok c t sym i S (h.nLevels_ne hne) (h.levels hne) (h.shift_lt hW hS hne) hi
    simp only [rankPrefetchUnchecked, h2, ok_bind]
    by_cases hp : c.pfs = true
    · simp only [hp, if_true, hph1 hp hne hsym hi, ok_bind]
    · simp only [hp, Bool.false_eq_true, if_false, pure_eq_ok]
  · rw [decide_eq_false hc]
    rfl

end WM

end Qwt.QWTree
