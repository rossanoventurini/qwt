import Qwt.Proofs.Interfaces
import Qwt.Proofs.PfsBuild

/-!
`approx_rank_unchecked` (`src/quadwt/prefetch_support.rs`) on a level whose sampling structure satisfies
`PfsRep`: its value `approxSpec`, the bounds on it that the two quad trees use, and one level of their
estimation loop.
-/
open Qwt

namespace Qwt.PfsP

/-- the value of `approx_rank_unchecked(tb, pos)` on a level holding `L` -/
def approxSpec (L : List Nat) (tb pos : Nat) : Nat :=
  Spec.rank tb (covered L.length (pos / rate + 1)) L / rate * rate

/-- `approx_rank_unchecked` unwraps `rank1(sample, ⌊pos/rate⌋ + 1)`, which is `Some` exactly inside
    the sample vector -/
theorem approx_eq {L : List Nat} {p : PFS.PrefetchSupport} (h : PfsRep L p) {tb : Nat} (htb : tb < 4)
    (pos : Nat) : PFS.approxRankUnchecked p tb pos =
      if pos / rate + 1 ≤ nbOf L.length then .ok (approxSpec L tb pos) else .error .unwrapNone := by
  obtain ⟨r, bits, hr, hinv, hlen, hpre⟩ := h.sample tb htb
  obtain ⟨hi, rfl⟩ := Array.getElem?_eq_some_iff.mp hr
  unfold PFS.approxRankUnchecked
  rw [h.shift, one_shiftLeft_shift, shiftRight_shift, uidx_ok hi, ok_bind, hinv.rank1_eq, hlen]
  by_cases hpos : pos / rate + 1 ≤ nbOf L.length
  · have hne : bits ≠ [] :=
      List.ne_nil_of_length_pos (hlen ▸ Nat.lt_of_lt_of_le (Nat.succ_pos _) hpos)
    rw [if_pos hpos, if_pos ⟨hne, hpos⟩, ok_bind, hpre _ hpos]
    rfl
  · rw [if_neg hpos, if_neg fun hc => hpos hc.2, ok_bind]
    rfl

theorem approx_ok {L : List Nat} {p : PFS.PrefetchSupport} (h : PfsRep L p) {tb pos : Nat}
    (htb : tb < 4) (hpos : pos / rate + 1 ≤ nbOf L.length) :
    PFS.approxRankUnchecked p tb pos = .ok (approxSpec L tb pos) := by
  rw [approx_eq h htb, if_pos hpos]

theorem approxSpec_le_rank (L : List Nat) (tb pos : Nat) :
    approxSpec L tb pos ≤ Spec.rank tb (covered L.length (pos / rate + 1)) L := by
  unfold approxSpec; exact Nat.div_mul_le_self _ _

/-- one element is lost per level -/
theorem approxSpec_le_track (L : List Nat) (tb : Nat) {e T k : Nat} (he : e ≤ T + k) :
    approxSpec L tb e ≤ Spec.rank tb T L + (k + 1) := by
  have h1 : covered L.length (e / rate + 1) ≤ T + (k + 1) :=
    Nat.le_trans (covered_block_le L.length e) (Nat.succ_le_succ he)
  have h2 := Spec.rank_sub_le tb L (Nat.le_add_right T (k + 1))
  rw [Nat.add_sub_cancel_left] at h2
  exact Nat.le_trans (approxSpec_le_rank L tb e) (Nat.le_trans (Spec.rank_mono tb L h1) h2)

theorem approxSpec_le_succ (L : List Nat) (tb pos : Nat) :
    approxSpec L tb pos ≤ Spec.rank tb pos L + 1 :=
  approxSpec_le_track L tb (Nat.le_refl pos)

theorem approxSpec_le_count (L : List Nat) (tb pos : Nat) : approxSpec L tb pos ≤ L.count tb :=
  Nat.le_trans (approxSpec_le_rank L tb pos) (Spec.rank_le_count tb L _)

theorem approxSpec_mono (L : List Nat) (tb : Nat) {p q : Nat} (h : p ≤ q) :
    approxSpec L tb p ≤ approxSpec L tb q := by
  unfold approxSpec
  apply Nat.mul_le_mul_right
  apply Nat.div_le_div_right
  apply Spec.rank_mono
  apply covered_mono
  exact Nat.succ_le_succ (Nat.div_le_div_right h)

/-- one level of estimation phase 1 (`rank_prefetch_superblocks_unchecked`), the same in both quad
    trees: with both positions inside the sample vectors of the level nothing faults, and the
    positions move on to `approxSpec + occsSmaller` -/
theorem pfsPhase1_level {α} {dbg : Bool} {B : Nat} {qvs : Array RSQ.RSQVector}
    {pfs : Array PFS.PrefetchSupport} {level : Nat} {r r' : RSQ.RSQVector} {p : PFS.PrefetchSupport}
    {D : List Nat} {tb s e : Nat} (hr : qvs[level]? = some r) (hR : RSQ.Represents B r D)
    (hr' : qvs[level + 1]? = some r') (hp : pfs[level]? = some p) (hP : PfsRep D p) (htb : tb < 4)
    (hs : s / rate + 1 ≤ nbOf D.length) (he : e / rate + 1 ≤ nbOf D.length) (k : Nat → Nat → M α) :
    (do let qv ← idx qvs level
        let offset ← RSQ.occsSmallerUnchecked dbg qv tb
        let p ← idx pfs level
        let rs ← PFS.approxRankUnchecked p tb s
        let re ← PFS.approxRankUnchecked p tb e
        let _ ← idx qvs (level + 1)
        k (rs + offset) (re + offset)) =
      k (approxSpec D tb s + Spec.occsSmaller id tb D) (approxSpec D tb e + Spec.occsSmaller id tb D) := by
  rw [idx_of_some hr, ok_bind, hR.occsSmallerU _ _ (Nat.le_of_lt_succ htb), ok_bind, idx_of_some hp, ok_bind,
    approx_ok hP htb hs, ok_bind, approx_ok hP htb he, ok_bind, idx_of_some hr', ok_bind]

end Qwt.PfsP
