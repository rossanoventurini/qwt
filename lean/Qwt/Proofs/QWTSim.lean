import Qwt.Model.QWT
import Qwt.Proofs.Interfaces
import Qwt.Proofs.WaveletMatrix
import Qwt.Proofs.Basic
import Qwt.Proofs.WordPart

/-!
The loops of the model `Qwt.QWTree` (the quad wavelet matrix of `src/quadwt/mod.rs`) against the
list-level walks of `Qwt.Proofs.WaveletMatrix`: when the levels of a tree represent
(`RepLevels`, through `RSQ.Represents`) the digit lists of the partitions of `s`, then
`rank_unchecked`, `get_unchecked` and `select` compute `rankWM`, `getWM`, `selWM` on `s`, and the
second estimation phase of `rank_prefetch` does not fault.  Nothing here knows how a tree is built.
-/

namespace Qwt.QWTree
open Qwt Qwt.WM Qwt.Spec Qwt.RSQ

theorem pure_eq_ok {α} (a : α) : (pure a : M α) = Except.ok a := rfl

theorem twoBits_ok (c : Cfg) (sym sh : Nat) (h : sh < c.W) : twoBits c sym sh = .ok (dig sh sym) := by
  simp only [twoBits, if_neg (Nat.not_le.mpr h), Proofs.Word.and3_eq, dig]; rfl

/-- `f` levels starting at `level` represent the wavelet-matrix levels of `s` -/
def RepLevels (B : Nat) (qvs : Array RSQVector) : Nat → Nat → List Nat → Prop
  | _, 0, _ => True
  | level, f + 1, s =>
    (∃ r, qvs[level]? = some r ∧ Represents B r (s.map (dig (2 * f)))) ∧
      RepLevels B qvs (level + 1) f (stablePart (dig (2 * f)) 4 s)

theorem length_part (sh : Nat) (s : List Nat) : (stablePart (dig sh) 4 s).length = s.length :=
  length_stablePart_all _ _ _ (fun x _ => dig_lt _ x)

/-- the loop over the first `f` levels together with what `rank_unchecked` does at the last one,
    so that the induction needs no name for the state the loop returns -/
theorem rank_walk (c : Cfg) (t : QWT) (sym : Nat) :
    ∀ (f level : Nat) (s : List Nat) (i p : Nat),
      RepLevels c.B t.qvs level (f + 1) s → 2 * f < c.W → p ≤ i → i ≤ s.length →
      (do let (shift, curI, curP) ← rankUnchecked.go c t sym f level (2 * f) i p
          let tb ← twoBits c sym shift
          let qv ← idx t.qvs (level + f)
          let ci ← RSQ.rankUnchecked c.dbg c.B qv tb curI
          let cp ← RSQ.rankUnchecked c.dbg c.B qv tb curP
          sub ci cp) = .ok (rankWM sym (f + 1) s i p) := by
  intro f
  induction f with
  | zero =>
    intro level s i p h hW hpi hi
    obtain ⟨⟨r, hr, hR⟩, -⟩ := h
    have hd := Nat.le_of_lt_succ (dig_lt (2 * 0) sym)
    have hi' : i ≤ (s.map (dig (2 * 0))).length := (List.length_map _).symm ▸ hi
    simp only [rankUnchecked.go, pure_eq_ok, ok_bind, Nat.add_zero, twoBits_ok c sym _ hW,
      idx_of_some hr,
      hR.rankU _ _ _ hd hi', hR.rankU _ _ _ hd (Nat.le_trans hpi hi'),
      sub_ok (rank_mono _ _ hpi), rankWM, nextPos, Nat.add_sub_add_right]
  | succ f ih =>
    intro level s i p h hW hpi hi
    obtain ⟨⟨r, hr, hR⟩, hrest⟩ := h
    have hd := Nat.le_of_lt_succ (dig_lt (2 * (f + 1)) sym)
    have hi' : i ≤ (s.map (dig (2 * (f + 1)))).length := (List.length_map _).symm ▸ hi
    rw [rankUnchecked.go, rankWM,
      show level + (f + 1) = level + 1 + f from (Nat.add_right_comm level 1 f).symm]
    simp only [twoBits_ok c sym _ hW, idx_of_some hr, hR.occsSmallerU _ _ hd,
      hR.rankU _ _ _ hd hi', hR.rankU _ _ _ hd (Nat.le_trans hpi hi'), ok_bind]
    exact ih (level + 1) _ _ _ hrest (Nat.lt_of_le_of_lt (Nat.mul_le_mul_left 2 (Nat.le_succ f)) hW)
      (Nat.add_le_add_right (rank_mono _ _ hpi) _)
      (by rw [length_part]; exact off_add_rank_le _ _ _ _)

theorem rankUnchecked_sim (c : Cfg) (t : QWT) (sym i : Nat) (s : List Nat)
    (hL : t.nLevels ≠ 0) (hrep : RepLevels c.B t.qvs 0 t.nLevels s)
    (hW : 2 * (t.nLevels - 1) < c.W) (hi : i ≤ s.length) :
    rankUnchecked c t sym i = .ok (rankWM sym t.nLevels s i 0) := by
  obtain ⟨f, hf⟩ := Nat.exists_eq_add_one_of_ne_zero hL
  rw [hf] at hrep hW ⊢
  have h := rank_walk c t sym f 0 s i 0 hrep hW (Nat.zero_le _) hi
  rw [Nat.zero_add] at h
  simp only [rankUnchecked, hf, sub_ok (Nat.le_add_left 1 f), Nat.add_sub_cancel, ok_bind]
  exact h

theorem getD_map_dig_lt (sh : Nat) (s : List Nat) (i : Nat) : (s.map (dig sh)).getD i 0 < 4 := by
  simp only [List.getD, List.getElem?_map]
  cases s[i]? with
  | none => simp
  | some x => simpa using dig_lt sh x

theorem next_index_lt (key : Nat → Nat) (s : List Nat) (i : Nat) (hi : i < s.length) :
    nextPos ((s.map key).getD i 0) (s.map key) i < s.length := by
  have hx : s[i]? = some s[i] := List.getElem?_eq_getElem hi
  have hd : (s.map key).getD i 0 = key s[i] := by simp [List.getD, List.getElem?_map, hx]
  rw [hd, nextPos]
  have h := part_pos key s (Nat.lt_add_one (key s[i])) hx rfl
  have h2 := (List.getElem?_eq_some_iff.mp h).1
  rw [length_stablePart] at h2
  have : Spec.occsSmaller key (key s[i] + 1) s ≤ s.length := List.countP_le_length
  omega

theorem get_walk (c : Cfg) (t : QWT) :
    ∀ (f level : Nat) (s : List Nat) (res i : Nat),
      RepLevels c.B t.qvs level (f + 1) s → i < s.length →
      (do let (result, curI) ← getUnchecked.go c t f level res i
          let qv ← idx t.qvs (level + f)
          let symbol ← RSQ.getUnchecked c.dbg qv curI
          return ((result <<< 2) % 2 ^ c.W) ||| symbol) = .ok (getWM c.W (f + 1) s res i) := by
  intro f
  induction f with
  | zero =>
    intro level s res i h hi
    obtain ⟨⟨r, hr, hR⟩, -⟩ := h
    have hi' : i < (s.map (dig (2 * 0))).length := (List.length_map _).symm ▸ hi
    simp only [getUnchecked.go, pure_eq_ok, ok_bind, Nat.add_zero, idx_of_some hr, hR.getU _ _ hi',
      getWM]
  | succ f ih =>
    intro level s res i h hi
    obtain ⟨⟨r, hr, hR⟩, hrest⟩ := h
    have hi' : i < (s.map (dig (2 * (f + 1)))).length := (List.length_map _).symm ▸ hi
    have hd := Nat.le_of_lt_succ (getD_map_dig_lt (2 * (f + 1)) s i)
    rw [getUnchecked.go, getWM,
      show level + (f + 1) = level + 1 + f from (Nat.add_right_comm level 1 f).symm]
    simp only [idx_of_some hr, hR.getU _ _ hi', hR.occsSmallerU _ _ hd,
      hR.rankU _ _ _ hd (Nat.le_of_lt hi'), ok_bind]
    exact ih (level + 1) _ _ _ hrest (by rw [length_part]; exact next_index_lt _ s i hi)

theorem getUnchecked_sim (c : Cfg) (t : QWT) (i : Nat) (s : List Nat)
    (hL : t.nLevels ≠ 0) (hrep : RepLevels c.B t.qvs 0 t.nLevels s) (hi : i < s.length) :
    getUnchecked c t i = .ok (getWM c.W t.nLevels s 0 i) := by
  obtain ⟨f, hf⟩ := Nat.exists_eq_add_one_of_ne_zero hL
  rw [hf] at hrep ⊢
  have h := get_walk c t f 0 s 0 i hrep hi
  rw [Nat.zero_add] at h
  simp only [getUnchecked, hf, sub_ok (Nat.le_add_left 1 f), Nat.add_sub_cancel, ok_bind]
  exact h

/-- the `(b, rank_b)` pairs recorded by the downward pass, deepest level first -/
def pathWM (sym : Nat) : Nat → List Nat → Nat → List (Nat × Nat)
  | 0, _, _ => []
  | f + 1, s, b =>
    pathWM sym f (stablePart (dig (2 * f)) 4 s)
        (nextPos (dig (2 * f) sym) (s.map (dig (2 * f))) b) ++
      [(b, Spec.rank (dig (2 * f) sym) b (s.map (dig (2 * f))))]

theorem selectDown_sim (c : Cfg) (t : QWT) (sym : Nat) :
    ∀ (f level : Nat) (s : List Nat) (b : Nat) (acc : List (Nat × Nat)),
      RepLevels c.B t.qvs level f s → b ≤ s.length → 2 * f < c.W + 2 →
      selectDown c t sym f level b (((2 * f : Nat) : Int) - 2) acc =
        .ok (some (pathWM sym f s b ++ acc)) := by
  intro f
  induction f with
  | zero => intro level s b acc _ _ _; rfl
  | succ f ih =>
    intro level s b acc h hb hW
    obtain ⟨⟨r, hr, hR⟩, hrest⟩ := h
    have hd := Nat.le_of_lt_succ (dig_lt (2 * f) sym)
    have hb' : b ≤ (s.map (dig (2 * f))).length := (List.length_map _).symm ▸ hb
    have hW' : 2 * f < c.W := Nat.lt_of_add_lt_add_right hW
    rw [shift_succ, selectDown]
    simp only [Int.not_lt.mpr (Int.natCast_nonneg _), if_false, Int.toNat_natCast,
      twoBits_ok c sym (2 * f) hW', idx_of_some hr, hR.rank, if_pos (And.intro hd hb'),
      hR.occsSmallerU _ _ hd, ok_bind, pure_eq_ok]
    rw [ih (level + 1) _ _ _ hrest (by rw [length_part]; exact off_add_rank_le _ _ _ _)
      (Nat.lt_add_right 2 hW'), pathWM, List.append_assoc]
    rfl

/-- the upward pass over the `f` recorded levels below `level`, in continuation form: it stops
    with `none` or goes on, from the offset `selWM` computes, with the levels above (`rest`) -/
theorem selectUp_sim (c : Cfg) (t : QWT) (sym : Nat) :
    ∀ (f level : Nat) (s : List Nat) (b : Nat) (rest : List (Nat × Nat)) (k : Nat),
      RepLevels c.B t.qvs level f s → b ≤ s.length → 2 * f < c.W + 2 →
      selectUp c t sym (pathWM sym f s b ++ rest) (level + f - 1) 0 k =
        match selWM sym f s b k with
        | none => .ok none
        | some o => selectUp c t sym rest (level - 1) (2 * f) o := by
  intro f
  induction f with
  | zero => intro level s b rest k _ _ _; rfl
  | succ f ih =>
    intro level s b rest k h hb hW
    obtain ⟨⟨r, hr, hR⟩, hrest⟩ := h
    have hd := Nat.le_of_lt_succ (dig_lt (2 * f) sym)
    have hW' : 2 * f < c.W := Nat.lt_of_add_lt_add_right hW
    rw [show level + (f + 1) - 1 = level + 1 + f - 1 by omega, pathWM, List.append_assoc,
      List.singleton_append,
      ih (level + 1) _ _ _ k hrest (by rw [length_part]; exact off_add_rank_le _ _ _ _)
        (Nat.lt_add_right 2 hW'), selWM]
    cases selWM sym f (stablePart (dig (2 * f)) 4 s)
      (nextPos (dig (2 * f) sym) (s.map (dig (2 * f))) b) k with
    | none => rfl
    | some o' =>
      simp only [Nat.add_sub_cancel]
      rw [selectUp]
      simp only [twoBits_ok c sym (2 * f) hW', idx_of_some hr, ok_bind,
        hR.select, if_pos hd, pure_eq_ok, show two64 = 2 ^ 64 from rfl]
      split
      · rfl
      · cases hsel : Spec.select (dig (2 * f) sym)
            (Spec.rank (dig (2 * f) sym) b (s.map (dig (2 * f))) + o') (s.map (dig (2 * f))) with
        | none => rfl
        | some p =>
          simp only [ok_bind, sub_ok (select_rank_add_ge hsel)]
          rfl

theorem select_sim (c : Cfg) (t : QWT) (sym k : Nat) (s : List Nat)
    (hn : t.n ≠ 0) (hsym : sym ≤ t.sigma)
    (hL : t.nLevels ≠ 0) (hrep : RepLevels c.B t.qvs 0 t.nLevels s)
    (hW : 2 * (t.nLevels - 1) < c.W) :
    select c t sym k = .ok (selWM sym t.nLevels s 0 k) := by
  obtain ⟨f, hf⟩ := Nat.exists_eq_add_one_of_ne_zero hL
  rw [hf] at hrep hW
  have h1 : (t.n == 0 || decide (sym > t.sigma)) = false := by
    simp [hn, Nat.not_lt.mpr hsym]
  have hdown := selectDown_sim c t sym (f + 1) 0 s 0 [] hrep (Nat.zero_le _) (by omega)
  have hup := selectUp_sim c t sym (f + 1) 0 s 0 [] k hrep (Nat.zero_le _) (by omega)
  rw [List.append_nil, shift_succ] at hdown
  rw [List.append_nil, Nat.zero_add, Nat.add_sub_cancel] at hup
  simp only [select, h1, Bool.false_eq_true, if_false, hf, sub_ok (Nat.le_add_left 1 f),
    Nat.add_sub_cancel, ok_bind]
  rw [show Int.ofNat (2 * f) = ((2 * f : Nat) : Int) from rfl, hdown, ok_bind]
  refine hup.trans ?_
  cases selWM sym (f + 1) s 0 k <;> rfl

theorem phase2_go_ok (c : Cfg) (t : QWT) (sym : Nat) :
    ∀ (f level : Nat) (S' : List Nat) (s e : Nat),
      RepLevels c.B t.qvs level (f + 1) S' → 2 * f < c.W → s ≤ S'.length → e ≤ S'.length →
      pfsPhase2.go c t sym f level (2 * f) s e = .ok () := by
  intro f
  induction f with
  | zero => intro level S' s e _ _ _ _; rfl
  | succ f ih =>
    intro level S' s e h hW hs he
    obtain ⟨⟨r, hr, hR⟩, hrest⟩ := h
    have hrest' := hrest
    obtain ⟨⟨r', hr', -⟩, -⟩ := hrest'
    have hd := Nat.le_of_lt_succ (dig_lt (2 * (f + 1)) sym)
    obtain ⟨vs, hvs, hles⟩ := hR.rankBlock c.dbg _ s hd ((List.length_map _).symm ▸ hs)
    obtain ⟨ve, hve, hlee⟩ := hR.rankBlock c.dbg _ e hd ((List.length_map _).symm ▸ he)
    rw [pfsPhase2.go]
    simp only [twoBits_ok c sym _ hW, idx_of_some hr, hR.occsSmallerU _ _ hd, hvs, hve, idx_of_some hr',
      ok_bind]
    -- the block counters are lower estimates of the ranks, so the estimates stay inside the level
    exact ih (level + 1) _ _ _ hrest (Nat.lt_of_le_of_lt (Nat.mul_le_mul_left 2 (Nat.le_succ f)) hW)
      (by rw [length_part]
          exact Nat.le_trans (Nat.add_le_add_right hles _) (off_add_rank_le _ _ _ _))
      (by rw [length_part]
          exact Nat.le_trans (Nat.add_le_add_right hlee _) (off_add_rank_le _ _ _ _))

theorem pfsPhase2_ok (c : Cfg) (t : QWT) (sym i : Nat) (s : List Nat)
    (hL : t.nLevels ≠ 0) (hrep : RepLevels c.B t.qvs 0 t.nLevels s)
    (hW : 2 * (t.nLevels - 1) < c.W) (hi : i ≤ s.length) :
    pfsPhase2 c t sym i = .ok () := by
  obtain ⟨f, hf⟩ := Nat.exists_eq_add_one_of_ne_zero hL
  rw [hf] at hrep hW
  simp only [Nat.add_sub_cancel] at hW
  have hrep' := hrep
  obtain ⟨⟨r, hr, _⟩, _⟩ := hrep'
  simp only [pfsPhase2, hf, sub_ok (Nat.le_add_left 1 f), Nat.add_sub_cancel, ok_bind, idx_of_some hr]
  exact phase2_go_ok c t sym f 0 s 0 i hrep hW (Nat.zero_le _) hi

end Qwt.QWTree
