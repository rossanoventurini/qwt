import Qwt.Proofs.CodecLeaf

/-!
Property C11, structure level, continued: the structures built from the leaves of `CodecLeaf`
(`Inventories`/`DArray`, `PrefetchSupport`, the three wavelet trees).
-/
namespace Qwt.Codec
open Qwt

/-- a predicate lifted to `Option` (`none` is fine) -/
def optAll (p : α → Prop) : Option α → Prop
  | none => True
  | some a => p a

instance (p : α → Prop) [DecidablePred p] (o : Option α) : Decidable (optAll p o) := by
  cases o <;> unfold optAll <;> infer_instance

/-- an array (`Vec`/`Box<[T]>`) of well-formed elements, length a `u64` -/
def arrAll (p : α → Prop) (a : Array α) : Prop := a.size < 2 ^ 64 ∧ ∀ x ∈ a.toList, p x

instance (p : α → Prop) [DecidablePred p] (a : Array α) : Decidable (arrAll p a) := by
  unfold arrAll; infer_instance

theorem seq_hasTy (g : α → Val) (t : Ty) (p : α → Prop) (hp : ∀ x, p x → HasTy (g x) t)
    (a : Array α) (h : arrAll p a) : HasTy (.seq (a.toList.map g)) (.seq t) := by
  rw [hasTy_seq_map]
  exact ⟨fun x hx => hp x (h.2 x hx), h.1⟩

theorem seq_ofVal (f : Val → Option α) (g : α → Val) (p : α → Prop)
    (hp : ∀ x, p x → f (g x) = some x) (a : Array α) (h : arrAll p a) :
    seqOf f (.seq (a.toList.map g)) = some a :=
  seqOf_map f g a (fun x hx => hp x (h.2 x hx))

theorem opt_hasTy (g : α → Val) (t : Ty) (p : α → Prop) (hp : ∀ x, p x → HasTy (g x) t)
    (o : Option α) (h : optAll p o) : HasTy (.opt (o.map g)) (.opt t) := by
  rw [hasTy_opt_map]
  rintro x rfl
  exact hp x h

theorem opt_ofVal (f : Val → Option α) (g : α → Val) (p : α → Prop)
    (hp : ∀ x, p x → f (g x) = some x) (o : Option α) (h : optAll p o) :
    optOf f (.opt (o.map g)) = some o :=
  optOf_map f g o (by rintro x rfl; exact hp x h)

def invTy : Ty :=
  .struct [("n_sets", u64Ty), ("block_inventory", .seq .i64),
           ("subblock_inventory", .seq (.num 2)), ("overflow_positions", .seq u64Ty)]

def invOfVal (v : Val) : Option DA.Inventories :=
  match fieldsOf ["n_sets", "block_inventory", "subblock_inventory", "overflow_positions"] v with
  | some [a, b, c, d] =>
    match numOf a, seqOf intOf b, seqOf numOf c, seqOf numOf d with
    | some nSets, some blockInventory, some subblockInventory, some overflowPositions =>
      some { nSets, blockInventory, subblockInventory, overflowPositions }
    | _, _, _, _ => none
  | _ => none

def invWF (i : DA.Inventories) : Prop :=
  i.nSets < 2 ^ 64 ∧
  arrAll (fun x : Int => -2 ^ 63 ≤ x ∧ x < 2 ^ 63) i.blockInventory ∧
  arrAll (· < 2 ^ 16) i.subblockInventory ∧
  arrAll (· < 2 ^ 64) i.overflowPositions

instance (i : DA.Inventories) : Decidable (invWF i) := by unfold invWF; infer_instance

theorem invVal_hasTy (i : DA.Inventories) (h : invWF i) : HasTy (invVal i) invTy := by
  obtain ⟨h1, h2, h3, h4⟩ := h
  simp only [invVal, invTy, HasTy, HasTyFields, true_and, and_true, u64, u64Ty]
  exact ⟨h1, seq_hasTy Val.i64 .i64 _ (fun x hx => hx) _ h2, numSeq_hasTy 2 _ h3.1 h3.2,
    numSeq_hasTy 8 _ h4.1 h4.2⟩

theorem inv_ofVal_toVal (i : DA.Inventories) : invOfVal (invVal i) = some i := by
  simp [invOfVal, invVal, fieldsOf, numOf, u64,
    seqOf_map intOf Val.i64 i.blockInventory (fun _ _ => rfl),
    seqOf_map numOf u16v i.subblockInventory (fun _ _ => rfl),
    seqOf_map numOf u64 i.overflowPositions (fun _ _ => rfl)]

def daTy : Ty :=
  .struct [("bv", bvTy), ("ones_inventories", invTy), ("zeroes_inventories", .opt invTy)]

def daOfVal (v : Val) : Option DA.DArray :=
  match fieldsOf ["bv", "ones_inventories", "zeroes_inventories"] v with
  | some [a, b, c] =>
    match bvOfVal a, invOfVal b, optOf invOfVal c with
    | some bv, some ones, some zeroes => some { bv, ones, zeroes }
    | _, _, _ => none
  | _ => none

def daWF (d : DA.DArray) : Prop := bvWF d.bv ∧ invWF d.ones ∧ optAll invWF d.zeroes

instance (d : DA.DArray) : Decidable (daWF d) := by unfold daWF; infer_instance

theorem daVal_hasTy (d : DA.DArray) (h : daWF d) : HasTy (daVal d) daTy := by
  obtain ⟨h1, h2, h3⟩ := h
  simp only [daVal, daTy, HasTy, HasTyFields, true_and, and_true]
  exact ⟨bvVal_hasTy _ h1, invVal_hasTy _ h2, opt_hasTy invVal invTy _ invVal_hasTy _ h3⟩

theorem da_ofVal_toVal (d : DA.DArray) (h : daWF d) : daOfVal (daVal d) = some d := by
  simp [daOfVal, daVal, fieldsOf, bv_ofVal_toVal _ h.1, inv_ofVal_toVal,
    optOf_map invOfVal invVal d.zeroes (fun x _ => inv_ofVal_toVal x)]

def pfsTy : Ty := .struct [("samples", .seq rsnTy), ("sample_rate_shift", u64Ty)]

def pfsOfVal (v : Val) : Option PFS.PrefetchSupport :=
  match fieldsOf ["samples", "sample_rate_shift"] v with
  | some [a, b] =>
    match seqOf rsnOfVal a, numOf b with
    | some samples, some sampleRateShift => some { samples, sampleRateShift }
    | _, _ => none
  | _ => none

def pfsWF (p : PFS.PrefetchSupport) : Prop := arrAll rsnWF p.samples ∧ p.sampleRateShift < 2 ^ 64

instance (p : PFS.PrefetchSupport) : Decidable (pfsWF p) := by unfold pfsWF; infer_instance

theorem pfsVal_hasTy (p : PFS.PrefetchSupport) (h : pfsWF p) : HasTy (pfsVal p) pfsTy := by
  obtain ⟨h1, h2⟩ := h
  simp only [pfsVal, pfsTy, HasTy, HasTyFields, true_and, and_true, u64, u64Ty]
  exact ⟨seq_hasTy rsnVal rsnTy _ rsnVal_hasTy _ h1, h2⟩

theorem pfs_ofVal_toVal (p : PFS.PrefetchSupport) (h : pfsWF p) :
    pfsOfVal (pfsVal p) = some p := by
  simp [pfsOfVal, pfsVal, fieldsOf, numOf, u64,
    seq_ofVal rsnOfVal rsnVal _ rsn_ofVal_toVal _ h.1]

def pfsOptTy : Ty := .opt (.seq pfsTy)

def pfsOptOfVal : Val → Option (Option (Array PFS.PrefetchSupport)) := optOf (seqOf pfsOfVal)

def pfsOptWF (p : Option (Array PFS.PrefetchSupport)) : Prop := optAll (arrAll pfsWF) p

instance (p : Option (Array PFS.PrefetchSupport)) : Decidable (pfsOptWF p) := by
  unfold pfsOptWF; infer_instance

theorem pfsOptVal_hasTy (p : Option (Array PFS.PrefetchSupport)) (h : pfsOptWF p) :
    HasTy (pfsOptVal p) pfsOptTy := by
  unfold pfsOptVal pfsOptTy
  exact opt_hasTy (fun a => Val.seq (a.toList.map pfsVal)) (.seq pfsTy) _
    (fun a ha => seq_hasTy pfsVal pfsTy _ pfsVal_hasTy a ha) p h

theorem pfsOpt_ofVal_toVal (p : Option (Array PFS.PrefetchSupport)) (h : pfsOptWF p) :
    pfsOptOfVal (pfsOptVal p) = some p := by
  unfold pfsOptVal pfsOptOfVal
  exact opt_ofVal (seqOf pfsOfVal) (fun a => Val.seq (a.toList.map pfsVal)) _
    (fun a ha => seq_ofVal pfsOfVal pfsVal _ pfs_ofVal_toVal a ha) p h

def qwtTy (wbytes : Nat) : Ty :=
  .struct [("n", u64Ty), ("n_levels", u64Ty), ("sigma", .num wbytes), ("qvs", .seq rsqTy),
           ("prefetch_support", pfsOptTy)]

def qwtOfVal (v : Val) : Option QWTree.QWT :=
  match fieldsOf ["n", "n_levels", "sigma", "qvs", "prefetch_support"] v with
  | some [a, b, c, d, e] =>
    match numOf a, numOf b, numOf c, seqOf rsqOfVal d, pfsOptOfVal e with
    | some n, some nLevels, some sigma, some qvs, some pfs => some { n, nLevels, sigma, qvs, pfs }
    | _, _, _, _, _ => none
  | _ => none

/-- `wbytes` = `size_of::<T>()` of the symbol type -/
def qwtWF (wbytes : Nat) (t : QWTree.QWT) : Prop :=
  t.n < 2 ^ 64 ∧ t.nLevels < 2 ^ 64 ∧ t.sigma < 256 ^ wbytes ∧ arrAll rsqWF t.qvs ∧
    pfsOptWF t.pfs

instance (w : Nat) (t : QWTree.QWT) : Decidable (qwtWF w t) := by unfold qwtWF; infer_instance

theorem qwtVal_hasTy (w : Nat) (t : QWTree.QWT) (h : qwtWF w t) :
    HasTy (qwtVal w t) (qwtTy w) := by
  obtain ⟨h1, h2, h3, h4, h5⟩ := h
  simp only [qwtVal, qwtTy, HasTy, HasTyFields, true_and, and_true, u64, u64Ty]
  exact ⟨h1, h2, h3, seq_hasTy rsqVal rsqTy _ rsqVal_hasTy _ h4,
    pfsOptVal_hasTy _ h5⟩

theorem qwt_ofVal_toVal (w : Nat) (t : QWTree.QWT) (h : qwtWF w t) :
    qwtOfVal (qwtVal w t) = some t := by
  obtain ⟨_, _, _, h4, h5⟩ := h
  simp [qwtOfVal, qwtVal, fieldsOf, numOf, u64,
    seq_ofVal rsqOfVal rsqVal _ rsq_ofVal_toVal _ h4, pfsOpt_ofVal_toVal _ h5]

def codeTy : Ty := .struct [("content", .num 4), ("len", .num 4)]

def codeOfVal (v : Val) : Option Huff.PrefixCode :=
  match fieldsOf ["content", "len"] v with
  | some [a, b] =>
    match numOf a, numOf b with
    | some content, some len => some { content, len }
    | _, _ => none
  | _ => none

def codeWF (c : Huff.PrefixCode) : Prop := c.content < 2 ^ 32 ∧ c.len < 2 ^ 32

instance (c : Huff.PrefixCode) : Decidable (codeWF c) := by unfold codeWF; infer_instance

theorem codeVal_hasTy (c : Huff.PrefixCode) (h : codeWF c) : HasTy (codeVal c) codeTy := by
  simp only [codeVal, codeTy, HasTy, HasTyFields, true_and, and_true, u32]
  exact ⟨h.1, h.2⟩

theorem code_ofVal_toVal (c : Huff.PrefixCode) : codeOfVal (codeVal c) = some c := by
  simp [codeOfVal, codeVal, fieldsOf, numOf, u32]

def pairTy (wbytes : Nat) : Ty := .tup [.num 4, .num wbytes]
def decTy (wbytes : Nat) : Ty := .seq (.seq (pairTy wbytes))

def pairVal (wbytes : Nat) (x : Nat × Nat) : Val := .tup [u32 x.1, .num wbytes x.2]

def pairOfVal : Val → Option (Nat × Nat)
  | .tup [a, b] =>
    (match numOf a, numOf b with
     | some x, some y => some (x, y)
     | _, _ => none)
  | _ => none

def pairWF (wbytes : Nat) (x : Nat × Nat) : Prop := x.1 < 2 ^ 32 ∧ x.2 < 256 ^ wbytes

instance (w : Nat) (x : Nat × Nat) : Decidable (pairWF w x) := by unfold pairWF; infer_instance

theorem pairVal_hasTy (w : Nat) (x : Nat × Nat) (h : pairWF w x) :
    HasTy (pairVal w x) (pairTy w) := by
  simp only [pairVal, pairTy, HasTy, HasTyList, true_and, and_true, u32]
  exact ⟨h.1, h.2⟩

theorem pair_ofVal_toVal (w : Nat) (x : Nat × Nat) : pairOfVal (pairVal w x) = some x := by
  simp [pairOfVal, pairVal, numOf, u32]

def decOfVal : Val → Option (Array (Array (Nat × Nat))) := seqOf (seqOf pairOfVal)

def decWF (wbytes : Nat) (d : Array (Array (Nat × Nat))) : Prop :=
  arrAll (arrAll (pairWF wbytes)) d

instance (w : Nat) (d : Array (Array (Nat × Nat))) : Decidable (decWF w d) := by
  unfold decWF; infer_instance

theorem decVal_eq (w : Nat) (d : Array (Array (Nat × Nat))) :
    decVal w d = .seq (d.toList.map (fun tb => Val.seq (tb.toList.map (pairVal w)))) := rfl

theorem decVal_hasTy (w : Nat) (d : Array (Array (Nat × Nat))) (h : decWF w d) :
    HasTy (decVal w d) (decTy w) := by
  rw [decVal_eq]
  exact seq_hasTy _ (.seq (pairTy w)) _
    (fun tb htb => seq_hasTy (pairVal w) (pairTy w) _ (pairVal_hasTy w) tb htb) d h

theorem dec_ofVal_toVal (w : Nat) (d : Array (Array (Nat × Nat))) :
    decOfVal (decVal w d) = some d := by
  rw [decVal_eq]
  exact seqOf_map _ _ d (fun tb _ => seqOf_map pairOfVal (pairVal w) tb
    (fun x _ => pair_ofVal_toVal w x))

def hqwtTy (wbytes : Nat) : Ty :=
  .struct [("n", u64Ty), ("n_levels", u64Ty), ("codes_encode", .seq codeTy),
           ("codes_decode", decTy wbytes), ("qvs", .seq rsqTy), ("lens", .seq u64Ty),
           ("phantom_data", .unit), ("prefetch_support", pfsOptTy)]

def hqwtOfVal (v : Val) : Option Huff.HQWT :=
  match fieldsOf ["n", "n_levels", "codes_encode", "codes_decode", "qvs", "lens",
      "phantom_data", "prefetch_support"] v with
  | some [a, b, c, d, e, f, g, h] =>
    match numOf a, numOf b, seqOf codeOfVal c, decOfVal d, seqOf rsqOfVal e, seqOf numOf f,
      unitOf g, pfsOptOfVal h with
    | some n, some nLevels, some codesEncode, some codesDecode, some qvs, some lens, some _,
      some pfs => some { n, nLevels, codesEncode, codesDecode, qvs, lens, pfs }
    | _, _, _, _, _, _, _, _ => none
  | _ => none

def hqwtWF (wbytes : Nat) (t : Huff.HQWT) : Prop :=
  t.n < 2 ^ 64 ∧ t.nLevels < 2 ^ 64 ∧ arrAll codeWF t.codesEncode ∧ decWF wbytes t.codesDecode ∧
    arrAll rsqWF t.qvs ∧ arrAll (· < 2 ^ 64) t.lens ∧ pfsOptWF t.pfs

instance (w : Nat) (t : Huff.HQWT) : Decidable (hqwtWF w t) := by unfold hqwtWF; infer_instance

theorem hqwtVal_hasTy (w : Nat) (t : Huff.HQWT) (h : hqwtWF w t) :
    HasTy (hqwtVal w t) (hqwtTy w) := by
  obtain ⟨h1, h2, h3, h4, h5, h6, h7⟩ := h
  simp only [hqwtVal, hqwtTy, HasTy, HasTyFields, true_and, and_true, u64, u64Ty]
  exact ⟨h1, h2, seq_hasTy codeVal codeTy _ codeVal_hasTy _ h3,
    decVal_hasTy w _ h4, seq_hasTy rsqVal rsqTy _ rsqVal_hasTy _ h5,
    numSeq_hasTy 8 _ h6.1 h6.2,
    pfsOptVal_hasTy _ h7⟩

theorem hqwt_ofVal_toVal (w : Nat) (t : Huff.HQWT) (h : hqwtWF w t) :
    hqwtOfVal (hqwtVal w t) = some t := by
  obtain ⟨_, _, _, _, h5, _, h7⟩ := h
  simp [hqwtOfVal, hqwtVal, fieldsOf, numOf, unitOf, u64,
    seqOf_map codeOfVal codeVal t.codesEncode (fun c _ => code_ofVal_toVal c),
    dec_ofVal_toVal, seq_ofVal rsqOfVal rsqVal _ rsq_ofVal_toVal _ h5,
    seqOf_map numOf u64 t.lens (fun _ _ => rfl), pfsOpt_ofVal_toVal _ h7]

def wtTy (wbytes : Nat) : Ty :=
  .struct [("n", u64Ty), ("n_levels", u64Ty), ("sigma", .opt (.num wbytes)),
           ("codes_encode", .opt (.seq codeTy)), ("codes_decode", .opt (decTy wbytes)),
           ("bvs", .seq rswTy), ("lens", .seq u64Ty), ("phantom_data", .unit)]

def wtOfVal (v : Val) : Option BinWT.WT :=
  match fieldsOf ["n", "n_levels", "sigma", "codes_encode", "codes_decode", "bvs", "lens",
      "phantom_data"] v with
  | some [a, b, c, d, e, f, g, h] =>
    match numOf a, numOf b, optOf numOf c, optOf (seqOf codeOfVal) d, optOf decOfVal e,
      seqOf rswOfVal f, seqOf numOf g, unitOf h with
    | some n, some nLevels, some sigma, some codesEncode, some codesDecode, some bvs, some lens,
      some _ => some { n, nLevels, sigma, codesEncode, codesDecode, bvs, lens }
    | _, _, _, _, _, _, _, _ => none
  | _ => none

def wtWF (wbytes : Nat) (t : BinWT.WT) : Prop :=
  t.n < 2 ^ 64 ∧ t.nLevels < 2 ^ 64 ∧ optAll (· < 256 ^ wbytes) t.sigma ∧
    optAll (arrAll codeWF) t.codesEncode ∧ optAll (decWF wbytes) t.codesDecode ∧
    arrAll rswWF t.bvs ∧ arrAll (· < 2 ^ 64) t.lens

instance (w : Nat) (t : BinWT.WT) : Decidable (wtWF w t) := by unfold wtWF; infer_instance

theorem wtVal_hasTy (w : Nat) (t : BinWT.WT) (h : wtWF w t) : HasTy (wtVal w t) (wtTy w) := by
  obtain ⟨h1, h2, h3, h4, h5, h6, h7⟩ := h
  simp only [wtVal, wtTy, HasTy, HasTyFields, true_and, and_true, u64, u64Ty]
  refine ⟨h1, h2, ?_, ?_, ?_, ?_, ?_⟩
  · exact opt_hasTy (Val.num w) (.num w) _ (fun x hx => (hasTy_num w x).2 hx) _ h3
  · exact opt_hasTy (fun c => Val.seq (c.toList.map codeVal)) (.seq codeTy) _
      (fun c hc => seq_hasTy codeVal codeTy _ codeVal_hasTy c hc) _ h4
  · exact opt_hasTy (decVal w) (decTy w) _ (decVal_hasTy w) _ h5
  · exact seq_hasTy rswVal rswTy _ rswVal_hasTy _ h6
  · exact numSeq_hasTy 8 _ h7.1 h7.2

theorem wt_ofVal_toVal (w : Nat) (t : BinWT.WT) (h : wtWF w t) :
    wtOfVal (wtVal w t) = some t := by
  obtain ⟨_, _, _, _, _, h6, _⟩ := h
  simp [wtOfVal, wtVal, fieldsOf, numOf, unitOf, u64,
    optOf_map numOf (Val.num w) t.sigma (fun _ _ => rfl),
    optOf_map (seqOf codeOfVal) (fun c => Val.seq (c.toList.map codeVal)) t.codesEncode
      (fun c _ => seqOf_map codeOfVal codeVal c (fun c _ => code_ofVal_toVal c)),
    optOf_map decOfVal (decVal w) t.codesDecode (fun d _ => dec_ofVal_toVal w d),
    seq_ofVal rswOfVal rswVal _ rsw_ofVal_toVal _ h6,
    seqOf_map numOf u64 t.lens (fun _ _ => rfl)]

end Qwt.Codec
