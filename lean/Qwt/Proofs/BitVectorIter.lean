import Qwt.Proofs.BitVectorObs

/-!
The bit iterator yields `abs` in order.  The position iterators: `PInv` ties the iterator state to the
positions still to come, `next_spec` says what one `next` does under it, `collect_spec` sums up.
-/
namespace Qwt.BV
open Qwt

theorem bitIter_next (b : BitVector) (hb : Inv b) (k : Nat) :
    BitIter.next b ⟨k⟩ = .ok ((abs b)[k]?, ⟨if k < b.nBits then k + 1 else k⟩) := by
  unfold BitIter.next
  rw [abs_getElem?]
  by_cases h : k < b.nBits
  · simp only [h, if_true]
    rw [getBitSlice_ok (hb.word_in_range h)]; rfl
  · simp only [h, if_false]; rfl

theorem map_none_of_ge (b : BitVector) (n : Nat) : ∀ s, b.nBits ≤ s →
    (List.range' s n).map (fun k => (abs b)[k]?) = List.replicate n none := by
  induction n with
  | zero => intro s _; rfl
  | succ n ih =>
    intro s hs
    rw [List.range'_succ, List.map_cons, ih (s + 1) (Nat.le_succ_of_le hs), abs_getElem?,
      if_neg (Nat.not_lt_of_le hs)]
    rfl

theorem bitIter_nexts (b : BitVector) (hb : Inv b) (n : Nat) : ∀ s, s ≤ b.nBits →
    BitIter.nexts b n ⟨s⟩ =
      .ok ((List.range' s n).map (fun k => (abs b)[k]?), ⟨min (s + n) b.nBits⟩) := by
  induction n with
  | zero => intro s hs; simp [BitIter.nexts, Nat.min_eq_left hs]; rfl
  | succ n ih =>
    intro s hs
    rw [BitIter.nexts, bitIter_next b hb, ok_bind]
    by_cases h : s < b.nBits
    · simp only [h, if_true]
      rw [ih (s + 1) h, ok_bind, List.range'_succ, List.map_cons, Nat.add_assoc, Nat.add_comm 1 n]
      rfl
    · simp only [h, if_false]
      have hge : b.nBits ≤ s := Nat.le_of_not_lt h
      rw [ih s hs, ok_bind, List.range'_succ, List.map_cons, map_none_of_ge b n s hge,
        map_none_of_ge b n (s + 1) (Nat.le_succ_of_le hge),
        Nat.min_eq_right (Nat.le_trans hge (Nat.le_add_right s n)),
        Nat.min_eq_right (Nat.le_trans hge (Nat.le_add_right s (n + 1)))]
      rfl

theorem ctz_go_spec : ∀ (f w acc : Nat), (∃ j, j < f ∧ w.testBit j = true) →
    ∃ l, ctz.go f w acc = acc + l ∧ l < f ∧ w.testBit l = true ∧ ∀ k, k < l → w.testBit k = false := by
  intro f
  induction f with
  | zero => intro w acc ⟨j, hj, _⟩; exact absurd hj (Nat.not_lt_zero _)
  | succ f ih =>
    intro w acc ⟨j, hj, hjt⟩
    unfold ctz.go
    by_cases h0 : w % 2 = 1
    · have : (w % 2 == 1) = true := by simp [h0]
      rw [if_pos this]
      refine ⟨0, rfl, Nat.succ_pos _, ?_, fun k hk => absurd hk (Nat.not_lt_zero _)⟩
      rw [Nat.testBit_zero]; simp [h0]
    · have : ¬ (w % 2 == 1) = true := by simp [h0]
      rw [if_neg this]
      have hz : w.testBit 0 = false := by rw [Nat.testBit_zero]; simp [h0]
      cases j with
      | zero => rw [hz] at hjt; exact absurd hjt (by decide)
      | succ j =>
        rw [Nat.testBit_succ] at hjt
        obtain ⟨l, h1, h2, h3, h4⟩ := ih (w / 2) (acc + 1) ⟨j, Nat.lt_of_succ_lt_succ hj, hjt⟩
        refine ⟨l + 1, by rw [h1, Nat.add_assoc, Nat.add_comm 1 l], Nat.succ_lt_succ h2,
          by rw [Nat.testBit_succ]; exact h3, ?_⟩
        intro k hk
        cases k with
        | zero => exact hz
        | succ k => rw [Nat.testBit_succ]; exact h4 k (Nat.lt_of_succ_lt_succ hk)

theorem ctz_spec (w : Nat) (hw : w ≠ 0) (hlt : ∀ j, w.testBit j = true → j < 64) :
    ctz 64 w < 64 ∧ w.testBit (ctz 64 w) = true ∧ ∀ k, k < ctz 64 w → w.testBit k = false := by
  obtain ⟨j, hj⟩ := Nat.exists_testBit_of_ne_zero hw
  obtain ⟨l, h1, h2, h3, h4⟩ := ctz_go_spec 64 w 0 ⟨j, hlt j hj, hj⟩
  unfold ctz
  rw [h1, Nat.zero_add]
  exact ⟨h2, h3, h4⟩

/-- the word the iterator loads for word index `j` -/
def pword (bit : Bool) (d : Array Nat) (j : Nat) : Nat :=
  if h : j < d.size then (if bit then d[j] else not64 d[j]) else 0

/-- position `i` lies in the allocation and holds `bit` -/
def pmatch (bit : Bool) (d : Array Nat) (i : Nat) : Bool :=
  decide (i / 64 < d.size) && (bitD d i == bit)

theorem pword_eq (bit : Bool) (b : BitVector) (j : Nat) :
    (if h : j < b.data.size then (if bit then b.data[j] else not64 b.data[j]) else 0)
      = pword bit b.data j := rfl

theorem pword_lt (bit : Bool) (d : Array Nat) (hw : ∀ j, wordAt d j < 2 ^ 64) (j : Nat) :
    pword bit d j < 2 ^ 64 := by
  unfold pword
  split
  · rename_i hj
    cases bit
    · exact not64_lt _
    · rw [← wordAt_of_lt hj]; exact hw j
  · exact Nat.two_pow_pos 64

theorem pword_testBit (bit : Bool) (d : Array Nat) (hw : ∀ j, wordAt d j < 2 ^ 64) (j k : Nat) :
    (pword bit d j).testBit k = (decide (k < 64) && pmatch bit d (64 * j + k)) := by
  by_cases hk : k < 64
  · rw [decide_eq_true hk, Bool.true_and, pmatch, bitD_mul_add d j hk, Nat.mul_add_div (by decide),
      Nat.div_eq_of_lt hk, Nat.add_zero, pword]
    by_cases hj : j < d.size
    · rw [dif_pos hj, decide_eq_true hj, Bool.true_and, wordAt_of_lt hj]
      cases bit
      · rw [if_neg (by decide), not64_testBit _ (by rw [← wordAt_of_lt hj]; exact hw j),
          decide_eq_true hk]
        cases d[j].testBit k <;> rfl
      · rw [if_pos rfl]
        cases d[j].testBit k <;> rfl
    · rw [dif_neg hj, decide_eq_false hj, Nat.zero_testBit]; rfl
  · rw [decide_eq_false hk, Bool.false_and]
    exact testBit_of_lt_two_pow (pword_lt bit d hw j) (Nat.le_of_not_lt hk)

/-- `curPosition` lies in the word before `curWordPos`, and `curWord` holds the matches among the positions
    from `curPosition` to the end of that word -/
structure PInv (bit : Bool) (d : Array Nat) (it : PosIter) : Prop where
  lo : it.curPosition ≤ 64 * it.curWordPos
  hi : 64 * it.curWordPos ≤ it.curPosition + 64
  bits : ∀ k, it.curWord.testBit k =
    (decide (it.curPosition + k < 64 * it.curWordPos) && pmatch bit d (it.curPosition + k))

theorem PInv.pmatch_eq {bit d it} (h : PInv bit d it) {x : Nat} (h1 : it.curPosition ≤ x)
    (h2 : x < 64 * it.curWordPos) : pmatch bit d x = it.curWord.testBit (x - it.curPosition) := by
  have := h.bits (x - it.curPosition)
  rw [Nat.add_sub_cancel' h1, decide_eq_true h2, Bool.true_and] at this
  exact this.symm

theorem PInv.of_testBit {bit d it} (h : PInv bit d it) {k : Nat} (hk : it.curWord.testBit k = true) :
    it.curPosition + k < 64 * it.curWordPos ∧ pmatch bit d (it.curPosition + k) = true := by
  have := h.bits k
  rw [hk] at this
  simpa only [Bool.and_eq_true, decide_eq_true_eq] using this.symm

theorem PInv.bit_lt {bit d it} (h : PInv bit d it) {k : Nat} (hk : it.curWord.testBit k = true) :
    k < 64 := by
  have := (h.of_testBit hk).1
  have := h.hi
  omega

theorem new_PInv (bit : Bool) (d : Array Nat) : PInv bit d PosIter.new :=
  ⟨Nat.le_refl _, by decide, fun k => by
    show (0 : Nat).testBit k = (decide (0 + k < 64 * 0) && _)
    rw [Nat.zero_testBit, decide_eq_false (Nat.not_lt_zero _)]; rfl⟩

theorem PInv.load (bit : Bool) (d : Array Nat) (hw : ∀ j, wordAt d j < 2 ^ 64) (j : Nat) :
    PInv bit d { curWord := pword bit d j, curPosition := 64 * j, curWordPos := j + 1 } := by
  refine ⟨Nat.mul_le_mul_left 64 (Nat.le_succ j), Nat.le_of_eq (Nat.mul_succ 64 j), fun k => ?_⟩
  show _ = (decide (64 * j + k < 64 * (j + 1)) && pmatch bit d (64 * j + k))
  rw [pword_testBit bit d hw, Nat.mul_succ]
  congr 1
  exact decide_eq_decide.mpr (Nat.add_lt_add_iff_left).symm

theorem PInv.advance {bit d it} (h : PInv bit d it) (s w : Nat)
    (hs : it.curPosition + s ≤ 64 * it.curWordPos) (hw : ∀ k, w.testBit k = it.curWord.testBit (s + k)) :
    PInv bit d { curWord := w, curPosition := it.curPosition + s, curWordPos := it.curWordPos } := by
  refine ⟨hs, Nat.le_trans h.hi (Nat.add_le_add_right (Nat.le_add_right _ s) 64), fun k => ?_⟩
  show w.testBit k = (decide (it.curPosition + s + k < _) && pmatch bit d (it.curPosition + s + k))
  rw [hw, h.bits, Nat.add_assoc]

theorem withPos_PInv (bit : Bool) (b : BitVector) (hw : ∀ j, wordAt b.data j < 2 ^ 64) (pos : Nat) :
    PInv bit b.data (PosIter.withPos bit b pos) ∧ (PosIter.withPos bit b pos).curPosition = pos := by
  refine ⟨?_, rfl⟩
  have hm := Nat.mod_lt pos (show 0 < 64 by decide)
  have := (PInv.load bit b.data hw (pos / 64)).advance (pos % 64) (pword bit b.data (pos / 64) >>> (pos % 64))
    (by show 64 * (pos / 64) + pos % 64 ≤ 64 * (pos / 64 + 1); omega) (fun k => Nat.testBit_shiftRight _)
  rw [Nat.div_add_mod] at this
  unfold PosIter.withPos
  rw [shr6]
  exact this

theorem skip_stop (bit : Bool) (b : BitVector) (F : Nat) (it : PosIter)
    (h : ¬ (it.curWord = 0 ∧ it.curWordPos < b.data.size)) :
    PosIter.skip bit b F it = (it, it.curWord != 0) := by
  cases F with
  | zero => rfl
  | succ F =>
    rw [PosIter.skip]
    by_cases h0 : it.curWord = 0
    · rw [if_pos (by rw [h0]; rfl), dif_neg (fun hs => h ⟨h0, hs⟩), h0]
      rfl
    · rw [if_neg (by simpa using h0), bne_iff_ne.mpr h0]

theorem skip_load (bit : Bool) (b : BitVector) (F : Nat) (it : PosIter) (h0 : it.curWord = 0)
    (hs : it.curWordPos < b.data.size) :
    PosIter.skip bit b (F + 1) it = PosIter.skip bit b F
      { curWord := pword bit b.data it.curWordPos, curPosition := 64 * it.curWordPos,
        curWordPos := it.curWordPos + 1 } := by
  rw [PosIter.skip, if_pos (by rw [h0]; rfl), dif_pos hs, pword, dif_pos hs, Nat.shiftLeft_eq,
    Nat.mul_comm]

theorem skip_flag (bit : Bool) (b : BitVector) : ∀ (F : Nat) (it : PosIter),
    b.data.size + 1 ≤ F + it.curWordPos →
    (PosIter.skip bit b F it).2 = ((PosIter.skip bit b F it).1.curWord != 0) ∧
      ((PosIter.skip bit b F it).1.curWord = 0 → b.data.size ≤ (PosIter.skip bit b F it).1.curWordPos) := by
  intro F
  induction F with
  | zero =>
    intro it hF
    exact ⟨rfl, fun _ => by show b.data.size ≤ it.curWordPos; omega⟩
  | succ F ih =>
    intro it hF
    by_cases hl : it.curWord = 0 ∧ it.curWordPos < b.data.size
    · rw [skip_load bit b F it hl.1 hl.2]
      exact ih _ (Nat.add_right_comm F 1 _ ▸ hF)
    · rw [skip_stop bit b _ it hl]
      exact ⟨rfl, fun h0 => Nat.le_of_not_lt fun hs => hl ⟨h0, hs⟩⟩

theorem skip_inv (bit : Bool) (b : BitVector) (hw : ∀ j, wordAt b.data j < 2 ^ 64) :
    ∀ (F : Nat) (it : PosIter), PInv bit b.data it →
      PInv bit b.data (PosIter.skip bit b F it).1 ∧
      it.curPosition ≤ (PosIter.skip bit b F it).1.curPosition ∧
      ∀ x, it.curPosition ≤ x → x < (PosIter.skip bit b F it).1.curPosition →
        pmatch bit b.data x = false := by
  intro F
  induction F with
  | zero => intro it hI; exact ⟨hI, Nat.le_refl _, fun x h1 h2 => absurd h2 (Nat.not_lt_of_le h1)⟩
  | succ F ih =>
    intro it hI
    by_cases hl : it.curWord = 0 ∧ it.curWordPos < b.data.size
    · rw [skip_load bit b F it hl.1 hl.2]
      obtain ⟨r1, r2, r3⟩ := ih _ (PInv.load bit b.data hw it.curWordPos)
      refine ⟨r1, Nat.le_trans hI.lo r2, fun x h1 h2 => ?_⟩
      by_cases hx : x < 64 * it.curWordPos
      · rw [hI.pmatch_eq h1 hx, hl.1, Nat.zero_testBit]
      · exact r3 x (Nat.le_of_not_lt hx) h2
    · rw [skip_stop bit b _ it hl]
      exact ⟨hI, Nat.le_refl _, fun x h1 h2 => absurd h2 (Nat.not_lt_of_le h1)⟩

/-- what `next` does with the state the `while` loop has stopped at -/
def PosIter.emit (b : BitVector) (it : PosIter) : Option Nat × PosIter :=
  if it.curWord = 0 then (none, it) else
    let l := ctz 64 it.curWord
    let it' := { it with curWord := if l ≥ 63 then 0 else it.curWord >>> (l + 1),
                         curPosition := it.curPosition + l + 1 }
    if it.curPosition + l ≥ b.nBits then (none, it') else (some (it.curPosition + l), it')

theorem next_eq (bit : Bool) (b : BitVector) (it : PosIter) :
    PosIter.next bit b it = if it.curPosition ≥ b.nBits then (none, it) else
      PosIter.emit b (PosIter.skip bit b (b.data.size + 1 - it.curWordPos) it).1 := by
  unfold PosIter.next
  split
  · rfl
  · obtain ⟨r4, -⟩ := skip_flag bit b (b.data.size + 1 - it.curWordPos) it (by omega)
    generalize PosIter.skip bit b (b.data.size + 1 - it.curWordPos) it = r at r4 ⊢
    obtain ⟨it1, found⟩ := r
    dsimp only at r4 ⊢
    subst r4
    unfold PosIter.emit
    by_cases hz : it1.curWord = 0
    · rw [if_pos hz, hz]; rfl
    · rw [if_neg hz, bne_iff_ne.mpr hz]

theorem next_spec (bit : Bool) (b : BitVector) (hw : ∀ j, wordAt b.data j < 2 ^ 64)
    (it : PosIter) (hI : PInv bit b.data it) :
    match PosIter.next bit b it with
    | (some p, it') => it.curPosition ≤ p ∧ p < b.nBits ∧ pmatch bit b.data p = true ∧
        (∀ x, it.curPosition ≤ x → x < p → pmatch bit b.data x = false) ∧
        PInv bit b.data it' ∧ it'.curPosition = p + 1
    | (none, _) => ∀ x, it.curPosition ≤ x → x < b.nBits → pmatch bit b.data x = false := by
  rw [next_eq]
  by_cases hge : it.curPosition ≥ b.nBits
  · rw [if_pos hge]
    exact fun x h1 h2 => absurd h2 (Nat.not_lt_of_le (Nat.le_trans hge h1))
  · rw [if_neg hge]
    obtain ⟨r1, r2, r3⟩ := skip_inv bit b hw (b.data.size + 1 - it.curWordPos) it hI
    obtain ⟨-, r5⟩ := skip_flag bit b (b.data.size + 1 - it.curWordPos) it (by omega)
    generalize (PosIter.skip bit b (b.data.size + 1 - it.curWordPos) it).1 = it1 at r1 r2 r3 r5 ⊢
    unfold PosIter.emit
    by_cases hz : it1.curWord = 0
    -- all words consumed: nothing matches in the rest of the last word nor beyond the allocation
    · rw [if_pos hz]
      intro x h1 h2
      by_cases hx : x < it1.curPosition
      · exact r3 x h1 hx
      · by_cases hx2 : x < 64 * it1.curWordPos
        · rw [r1.pmatch_eq (Nat.le_of_not_lt hx) hx2, hz, Nat.zero_testBit]
        · have : ¬ x / 64 < b.data.size := by have := r5 hz; omega
          rw [pmatch, decide_eq_false this]; rfl
    -- the first set bit `l` of the word is the next match
    · rw [if_neg hz]
      dsimp only
      obtain ⟨c1, c2, c3⟩ := ctz_spec it1.curWord hz (fun j hj => r1.bit_lt hj)
      generalize ctz 64 it1.curWord = l at c1 c2 c3
      obtain ⟨hl1, hl2⟩ := r1.of_testBit c2
      have before : ∀ x, it.curPosition ≤ x → x < it1.curPosition + l → pmatch bit b.data x = false := by
        intro x h1 h2
        by_cases hx : x < it1.curPosition
        · exact r3 x h1 hx
        · rw [r1.pmatch_eq (Nat.le_of_not_lt hx) (Nat.lt_trans h2 hl1)]
          exact c3 _ (Nat.sub_lt_left_of_lt_add (Nat.le_of_not_lt hx) h2)
      by_cases hp : it1.curPosition + l ≥ b.nBits
      · rw [if_pos hp]
        exact fun x h1 h2 => before x h1 (Nat.lt_of_lt_of_le h2 hp)
      · rw [if_neg hp]
        refine ⟨Nat.le_trans r2 (Nat.le_add_right _ _), Nat.lt_of_not_le hp, hl2, before,
          r1.advance (l + 1) _ hl1 (fun k => ?_), rfl⟩
        split
        · rw [Nat.zero_testBit]
          exact (Bool.eq_false_iff.mpr fun h => by have := r1.bit_lt h; omega).symm
        · exact Nat.testBit_shiftRight _

/-- an exhausted state: past the end, or no word left -/
theorem next_none_of (bit : Bool) (b : BitVector) (it : PosIter)
    (h : it.curPosition ≥ b.nBits ∨ (it.curWord = 0 ∧ b.data.size ≤ it.curWordPos)) :
    PosIter.next bit b it = (none, it) := by
  unfold PosIter.next
  by_cases hge : it.curPosition ≥ b.nBits
  · rw [if_pos hge]
  · obtain ⟨h0, hs⟩ := h.resolve_left hge
    rw [if_neg hge, skip_stop bit b _ it (fun h => Nat.not_lt_of_le hs h.2), h0]
    rfl

theorem next_none_exhausted (bit : Bool) (b : BitVector) (it : PosIter)
    (h : (PosIter.next bit b it).1 = none) :
    (PosIter.next bit b it).2.curPosition ≥ b.nBits ∨
      ((PosIter.next bit b it).2.curWord = 0 ∧ b.data.size ≤ (PosIter.next bit b it).2.curWordPos) := by
  rw [next_eq] at h ⊢
  by_cases hge : it.curPosition ≥ b.nBits
  · rw [if_pos hge]
    exact Or.inl hge
  · rw [if_neg hge] at h ⊢
    obtain ⟨-, r5⟩ := skip_flag bit b (b.data.size + 1 - it.curWordPos) it (by omega)
    generalize (PosIter.skip bit b (b.data.size + 1 - it.curWordPos) it).1 = it1 at h r5 ⊢
    unfold PosIter.emit at h ⊢
    by_cases hz : it1.curWord = 0
    · rw [if_pos hz]
      exact Or.inr ⟨hz, r5 hz⟩
    · rw [if_neg hz] at h ⊢
      dsimp only at h ⊢
      by_cases hp : it1.curPosition + ctz 64 it1.curWord ≥ b.nBits
      · rw [if_pos hp]
        exact Or.inl (Nat.le_succ_of_le hp)
      · rw [if_neg hp] at h
        exact absurd h (by simp)

/-! Filtering the interval `[s, e)`, written `List.range' s (e - s)`. -/

theorem filter_Ico_nil (Q : Nat → Bool) (s e : Nat) (h : ∀ x, s ≤ x → x < e → Q x = false) :
    (List.range' s (e - s)).filter Q = [] := by
  rw [List.filter_eq_nil_iff]
  intro a ha
  rw [List.mem_range'_1] at ha
  rw [h a ha.1 (by omega)]; decide

theorem filter_Ico_skip (Q : Nat → Bool) (s p e : Nat) (h1 : s ≤ p) (h2 : p ≤ e)
    (h : ∀ x, s ≤ x → x < p → Q x = false) :
    (List.range' s (e - s)).filter Q = (List.range' p (e - p)).filter Q := by
  rw [← Nat.sub_add_sub_cancel h2 h1, Nat.add_comm, ← List.range'_append_1, List.filter_append,
    filter_Ico_nil Q s p h, Nat.add_sub_cancel' h1, List.nil_append]

theorem filter_Ico_cons (Q : Nat → Bool) (s p e : Nat) (h1 : s ≤ p) (h2 : p < e) (hp : Q p = true)
    (hlt : ∀ x, s ≤ x → x < p → Q x = false) :
    (List.range' s (e - s)).filter Q = p :: (List.range' (p + 1) (e - (p + 1))).filter Q := by
  have e1 : e - p = e - (p + 1) + 1 := (Nat.sub_add_cancel (Nat.sub_pos_of_lt h2)).symm
  rw [filter_Ico_skip Q s p e h1 (Nat.le_of_lt h2) hlt, e1, List.range'_succ, List.filter_cons, if_pos hp]

/-- fuel `f` suffices when `nBits < f + curPosition`: every answer moves `curPosition` on by at least one -/
theorem collect_spec (bit : Bool) (b : BitVector) (hw : ∀ j, wordAt b.data j < 2 ^ 64) :
    ∀ (f : Nat) (it : PosIter), PInv bit b.data it → b.nBits < f + it.curPosition →
      PosIter.collect bit b f it =
        (List.range' it.curPosition (b.nBits - it.curPosition)).filter (pmatch bit b.data) := by
  intro f
  induction f with
  | zero =>
    intro it _ hf
    rw [Nat.zero_add] at hf
    rw [Nat.sub_eq_zero_of_le (Nat.le_of_lt hf)]; rfl
  | succ f ih =>
    intro it hI hf
    unfold PosIter.collect
    have hn := next_spec bit b hw it hI
    generalize hr : PosIter.next bit b it = r at hn
    obtain ⟨o, it'⟩ := r
    cases o with
    | none =>
      dsimp only at hn ⊢
      rw [filter_Ico_nil _ _ _ hn]
    | some p =>
      dsimp only at hn ⊢
      obtain ⟨h1, h2, h3, h4, h5, h6⟩ := hn
      rw [ih it' h5 (by omega), h6, filter_Ico_cons _ _ p _ h1 h2 h3 h4]

theorem filter_range_eq (g Q : Nat → Bool) (c N : Nat) (h : ∀ i, i < N → g i = (decide (c ≤ i) && Q i)) :
    (List.range N).filter g = (List.range' c (N - c)).filter Q := by
  rw [List.range_eq_range']
  by_cases hc : c ≤ N
  · have hg : ∀ x, 0 ≤ x → x < c → g x = false := fun x _ hx => by
      rw [h x (Nat.lt_of_lt_of_le hx hc), decide_eq_false (Nat.not_le_of_lt hx)]; rfl
    have := filter_Ico_skip g 0 c N (Nat.zero_le _) hc hg
    rw [Nat.sub_zero] at this
    rw [this]
    apply List.filter_congr
    intro x hx
    rw [List.mem_range'_1] at hx
    rw [h x (by omega), decide_eq_true hx.1]; rfl
  · rw [Nat.sub_eq_zero_of_le (Nat.le_of_not_le hc)]
    apply filter_Ico_nil g 0 N
    intro x _ hx
    rw [h x hx, decide_eq_false (fun hcx => hc (Nat.le_trans hcx (Nat.le_of_lt hx)))]; rfl

theorem pmatch_abs (bit : Bool) (b : BitVector) (hb : Inv b) (i : Nat) (hi : i < b.nBits) :
    pmatch bit b.data i = decide ((abs b)[i]! = bit) := by
  unfold pmatch
  have := hb.word_in_range hi
  have e : (abs b)[i]! = bitAt b i := by
    rw [getElem!_pos (abs b) i (by simpa using hi), abs_getElem]
  rw [e]
  simp only [this, decide_true, Bool.true_and]
  unfold bitAt
  cases bitD b.data i <;> cases bit <;> rfl

theorem posIter_ok (bit : Bool) (b : BitVector) (hb : Inv b) (pos : Nat) :
    PosIter.collect bit b (b.nBits + 1) (PosIter.withPos bit b pos) =
      (List.range b.nBits).filter (fun i => decide (pos ≤ i ∧ (abs b)[i]! = bit)) := by
  obtain ⟨hI, hp⟩ := withPos_PInv bit b hb.wordAt_lt pos
  rw [collect_spec bit b hb.wordAt_lt _ _ hI (Nat.lt_of_lt_of_le (Nat.lt_succ_self _) (Nat.le_add_right _ _)),
    hp]
  symm
  apply filter_range_eq
  intro i hi
  rw [pmatch_abs bit b hb i hi, Bool.decide_and]

theorem posIter_new_ok (bit : Bool) (b : BitVector) (hb : Inv b) :
    PosIter.collect bit b (b.nBits + 1) PosIter.new =
      (List.range b.nBits).filter (fun i => decide ((abs b)[i]! = bit)) := by
  rw [collect_spec bit b hb.wordAt_lt _ _ (new_PInv bit b.data) (Nat.le_refl _)]
  symm
  show _ = (List.range' 0 (b.nBits - 0)).filter _
  apply filter_range_eq
  intro i hi
  rw [pmatch_abs bit b hb i hi]; simp

end Qwt.BV
