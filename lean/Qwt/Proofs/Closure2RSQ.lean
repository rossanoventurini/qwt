import Qwt.Props.C05
import Qwt.Proofs.CodecLeaf
import Qwt.Proofs.QVector

/-! The `RSQVector` returned by the constructors (`from`, `new`, `default`, the level constructor
of the quad wavelet trees) is serialisation-well-formed (`Codec.rsqWF`).

`RepInv` alone does not bound the select-sample arrays, so the sample part is a syntactic
invariant (`SOK`) traced through the successful run of `buildStep` / `rsNew`; everything else
comes from `RepInv` (obtained from `fromQV_ok` and determinism). -/
namespace Qwt.Closure2
open Qwt Qwt.QV Qwt.RSQ Qwt.RSQP Qwt.Extracted

theorem guardM_inv {c : Bool} {f : Fault} (e : guardM c f = .ok ()) : c = true := by
  unfold guardM at e
  cases c
  · cases e
  · rfl

/-- the select samples after `k` rounds of the build loop: four arrays of at most `k` entries,
    every entry stored `as u32` (`4294967296 = 2^32`) -/
def SOK (k : Nat) (smp : Array (Array Nat)) : Prop :=
  smp.size = 4 ∧ ∀ j, (smp.getD j #[]).size ≤ k ∧ ∀ x ∈ (smp.getD j #[]).toList, x < 4294967296

theorem sok_zero : SOK 0 (#[#[], #[], #[], #[]] : Array (Array Nat)) := by
  refine ⟨rfl, fun j => ?_⟩
  have : (#[#[], #[], #[], #[]] : Array (Array Nat)).getD j #[] = #[] :=
    match j with
    | 0 | 1 | 2 | 3 => rfl
    | _ + 4 => rfl
  rw [this]
  exact ⟨Nat.le_refl _, fun x hx => nomatch hx⟩

theorem sok_mono {k : Nat} {smp : Array (Array Nat)} (h : SOK k smp) : SOK (k + 1) smp :=
  ⟨h.1, fun j => ⟨Nat.le_succ_of_le (h.2 j).1, (h.2 j).2⟩⟩

theorem sok_push {k : Nat} {smp : Array (Array Nat)} (h : SOK k smp) (sym v : Nat) :
    SOK (k + 1) (smp.modify sym (·.push (v % 4294967296))) := by
  refine ⟨by rw [Array.size_modify]; exact h.1, fun j => ?_⟩
  rw [getD_modify]
  split
  · refine ⟨by rw [Array.size_push]; exact Nat.succ_le_succ (h.2 j).1, fun x hx => ?_⟩
    rw [Array.toList_push, List.mem_append] at hx
    rcases hx with hx | hx
    · exact (h.2 j).2 x hx
    · rw [List.mem_singleton] at hx
      rw [hx]; exact Nat.mod_lt _ (by decide)
  · exact ⟨Nat.le_succ_of_le (h.2 j).1, (h.2 j).2⟩

theorem phase1_samples (B : Nat) (st : BuildSt) (i : Nat) : (phase1 B st i).samples = st.samples := by
  unfold phase1
  split <;> rfl

theorem phase2_samples {B : Nat} {st st' : BuildSt} {i : Nat} (e : phase2 B st i = .ok st') :
    st'.samples = st.samples := by
  unfold phase2 at e
  split at e
  · obtain ⟨sbs, _, e2⟩ := bind_ok_inv e
    cases e2; rfl
  · cases e; rfl

theorem phase3_sok {dbg : Bool} {B : Nat} {qv : QVector} {st st' : BuildSt} {i k : Nat}
    (h : SOK k st.samples) (e : phase3 dbg B qv st i = .ok st') : SOK (k + 1) st'.samples := by
  unfold phase3 at e
  split at e
  · obtain ⟨symbol, _, e⟩ := bind_ok_inv e
    obtain ⟨o, _, e⟩ := bind_ok_inv e
    split at e
    · obtain ⟨_, _, e⟩ := bind_ok_inv e
      obtain ⟨_, _, e⟩ := bind_ok_inv e
      cases e
      exact sok_push h _ _
    · cases e
      exact sok_mono h
  · cases e
    exact sok_mono h

theorem buildStep_sok {dbg : Bool} {B : Nat} {qv : QVector} {st st' : BuildSt} {i k : Nat}
    (h : SOK k st.samples) (e : buildStep dbg B qv st i = .ok st') : SOK (k + 1) st'.samples := by
  rw [buildStep_eq] at e
  obtain ⟨st2, e2, e3⟩ := bind_ok_inv e
  refine phase3_sok ?_ e3
  rw [phase2_samples e2, phase1_samples]
  exact h

theorem fold_sok {dbg : Bool} {B : Nat} {qv : QVector} (n : Nat) {st : BuildSt}
    (e : (List.range n).foldlM (buildStep dbg B qv) {} = .ok st) : SOK n st.samples := by
  have := foldlM_inv (fun k (st : BuildSt) => SOK k st.samples) _
    (fun _ _ _ _ h e => buildStep_sok h e) (List.range n) 0 {} st sok_zero e
  rwa [Nat.zero_add, List.length_range] at this

/-- a `do` block `let a ← if c then x else y; rest` is compiled with the `if` outermost -/
theorem ite_bind_ok {α β : Type} {c : Prop} [Decidable c] {x y : M α} {rest : α → M β} {out : β}
    (h : (if c then x >>= rest else y >>= rest) = .ok out) : ∃ a, rest a = .ok out := by
  split at h
  · obtain ⟨a, _, h⟩ := bind_ok_inv h
    exact ⟨a, h⟩
  · obtain ⟨a, _, h⟩ := bind_ok_inv h
    exact ⟨a, h⟩

theorem rsNew_inv {dbg : Bool} {B : Nat} {qv : QVector} {rs : RSSupportPlain}
    (e : rsNew dbg B qv = .ok rs) :
    (B = 256 ∨ B = 512) ∧ ∃ st v,
      (List.range (QV.len qv + 1)).foldlM (buildStep dbg B qv) {} = .ok st ∧
      rs.selectSamples =
        st.samples.map (fun s => (if s.isEmpty then s.push 0 else s).push (v % 4294967296)) := by
  unfold rsNew at e
  obtain ⟨_, _, e⟩ := bind_ok_inv e
  obtain ⟨_, g2, e⟩ := bind_ok_inv e
  obtain ⟨st, ef, e⟩ := bind_ok_inv e
  have hB : B = 256 ∨ B = 512 := by
    have := guardM_inv g2
    simpa using this
  obtain ⟨sbs, e⟩ := ite_bind_ok e
  obtain ⟨nsb1, _, e⟩ := bind_ok_inv e
  cases e
  exact ⟨hB, st, nsb1, ef, rfl⟩

theorem fromQV_inv {dbg : Bool} {B : Nat} {qv : QVector} {r : RSQVector}
    (e : fromQV dbg B qv = .ok r) : rsNew dbg B qv = .ok r.rs := by
  unfold fromQV at e
  obtain ⟨rs, e1, e⟩ := bind_ok_inv e
  obtain ⟨cnt, _, e⟩ := bind_ok_inv e
  cases e
  exact e1

theorem fromQV_hB {dbg : Bool} {B : Nat} {qv : QVector} {r : RSQVector}
    (e : fromQV dbg B qv = .ok r) : B = 256 ∨ B = 512 := (rsNew_inv (fromQV_inv e)).1

theorem qvWF_of_holds {q : QVector} {s : List Nat} (h : Holds q s) (hl : s.length < 2 ^ 43) :
    Codec.qvWF q := by
  have hsz := h.size_eq
  have hp := h.pos_eq
  exact ⟨by omega, by omega, all_of_getD 0 h.word_lt, by omega⟩

theorem word_lt_of_sbOf {w : Nat} (h : sbOf w < 2 ^ 43) : w < 2 ^ 128 := by
  unfold sbOf at h
  rw [Nat.shiftRight_eq_div_pow] at h
  have h1 : w < 2 ^ 43 * 2 ^ 84 := (Nat.div_lt_iff_lt_mul (by decide : 0 < 2 ^ 84)).1 h
  exact Nat.lt_trans h1 (by decide)

theorem samplesWF_final {n v : Nat} {smp : Array (Array Nat)} (h : SOK (n + 1) smp)
    (hn : n < 2 ^ 43) :
    Codec.samplesWF 4 (2 ^ 32)
      (smp.map (fun s => (if s.isEmpty then s.push 0 else s).push (v % 4294967296))) := by
  refine ⟨by rw [Array.size_map]; exact h.1, ?_⟩
  rw [Array.toList_map, List.forall_mem_map]
  refine all_of_getD #[] (fun j _ => ?_)
  obtain ⟨h1, h2⟩ := h.2 j
  generalize smp.getD j #[] = L at h1 h2
  have h32 : (2 : Nat) ^ 32 = 4294967296 := by decide
  rw [h32]
  constructor
  · rw [Array.size_push]
    split
    · rw [Array.size_push]; omega
    · omega
  · intro x hx
    rw [Array.toList_push, List.mem_append, List.mem_singleton] at hx
    rcases hx with hx | hx
    · split at hx
      · rw [Array.toList_push, List.mem_append, List.mem_singleton] at hx
        rcases hx with hx | hx
        · exact h2 x hx
        · rw [hx]; decide
      · exact h2 x hx
    · rw [hx]; exact Nat.mod_lt _ (by decide)

theorem rssWF_of_inv {B : Nat} {rs : RSSupportPlain} {s : List Nat}
    (h : RSInv B rs s) (hl : s.length < 2 ^ 43)
    (hs : Codec.samplesWF 4 (2 ^ 32) rs.selectSamples) : Codec.rssWF rs := by
  have hsz := h.sbs_size
  have hdiv : s.length / (8 * B) ≤ s.length := Nat.div_le_self _ _
  refine ⟨by omega, by omega, all_of_getD 0 (fun t ht => ?_), hs⟩
  rw [hsz] at ht
  apply word_lt_of_sbOf
  rw [← Nat.div_add_mod t 4, h.sb (t / 4) (t % 4) (Nat.le_of_lt_succ (Nat.div_lt_of_lt_mul ht))
    (Nat.mod_lt _ (by decide))]
  exact Nat.lt_of_le_of_lt (Nat.le_trans (Spec.rank_le_count _ s _) List.count_le_length) hl

theorem occsWF {r : RSQVector} {s : List Nat}
    (h : r.nOccsSmaller = #[0, s.count 0, s.count 0 + s.count 1, s.count 0 + s.count 1 + s.count 2,
      s.count 0 + s.count 1 + s.count 2 + s.count 3]) (hl : s.length < 2 ^ 43) :
    r.nOccsSmaller.size = 5 ∧ ∀ x ∈ r.nOccsSmaller.toList, x < 2 ^ 64 := by
  rw [h]
  refine ⟨rfl, fun x hx => ?_⟩
  have c0 := List.count_le_length (a := 0) (l := s)
  have c1 := List.count_le_length (a := 1) (l := s)
  have c2 := List.count_le_length (a := 2) (l := s)
  have c3 := List.count_le_length (a := 3) (l := s)
  simp only [List.mem_cons, List.not_mem_nil, or_false] at hx
  rcases hx with rfl | rfl | rfl | rfl | rfl <;> omega

/-- `RSQVector::from` -/
theorem rsqWF_of_fromQV {B : Nat} {qv : QV.QVector} {s : List Nat} {r : RSQ.RSQVector} (dbg : Bool)
    (hq : QV.Holds qv s) (hs : ∀ x ∈ s, x < 4) (hl : s.length < 2 ^ 43)
    (e : RSQ.fromQV dbg B qv = .ok r) : Codec.rsqWF r := by
  have hB := fromQV_hB e
  have hinv := of_exists_ok (fromQV_ok dbg hB hq hs hl) e
  obtain ⟨_, st, v, ef, hsel⟩ := rsNew_inv (fromQV_inv e)
  have hsok := fold_sok _ ef
  rw [holds_len hq] at hsok
  have hsw : Codec.samplesWF 4 (2 ^ 32) r.rs.selectSamples := by
    rw [hsel]; exact samplesWF_final hsok hl
  obtain ⟨o1, o2⟩ := occsWF hinv.occs hl
  exact ⟨qvWF_of_holds hinv.holds hl, rssWF_of_inv hinv.rs hl hsw, o1, o2⟩

/-- the level constructor of the quad wavelet trees -/
theorem rsqWF_mkLevel {B : Nat} (dbg : Bool) (digits : List Nat) (hd : ∀ d ∈ digits, d < 4)
    (hlen : digits.length < 2 ^ 43) {r : RSQ.RSQVector} (e : RSQ.mkLevel dbg B digits = .ok r) :
    Codec.rsqWF r := by
  obtain ⟨q, eq, hq⟩ := holds_of_pushes digits hd (by
    have : two64 = 2 ^ 64 := by decide
    omega)
  unfold RSQ.mkLevel at e
  rw [eq, ok_bind] at e
  exact rsqWF_of_fromQV dbg hq hd hlen e

/-- from the C13 invariant of the quad vector -/
theorem rsqWF_of_inv {B : Nat} {qv : QV.QVector} {r : RSQ.RSQVector} (dbg : Bool)
    (hq : QV.Inv qv) (hl : (QV.abs qv).length < 2 ^ 43)
    (e : RSQ.fromQV dbg B qv = .ok r) : Codec.rsqWF r :=
  rsqWF_of_fromQV dbg (holds_of_inv hq) (QV.abs_lt_four qv) hl e

/-- `Default` -/
theorem rsqWF_default {B : Nat} {r : RSQ.RSQVector} (e : RSQ.default B = .ok r) : Codec.rsqWF r :=
  rsqWF_of_fromQV false Props.C05.holds_empty (fun x hx => by cases hx) (by decide) e

/-- `RSQVector::new(&[T])` / `collect()` -/
theorem rsqWF_new {B : Nat} (dbg : Bool) (vals : List Int) {r : RSQ.RSQVector}
    (e : RSQ.new dbg B vals = .ok r) (hl : vals.length < 2 ^ 43) : Codec.rsqWF r := by
  obtain ⟨q, eq, hq, a⟩ := QV.fromIter_ok vals (by
    have : two64 = 2 ^ 64 := by decide
    omega)
  unfold RSQ.new at e
  rw [eq, ok_bind] at e
  exact rsqWF_of_inv dbg hq (by rw [a, List.length_map]; exact hl) e

end Qwt.Closure2

