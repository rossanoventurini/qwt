import Qwt.Proofs.WordBits

/-! A word as the value `val ds` of a list of base-256 digits, for any number of digits: `&&&`, `|||`
    with a mask that repeats one byte and subtraction act digit by digit, the multiplication by
    `0x01…01` turns the digits into their running sums, a shift and a mask pick one digit, the bit
    list of the word is the concatenation of the bit lists of the digits. -/
namespace Qwt.Proofs.Word
open Qwt Qwt.Utils

/-- least significant digit first -/
def val : List Nat → Nat
  | [] => 0
  | d :: ds => d + 256 * val ds

theorem val_lt : ∀ ds : List Nat, (∀ d ∈ ds, d < 256) → val ds < 256 ^ ds.length
  | [], _ => Nat.one_pos
  | d :: ds, h => by
    obtain ⟨hd, hds⟩ := List.forall_mem_cons.1 h
    have ih := val_lt ds hds
    rw [val, List.length_cons, Nat.pow_succ]
    omega

theorem exists_val : ∀ (n w : Nat), w < 256 ^ n →
    ∃ ds : List Nat, ds.length = n ∧ (∀ d ∈ ds, d < 256) ∧ w = val ds
  | 0, w, h => ⟨[], rfl, nofun, by rw [val]; omega⟩
  | n + 1, w, h => by
    obtain ⟨ds, hl, hd, hv⟩ := exists_val n (w / 256) (by rw [Nat.pow_succ] at h; omega)
    refine ⟨w % 256 :: ds, by rw [List.length_cons, hl], ?_, by rw [val, ← hv]; omega⟩
    exact List.forall_mem_cons.2 ⟨Nat.mod_lt _ (by decide), hd⟩

theorem low_digit {a : Nat} (A : Nat) (ha : a < 256) : (a + 256 * A) % 2 ^ 8 = a := by omega

theorem high_digit {a : Nat} (A : Nat) (ha : a < 256) : (a + 256 * A) / 2 ^ 8 = A := by omega

theorem digits_eq {x a A : Nat} (h1 : x % 2 ^ 8 = a) (h2 : x / 2 ^ 8 = A) : x = a + 256 * A := by
  omega

theorem and_split (a m A M : Nat) (ha : a < 256) (hm : m < 256) :
    (a + 256 * A) &&& (m + 256 * M) = (a &&& m) + 256 * (A &&& M) :=
  digits_eq (by rw [Nat.and_mod_two_pow, low_digit A ha, low_digit M hm])
    (by rw [Nat.and_div_two_pow, high_digit A ha, high_digit M hm])

theorem or_split (a m A M : Nat) (ha : a < 256) (hm : m < 256) :
    (a + 256 * A) ||| (m + 256 * M) = (a ||| m) + 256 * (A ||| M) :=
  digits_eq (by rw [Nat.or_mod_two_pow, low_digit A ha, low_digit M hm])
    (by rw [Nat.or_div_two_pow, high_digit A ha, high_digit M hm])

theorem val_and_replicate (m : Nat) (hm : m < 256) : ∀ ds : List Nat, (∀ d ∈ ds, d < 256) →
    val ds &&& val (List.replicate ds.length m) = val (ds.map (· &&& m))
  | [], _ => Nat.zero_and _
  | d :: ds, h => by
    obtain ⟨hd, hds⟩ := List.forall_mem_cons.1 h
    rw [List.length_cons, List.replicate_succ, List.map_cons, val, val, val, and_split _ _ _ _ hd hm,
      val_and_replicate m hm ds hds]

theorem val_or_replicate (m : Nat) (hm : m < 256) : ∀ ds : List Nat, (∀ d ∈ ds, d < 256) →
    val ds ||| val (List.replicate ds.length m) = val (ds.map (· ||| m))
  | [], _ => Nat.zero_or _
  | d :: ds, h => by
    obtain ⟨hd, hds⟩ := List.forall_mem_cons.1 h
    rw [List.length_cons, List.replicate_succ, List.map_cons, val, val, val, or_split _ _ _ _ hd hm,
      val_or_replicate m hm ds hds]

/-- no borrow crosses a digit when every digit of the subtrahend is at most the one above it -/
theorem val_sub_map (f g : α → Nat) : ∀ l : List α, (∀ x ∈ l, g x ≤ f x) →
    val (l.map g) ≤ val (l.map f) ∧
      val (l.map f) - val (l.map g) = val (l.map fun x => f x - g x)
  | [], _ => ⟨Nat.le_refl _, rfl⟩
  | x :: l, h => by
    obtain ⟨hx, hl⟩ := List.forall_mem_cons.1 h
    obtain ⟨ih1, ih2⟩ := val_sub_map f g l hl
    simp only [List.map_cons, val]
    rw [← ih2]
    omega

theorem val_map_mul (c : Nat) (f : α → Nat) :
    ∀ l : List α, val (l.map fun x => c * f x) = c * val (l.map f)
  | [] => rfl
  | x :: l => by
    simp only [List.map_cons, val]
    rw [val_map_mul c f l, Nat.mul_add, Nat.mul_left_comm]

theorem val_replicate (n c : Nat) : val (List.replicate n c) = c * val (List.replicate n 1) := by
  have h := val_map_mul c (fun _ => 1) (List.replicate n ())
  rwa [List.map_replicate, List.map_replicate, Nat.mul_one] at h

/-- The running sums `a + r₀, a + r₀ + r₁, …`: the start value `a` itself is not among them. -/
def sums (a : Nat) : List Nat → List Nat
  | [] => []
  | r :: rs => (a + r) :: sums (a + r) rs

theorem val_ones (n : Nat) :
    val (List.replicate (n + 1) 1) = val (List.replicate n 1) + 256 ^ n := by
  induction n with
  | zero => rfl
  | succ n ih =>
    have h := ih
    rw [List.replicate_succ, val] at h
    rw [List.replicate_succ, val, Nat.pow_succ]
    omega

/-- `a` is the carry-in that the induction needs; `select_in_word` has `a = 0` -/
theorem val_mul_ones : ∀ (rs : List Nat) (a : Nat), a + rs.sum < 256 →
    (a + val rs) * val (List.replicate rs.length 1) % 256 ^ rs.length = val (sums a rs)
  | [], a, _ => by simp [val, sums]
  | r :: rs, a, h => by
    rw [List.sum_cons] at h
    have ih := val_mul_ones rs (a + r) (by omega)
    rw [sums, val, val, ← ih, List.length_cons, Nat.pow_succ, Nat.mul_comm _ 256, Nat.mod_mul]
    have h1 : val (List.replicate (rs.length + 1) 1) = 1 + 256 * val (List.replicate rs.length 1) :=
      rfl
    have h2 := val_ones rs.length
    generalize val (List.replicate (rs.length + 1) 1) = n at h1 h2 ⊢
    generalize val (List.replicate rs.length 1) = o at h1 h2 ⊢
    generalize 256 ^ rs.length = p at h2 ⊢
    generalize val rs = R
    -- the product is `(a + r) + 256 * ((a + r + R) * o + R * p)`
    have e1 : (a + r) * n = a + r + 256 * ((a + r) * o) := by
      rw [h1, Nat.mul_add, Nat.mul_one, Nat.mul_left_comm]
    have e2 : R * n = R * o + R * p := by rw [h2, Nat.mul_add]
    rw [← Nat.add_assoc, Nat.add_mul (a + r), Nat.mul_assoc, e1, e2, Nat.add_mul (a + r) R o]
    have e3 : (a + r + 256 * ((a + r) * o) + 256 * (R * o + R * p)) / 256 =
        (a + r) * o + R * o + R * p := by omega
    rw [e3, Nat.add_mul_mod_self_right]
    omega

theorem length_sums : ∀ (rs : List Nat) (a : Nat), (sums a rs).length = rs.length
  | [], _ => rfl
  | r :: rs, a => by rw [sums, List.length_cons, List.length_cons, length_sums rs]

theorem le_of_mem_sums : ∀ (rs : List Nat) (a x : Nat), x ∈ sums a rs → a ≤ x ∧ x ≤ a + rs.sum
  | [], _, _, h => nomatch h
  | r :: rs, a, x, h => by
    rw [List.sum_cons]
    rcases List.mem_cons.1 h with rfl | h
    · omega
    · have := le_of_mem_sums rs (a + r) x h
      omega

theorem getElem?_sums : ∀ (rs : List Nat) (a t : Nat), t ≤ rs.length →
    (a :: sums a rs)[t]? = some (a + (rs.take t).sum)
  | _, _, 0, _ => rfl
  | r :: rs, a, t + 1, h => by
    rw [List.getElem?_cons_succ, sums, getElem?_sums rs (a + r) t (Nat.le_of_succ_le_succ h),
      List.take_succ_cons, List.sum_cons, Nat.add_assoc]

/-- The number `t` of running sums `≤ k` is the place where they pass `k`. -/
theorem countP_sums (k : Nat) : ∀ (rs : List Nat) (a t : Nat), a ≤ k →
    (sums a rs).countP (· ≤ k) = t →
    a + (rs.take t).sum ≤ k ∧ ∀ r, rs[t]? = some r → k < a + (rs.take t).sum + r
  | [], a, _, h, ht => by
    cases ht
    exact ⟨h, nofun⟩
  | r :: rs, a, _, h, ht => by
    cases ht
    rw [sums, List.countP_cons]
    by_cases hr : a + r ≤ k
    · obtain ⟨ih1, ih2⟩ := countP_sums k rs (a + r) _ hr rfl
      simp only [hr, decide_true, if_true, List.take_succ_cons, List.sum_cons,
        List.getElem?_cons_succ]
      exact ⟨by omega, fun r' e => by have := ih2 r' e; omega⟩
    · have h0 : (sums (a + r) rs).countP (· ≤ k) = 0 :=
        List.countP_eq_zero.2 fun x hx => by
          have := le_of_mem_sums rs (a + r) x hx
          simp only [decide_eq_true_eq]
          omega
      simp only [h0, hr, decide_false]
      exact ⟨h, fun r' e => by cases e; omega⟩

theorem shr_and_ff (x t : Nat) : (x >>> (t * 8)) &&& 0xFF = x / 256 ^ t % 256 := by
  rw [Nat.shiftRight_eq_div_pow, Nat.mul_comm, Nat.pow_mul,
    show (0xFF : Nat) = 2 ^ 8 - 1 from rfl, Nat.and_two_pow_sub_one_eq_mod]

theorem val_digit : ∀ (ds : List Nat) (t d : Nat), (∀ d ∈ ds, d < 256) → ds[t]? = some d →
    val ds / 256 ^ t % 256 = d
  | [], _, _, _, e => nomatch e
  | d :: ds, 0, _, h, e => by
    have hd := h d List.mem_cons_self
    cases e
    rw [val]
    omega
  | d :: ds, t + 1, d', h, e => by
    obtain ⟨hd, hds⟩ := List.forall_mem_cons.1 h
    rw [val, Nat.pow_succ', ← Nat.div_div_eq_div_mul,
      show (d + 256 * val ds) / 256 = val ds by omega]
    exact val_digit ds t d' hds e

theorem two64_eq_pow256 : two64 = 256 ^ 8 := rfl

theorem mod_two64_digit (x t : Nat) (ht : t < 8) : x % two64 / 256 ^ t % 256 = x / 256 ^ t % 256 := by
  have e : two64 = 256 ^ t * (256 * 256 ^ (7 - t)) := by
    rw [← Nat.pow_succ', ← Nat.pow_add, show t + (7 - t + 1) = 8 by omega]
    rfl
  rw [e, Nat.mod_mul_right_div_self, Nat.mod_mul_right_mod]

theorem val_byte {ds : List Nat} {t d : Nat} (h : ∀ d ∈ ds, d < 256) (e : ds[t]? = some d) :
    (val ds >>> (t * 8)) &&& 0xFF = d := by
  rw [shr_and_ff]
  exact val_digit ds t d h e

/-- byte `t` of `(w << 8) mod 2^64` is byte `t - 1` of `w`, and 0 for `t = 0` -/
theorem val_shl_byte {ds : List Nat} {t d : Nat} (h : ∀ d ∈ ds, d < 256) (ht : t < 8)
    (e : (0 :: ds)[t]? = some d) : (((val ds <<< 8) % two64) >>> (t * 8)) &&& 0xFF = d := by
  have e0 : val ds <<< 8 = val (0 :: ds) := by
    rw [val, Nat.shiftLeft_eq]
    omega
  rw [shr_and_ff, mod_two64_digit _ _ ht, e0]
  exact val_digit (0 :: ds) t d (List.forall_mem_cons.2 ⟨by decide, h⟩) e

theorem mod_and (x m k : Nat) (hm : m < 2 ^ k) : (x % 2 ^ k) &&& m = x &&& m := by
  have h := @Nat.and_mod_two_pow x m k
  rw [Nat.mod_eq_of_lt hm, Nat.mod_eq_of_lt (Nat.lt_of_le_of_lt Nat.and_le_right hm)] at h
  exact h.symm

theorem mod_two64_and (x m : Nat) (hm : m < two64) : (x % two64) &&& m = x &&& m :=
  mod_and x m 64 hm

theorem bitsOf_val : ∀ ds : List Nat, (∀ d ∈ ds, d < 256) →
    Spec.bitsOf (val ds) (8 * ds.length) = (ds.map (Spec.bitsOf · 8)).flatten
  | [], _ => rfl
  | d :: ds, h => by
    obtain ⟨hd, hds⟩ := List.forall_mem_cons.1 h
    rw [List.length_cons, Nat.mul_succ, Nat.add_comm, List.map_cons, List.flatten_cons,
      ← bitsOf_val ds hds]
    exact bitsOf_append 8 _ d (val ds) hd

def pc8 (b : Nat) : Nat := (Spec.bitsOf b 8).count true

theorem pc8_le (b : Nat) : pc8 b ≤ 8 := by
  have h := List.count_le_length (a := true) (l := Spec.bitsOf b 8)
  rwa [bitsOf_length] at h

theorem popc_val (ds : List Nat) (h : ∀ d ∈ ds, d < 256) : Qwt.popc (val ds) = (ds.map pc8).sum := by
  have hlt : val ds < 2 ^ (8 * ds.length) := by rw [Nat.pow_mul]; exact val_lt ds h
  rw [popc_eq_count _ _ hlt, bitsOf_val ds h, List.count_flatten, List.map_map]
  rfl

end Qwt.Proofs.Word
