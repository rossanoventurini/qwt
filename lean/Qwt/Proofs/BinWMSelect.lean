import Qwt.Proofs.BinWM

/-!
`Spec.select` on one level of a wavelet matrix: selection relative to a block of the level,
composition of two selections (the step of the upward pass of `select`), and lists whose
elements with a property come first.  Shared by the binary and the quad matrices.
-/

namespace Qwt.BinWM
open Qwt

variable {α : Type}

theorem count_map_true (q : α → Bool) (S : List α) :
    (S.map q).count true = (S.filter q).length := by
  rw [count_map]
  have e : (fun x => q x == true) = q := by funext y; cases q y <;> rfl
  rw [e, List.countP_eq_length_filter]

/-- composition of two selections: the `res`-th element satisfying `q ∧ f = v` is the
    `j`-th element satisfying `q`, where `j` is the position of the `res`-th `v` among the
    `q`-elements -/
theorem select_comp (q f : α → Bool) (v : Bool) (S : List α) (res j : Nat)
    (h : Spec.select v res ((S.filter q).map f) = some j) :
    Spec.select true res (S.map (fun x => q x && (f x == v))) = Spec.select true j (S.map q) := by
  obtain ⟨hj, hget, hrank⟩ := select_some h
  rw [List.length_map] at hj
  obtain ⟨m, hm, _⟩ := Proofs.Word.select_some true (S.map q) j (by rw [count_map_true]; exact hj)
  rw [hm]
  obtain ⟨hml, hmget, hmrank⟩ := select_some hm
  rw [List.length_map] at hml
  rw [select_eq_some_iff]
  have hSm : S[m]? = some S[m] := List.getElem?_eq_getElem hml
  have hqm : q S[m] = true := by
    rw [List.getElem?_map, hSm] at hmget
    simpa using hmget
  have e : (fun x => q x == true) = q := by funext y; cases q y <;> rfl
  rw [rank_map, e] at hmrank
  have hfj : (S.filter q)[j]? = some S[m] := by
    have := filter_getElem q m S S[m] hSm hqm
    rwa [hmrank] at this
  have hfm : f S[m] = v := by
    rw [List.getElem?_map, hfj] at hget
    simpa using hget
  refine ⟨?_, ?_⟩
  · rw [List.getElem?_map, hSm]; simp [hqm, hfm]
  · rw [rank_map] at hrank ⊢
    rw [← hrank, ← hmrank, filter_take, List.countP_filter]
    congr 1; funext x
    cases q x <;> cases f x <;> cases v <;> rfl

/-- selecting, counted from the start of a block `B`, one of its `v`-elements: found inside `B` -/
theorem sel_in_block (p : α → Bool) (v : Bool) (A B C : List α) (res : Nat)
    (hres : res < (B.filter (fun x => p x == v)).length) :
    ∃ j, Spec.select v (Spec.rank v A.length ((A ++ B ++ C).map p) + res) ((A ++ B ++ C).map p)
            = some (A.length + j) ∧
      Spec.select v res (B.map p) = some j := by
  have hc : res < (B.map p).count v := by
    rw [count_map, List.countP_eq_length_filter]; exact hres
  obtain ⟨j, hj, _⟩ := Proofs.Word.select_some v (B.map p) res hc
  refine ⟨j, ?_, hj⟩
  obtain ⟨hjl, hjget, hjrank⟩ := select_some hj
  rw [List.length_map] at hjl
  rw [select_eq_some_iff]
  refine ⟨?_, ?_⟩
  · rw [List.map_append, List.map_append, List.append_assoc,
      List.getElem?_append_right (by simp), List.length_map, Nat.add_sub_cancel_left,
      List.getElem?_append_left (by simpa using hjl)]
    exact hjget
  · rw [rank_map, rank_map, take_block_start, take_block _ _ _ _ (Nat.le_of_lt hjl),
      List.countP_append, ← rank_map, hjrank]

/-- selecting, counted from the start of `B`, beyond its `v`-elements: found (if at all) beyond `B` -/
theorem sel_out_block (p : α → Bool) (v : Bool) (A B C : List α) (res q : Nat)
    (hres : (B.filter (fun x => p x == v)).length ≤ res)
    (h : Spec.select v (Spec.rank v A.length ((A ++ B ++ C).map p) + res) ((A ++ B ++ C).map p)
            = some q) :
    A.length + B.length ≤ q ∧ q < (A ++ B ++ C).length := by
  refine ⟨le_of_select h ?_, by simpa using (select_some h).1⟩
  rw [rank_map, rank_map, take_block_start, take_block _ _ _ _ (Nat.le_refl _), List.take_length,
    List.countP_append, List.countP_eq_length_filter (l := B)]
  omega

theorem select_map_eq [BEq α] (q : α → Bool) (c : α) (S : List α)
    (h : ∀ x ∈ S, q x = (x == c)) (k : Nat) :
    Spec.select true k (S.map q) = Spec.select c k S := by
  induction S generalizing k with
  | nil => rfl
  | cons x xs ih =>
    have hx := h x (by simp)
    have ih' := fun k => ih (fun y hy => h y (by simp [hy])) k
    simp only [List.map_cons, Spec.select]
    rw [hx]
    cases hb : x == c
    · simp [ih']
    · cases k with
      | zero => simp
      | succ k => simp [ih']

theorem countP_eq_count [BEq α] (q : α → Bool) (c : α) (S : List α)
    (h : ∀ x ∈ S, q x = (x == c)) : S.countP q = S.count c := by
  rw [List.count_eq_countP]
  exact List.countP_congr (fun x hx => by rw [h x hx])

/-- in a list whose `q`-elements come first, a `q`-element keeps its position in the
    filtered list and a non-`q`-element sits beyond it -/
theorem pre_get (q : α → Bool) (V : List α)
    (hp : V.Pairwise (fun a b => q b = true → q a = true)) (p : Nat) (x : α)
    (hx : V[p]? = some x) :
    (q x = true → (V.filter q)[p]? = some x) ∧ (q x = false → (V.filter q).length ≤ p) := by
  induction V generalizing p with
  | nil => simp at hx
  | cons a V ih =>
    rw [List.pairwise_cons] at hp
    cases p with
    | zero =>
      obtain rfl : a = x := by simpa using hx
      refine ⟨fun hq => by simp [hq], fun hq => ?_⟩
      have : V.filter q = [] :=
        List.filter_eq_nil_iff.mpr (fun b hb hqb => by rw [hp.1 b hb hqb] at hq; cases hq)
      simp [hq, this]
    | succ p =>
      have hx' : V[p]? = some x := by simpa using hx
      obtain ⟨ih1, ih2⟩ := ih hp.2 p hx'
      have hqa : q x = true → q a = true := hp.1 x (List.mem_of_getElem? hx')
      cases ha : q a
      · refine ⟨fun hq => absurd (hqa hq) (by simp [ha]), fun hq => ?_⟩
        have := ih2 hq
        simp only [List.filter_cons, ha, Bool.false_eq_true, if_false]
        omega
      · simp only [List.filter_cons, ha, if_true, List.getElem?_cons_succ, List.length_cons]
        exact ⟨ih1, fun hq => Nat.succ_le_succ (ih2 hq)⟩

end Qwt.BinWM
