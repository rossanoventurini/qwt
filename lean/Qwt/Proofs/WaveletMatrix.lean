import Qwt.Spec.Basic
import Qwt.Proofs.WordPart
import Qwt.Proofs.WordBits

/-!
List-level wavelet matrix of arity 4 (core Lean only).

* `stablePart` facts: counting, and where an element lands (`part_pos`).
* `wmLevels`: the digit lists of the levels (what `C01.wm_levels` and C09 speak of).
* `dig`, `rankWM`, `getWM`, `selWM`: the three top-down / bottom-up recursions of the quad
  wavelet matrix over plain lists; `getWM` is proved correct against `s[i]?` here, `rankWM`
  and `selWM` in `HQWMPlain.lean`, through the block invariant of the Huffman-shaped matrix.
-/

namespace Qwt.WM
open Qwt.Spec

theorem countP_lt_succ {α} (key : α → Nat) (d : Nat) (s : List α) :
    s.countP (fun x => key x < d + 1) =
      s.countP (fun x => key x < d) + s.countP (fun x => key x == d) := by
  rw [List.countP_eq_countP_filter_add s _ (fun x => decide (key x < d)), List.countP_filter,
    List.countP_filter]
  congr 1
  · apply List.countP_congr
    intro x _
    simp only [Bool.and_eq_true, decide_eq_true_eq]
    exact ⟨fun h => h.2, fun h => ⟨Nat.lt_succ_of_lt h, h⟩⟩
  · apply List.countP_congr
    intro x _
    simp only [Bool.and_eq_true, decide_eq_true_eq, Bool.not_eq_true', decide_eq_false_iff_not,
      beq_iff_eq]
    exact ⟨fun h => Nat.le_antisymm (Nat.le_of_lt_succ h.1) (Nat.le_of_not_lt h.2),
      fun h => ⟨h ▸ Nat.lt_succ_self _, h ▸ Nat.lt_irrefl _⟩⟩

theorem filter_getElem? {α} (P : α → Bool) (s : List α) {i : Nat} {x : α} (hx : s[i]? = some x)
    (hP : P x = true) : (s.filter P)[(s.take i).countP P]? = some x := by
  induction s generalizing i with
  | nil => cases hx
  | cons y ys ih =>
    cases i with
    | zero =>
      obtain rfl : y = x := by simpa using hx
      simp [hP]
    | succ i =>
      rw [List.getElem?_cons_succ] at hx
      by_cases hy : P y = true
      · simp [List.take_succ_cons, hy, ih hx]
      · simp [List.take_succ_cons, hy, ih hx]

theorem stablePart_succ {α} (key : α → Nat) (r : Nat) (s : List α) :
    stablePart key (r + 1) s = stablePart key r s ++ s.filter (fun x => key x == r) := by
  simp [stablePart, List.range_succ, List.flatMap_append]

theorem countP_stablePart_all {α} (key : α → Nat) (P : α → Bool) (r : Nat) (s : List α)
    (h : ∀ x ∈ s, key x < r) : (stablePart key r s).countP P = s.countP P :=
  (Proofs.Word.stablePart_perm key r s h).countP_eq P

theorem length_stablePart {α} (key : α → Nat) (r : Nat) (s : List α) :
    (stablePart key r s).length = occsSmaller key r s := by
  rw [(Proofs.Word.stablePart_perm_lt key r s).length_eq, occsSmaller, List.countP_eq_length_filter]

theorem filter_stablePart {α} (key : α → Nat) (p : α → Bool) (r : Nat) (s : List α) :
    (stablePart key r s).filter p = stablePart key r (s.filter p) := by
  unfold stablePart
  rw [List.filter_flatMap]
  congr 1
  funext d
  rw [List.filter_filter, List.filter_filter]
  congr 1
  funext x
  exact Bool.and_comm _ _

theorem stablePart_split {α} (key : α → Nat) (s : List α) {d r : Nat} (h : d < r) :
    ∃ C, stablePart key r s = stablePart key d s ++ (s.filter (fun x => key x == d) ++ C) := by
  induction r with
  | zero => omega
  | succ r ih =>
    by_cases hd : d = r
    · subst hd; exact ⟨[], by simp [stablePart_succ]⟩
    · obtain ⟨C, hC⟩ := ih (by omega)
      exact ⟨C ++ s.filter (fun x => key x == r), by rw [stablePart_succ, hC]; simp⟩

theorem length_stablePart_all {α} (key : α → Nat) (r : Nat) (s : List α)
    (h : ∀ x ∈ s, key x < r) : (stablePart key r s).length = s.length :=
  (Proofs.Word.stablePart_perm key r s h).length_eq

theorem mem_stablePart {α} (key : α → Nat) (r : Nat) (s : List α) (x : α)
    (h : x ∈ stablePart key r s) : x ∈ s :=
  Proofs.Word.mem_of_mem_stablePart h

theorem rank_map {α} (key : α → Nat) (d i : Nat) (s : List α) :
    rank d i (s.map key) = (s.take i).countP (fun x => key x == d) := by
  simp only [rank, ← List.map_take, List.count_eq_countP, List.countP_map]
  rfl

theorem occsSmaller_map {α} (key : α → Nat) (d : Nat) (s : List α) :
    occsSmaller id d (s.map key) = occsSmaller key d s := by
  simp only [occsSmaller, List.countP_map]; rfl

theorem rank_le_length {α} [BEq α] (c : α) (i : Nat) (s : List α) : rank c i s ≤ i :=
  Spec.rank_le c s i

theorem off_add_countP_le {α} (key : α → Nat) (d : Nat) (s : List α) :
    occsSmaller key d s + s.countP (fun x => key x == d) ≤ s.length := by
  simp only [occsSmaller]; rw [← countP_lt_succ]; exact List.countP_le_length

theorem off_add_rank_le {α} (key : α → Nat) (d i : Nat) (s : List α) :
    rank d i (s.map key) + occsSmaller id d (s.map key) ≤ s.length := by
  rw [rank_map, occsSmaller_map]
  have := off_add_countP_le key d s
  have := (List.take_sublist i s).countP_le (p := fun x => key x == d)
  omega

theorem part_pos {α} (key : α → Nat) (s : List α) {d r i : Nat} {x : α} (hd : d < r)
    (hx : s[i]? = some x) (hk : key x = d) :
    (stablePart key r s)[rank d i (s.map key) + occsSmaller id d (s.map key)]? = some x := by
  obtain ⟨C, hC⟩ := stablePart_split key s hd
  have h := filter_getElem? (fun x => key x == d) s hx (by simpa using hk)
  rw [hC, rank_map, occsSmaller_map, ← length_stablePart, Nat.add_comm,
    List.getElem?_append_right (Nat.le_add_right _ _), Nat.add_sub_cancel_left,
    List.getElem?_append_left (List.getElem?_eq_some_iff.mp h).1]
  exact h

/-- the base-4 digit of `x` at bit offset `sh` -/
def dig (sh x : Nat) : Nat := (x >>> sh) % 4

/-! The downward passes of `select` carry the bit offset as an `Int` that goes negative below
the last level: with `m` levels left it is `2 * m - 2`, and the walks are by induction on `m`. -/

theorem shift_succ (m : Nat) : ((2 * (m + 1) : Nat) : Int) - 2 = ((2 * m : Nat) : Int) := by omega

theorem shift_ge (m : Nat) : ((2 * (m + 1) : Nat) : Int) ≥ 2 := by omega

theorem dig_lt (sh x : Nat) : dig sh x < 4 := Nat.mod_lt _ (by decide)

theorem dig_eq (f x : Nat) : dig (2 * f) x = x / 4 ^ f % 4 := by
  simp [dig, Nat.shiftRight_eq_div_pow, Nat.pow_mul]

theorem mod_pow_succ_eq_iff (f x y : Nat) :
    x % 4 ^ (f + 1) = y % 4 ^ (f + 1) ↔ dig (2 * f) x = dig (2 * f) y ∧ x % 4 ^ f = y % 4 ^ f := by
  rw [dig_eq, dig_eq, Nat.pow_succ]
  constructor
  · intro h
    have h1 := congrArg (· / 4 ^ f) h
    have h2 := congrArg (· % 4 ^ f) h
    simp only [Nat.mod_mul_right_div_self, Nat.mod_mul_right_mod] at h1 h2
    exact ⟨h1, h2⟩
  · rintro ⟨h1, h2⟩
    rw [Nat.mod_mul, Nat.mod_mul, h1, h2]

theorem div_pow_step (f x : Nat) : x / 4 ^ f = 4 * (x / 4 ^ (f + 1)) + dig (2 * f) x := by
  rw [dig_eq, Nat.pow_succ, ← Nat.div_div_eq_div_mul]; omega

/-! ### the list-level quad wavelet matrix

`r` is the number of levels that remain; the level with `f + 1` remaining levels uses the
digit at bit offset `2 * f`. -/

/-- where position `j` of a level with digits `ds` goes in the next level when following
    digit `d` (`rank + occs_smaller`) -/
def nextPos (d : Nat) (ds : List Nat) (j : Nat) : Nat :=
  rank d j ds + occsSmaller id d ds

/-- the digit lists of the `r` levels below (and including) the one holding `s` -/
def wmLevels : Nat → List Nat → List (List Nat)
  | 0, _ => []
  | f + 1, s => s.map (dig (2 * f)) :: wmLevels f (stablePart (dig (2 * f)) 4 s)

/-- `rank_unchecked`: `(cur_i, cur_p)` walk down, answer `cur_i - cur_p` -/
def rankWM (sym : Nat) : Nat → List Nat → Nat → Nat → Nat
  | 0, _, i, p => i - p
  | f + 1, s, i, p =>
    rankWM sym f (stablePart (dig (2 * f)) 4 s)
      (nextPos (dig (2 * f) sym) (s.map (dig (2 * f))) i)
      (nextPos (dig (2 * f) sym) (s.map (dig (2 * f))) p)

/-- `get_unchecked`: follow index `i` down, collecting the digits in `res`
    (`W` = bit width of the element type; the shift is the model's truncating one) -/
def getWM (W : Nat) : Nat → List Nat → Nat → Nat → Nat
  | 0, _, res, _ => res
  | f + 1, s, res, i =>
    getWM W f (stablePart (dig (2 * f)) 4 s)
      (((res <<< 2) % 2 ^ W) ||| (s.map (dig (2 * f))).getD i 0)
      (nextPos ((s.map (dig (2 * f))).getD i 0) (s.map (dig (2 * f))) i)

theorem getWM_correct (W r : Nat) (s : List Nat) (res i x : Nat) (hx : s[i]? = some x)
    (hW : x < 2 ^ W) (hres : res = x / 4 ^ r) : getWM W r s res i = x := by
  induction r generalizing s res i with
  | zero => simp [getWM, hres]
  | succ f ih =>
    simp only [getWM]
    have hd : (s.map (dig (2 * f))).getD i 0 = dig (2 * f) x := by
      simp [List.getD, List.getElem?_map, hx]
    rw [hd]
    apply ih
    · exact part_pos _ _ (dig_lt _ _) hx rfl
    · have hstep := div_pow_step f x
      have hle : x / 4 ^ f ≤ x := Nat.div_le_self _ _
      have hdl := dig_lt (2 * f) x
      rw [hres, Nat.shiftLeft_eq, Nat.mod_eq_of_lt (by omega), ← Nat.shiftLeft_eq,
        ← Nat.shiftLeft_add_eq_or_of_lt (by omega), Nat.shiftLeft_eq]
      omega

theorem getWM_eq_get (W L : Nat) (s : List Nat) (i x : Nat) (hx : s[i]? = some x)
    (hW : x < 2 ^ W) (hL : x < 4 ^ L) : getWM W L s 0 i = x :=
  getWM_correct W L s 0 i x hx hW (by rw [Nat.div_eq_of_lt hL])

/-- `select`: downward pass computing the block start, upward pass mapping the offset inside
    the block one level up through the level's `select`; the test against `2 ^ 64` is the
    `checked_add` of the crate -/
def selWM (sym : Nat) : Nat → List Nat → Nat → Nat → Option Nat
  | 0, _, _, k => some k
  | f + 1, s, b, k =>
    match selWM sym f (stablePart (dig (2 * f)) 4 s)
        (nextPos (dig (2 * f) sym) (s.map (dig (2 * f))) b) k with
    | none => none
    | some o =>
      if rank (dig (2 * f) sym) b (s.map (dig (2 * f))) + o ≥ 2 ^ 64 then none
      else
        match select (dig (2 * f) sym) (rank (dig (2 * f) sym) b (s.map (dig (2 * f))) + o)
            (s.map (dig (2 * f))) with
        | none => none
        | some p => some (p - b)

/-- a level `select` past `rank d b` answers at or after `b` (so `p - b` never underflows) -/
theorem select_rank_add_ge {α} [BEq α] {d : α} {b o p : Nat} {ds : List α}
    (h : select d (rank d b ds + o) ds = some p) : b ≤ p := by
  induction ds generalizing b p with
  | nil => cases h
  | cons x xs ih =>
    cases b with
    | zero => exact Nat.zero_le p
    | succ b =>
      have hr : rank d (b + 1) (x :: xs) = rank d b xs + (if x == d then 1 else 0) := by
        simp only [rank, List.take_succ_cons, List.count_cons]
      rw [hr] at h
      cases hx : x == d
      · simp only [hx, Bool.false_eq_true, if_false, Nat.add_zero, select] at h
        obtain ⟨q, hq, rfl⟩ := Option.map_eq_some_iff.mp h
        exact Nat.succ_le_succ (ih hq)
      · simp only [hx, if_true, Nat.add_right_comm _ 1 o, select] at h
        obtain ⟨q, hq, rfl⟩ := Option.map_eq_some_iff.mp h
        exact Nat.succ_le_succ (ih hq)

end Qwt.WM
