import Qwt.Model.Iter
import Qwt.Proofs.Basic

/-! The `WTIterator` state machine refines the deque specification, for every history of
`next` / `next_back` / `len` / `nth` / `nth_back` / `count` / `last` calls, whenever
`get_unchecked` returns the indexed element.

A call refines a specification step (`RefinesG`) when it keeps the invariant and acts on the
elements not yet yielded as the step does.  The provided methods (`nth`, `count`, `last`) are
derived once from a refined `next`, for any state type; the calls at the back end are the calls
at the front end of the reversed deque (`RefinesG.reverse`). -/
namespace Qwt.Iter

theorem Out_ofOpt_ok_some (v : Nat) : Out.ofOpt ((Except.ok v : M Nat).map some) = Out.some v := rfl

theorem specStep_nextBack_concat (ys : List Nat) (y : Nat) :
    specStep (ys ++ [y]) .nextBack = (ys, .some y) := by
  simp only [specStep, List.getLast?_concat, List.dropLast_concat]

theorem specStep_nextBack_reverse (rem : List Nat) :
    specStep rem .nextBack =
      ((specStep rem.reverse .next).1.reverse, (specStep rem.reverse .next).2) := by
  rcases List.eq_nil_or_concat rem with rfl | ⟨ys, y, rfl⟩
  · rfl
  · rw [List.concat_eq_append, specStep_nextBack_concat, List.reverse_concat]
    simp only [specStep, List.reverse_reverse]

theorem specStep_nthBack_reverse (k : Nat) (rem : List Nat) :
    specStep rem (.nthBack k) =
      ((specStep rem.reverse (.nth k)).1.reverse, (specStep rem.reverse (.nth k)).2) := by
  simp only [specStep, List.drop_reverse, List.reverse_reverse]

theorem next_out (rem : List Nat) : ∀ f, (specStep rem .next).2 ≠ Out.fault f := by
  intro f; cases rem <;> simp [specStep]

theorem back_out (rem : List Nat) : ∀ f, (specStep rem .nextBack).2 ≠ Out.fault f := by
  intro f; simp only [specStep]; cases rem.getLast? <;> simp

/-- a single-call function on states `σ` implements a specification step on the remaining elements
    `win s`, preserving the invariant (`G`: generic in the state type; `Refines S` is the instance
    for `WTIterator`, the one-ended iterators use the index as state) -/
def RefinesG {σ : Type} (inv : σ → Prop) (win : σ → List Nat) (one : σ → σ × Out)
    (sp : List Nat → List Nat × Out) : Prop :=
  ∀ s, inv s → inv (one s).1 ∧ sp (win s) = (win (one s).1, (one s).2)

section provided
variable {σ : Type} {inv : σ → Prop} {win : σ → List Nat} {one : σ → σ × Out}

/-- the back end of a deque is the front end of the reversed deque -/
theorem RefinesG.reverse {op op' : IterOp}
    (hop : ∀ rem, specStep rem op =
      ((specStep rem.reverse op').1.reverse, (specStep rem.reverse op').2)) :
    RefinesG inv win one (fun rem => specStep rem op) ↔
      RefinesG inv (fun s => (win s).reverse) one (fun rem => specStep rem op') := by
  refine forall_congr' fun s => imp_congr_right fun _ => and_congr_right fun _ => ?_
  simp only [hop, Prod.ext_iff, List.reverse_eq_iff]

theorem RefinesG.next_cases (h1 : RefinesG inv win one (fun rem => specStep rem .next)) {s : σ}
    (hs : inv s) :
    inv (one s).1 ∧ ((win s = [] ∧ win (one s).1 = [] ∧ (one s).2 = .none) ∨
      ∃ x, win s = x :: win (one s).1 ∧ (one s).2 = .some x) := by
  obtain ⟨hinv, h⟩ := h1 s hs
  refine ⟨hinv, ?_⟩
  generalize win s = w at h ⊢
  cases w with
  | nil =>
    obtain ⟨a, b⟩ := Prod.mk.inj h
    exact .inl ⟨rfl, a.symm, b.symm⟩
  | cons x xs =>
    obtain ⟨a, b⟩ := Prod.mk.inj h
    exact .inr ⟨x, by rw [a], b.symm⟩

theorem nth_refines (h1 : RefinesG inv win one (fun rem => specStep rem .next)) (k : Nat) :
    RefinesG inv win (stepNth one k) (fun rem => specStep rem (.nth k)) := by
  induction k with
  | zero =>
    intro s hs
    obtain ⟨hinv, h⟩ := h1 s hs
    refine ⟨hinv, ?_⟩
    rw [stepNth, ← h]
    cases win s <;> rfl
  | succ k ih =>
    intro s hs
    obtain ⟨hinv, ⟨hw, hw', ho⟩ | ⟨x, hw, ho⟩⟩ := h1.next_cases hs
    · -- exhausted: `next` answers `None`, the provided method stops there
      have hstep : stepNth one (k + 1) s = ((one s).1, Out.none) := by
        rw [stepNth]; simp only [ho]
      rw [hstep, hw]
      exact ⟨hinv, Prod.ext hw'.symm rfl⟩
    · have hstep : stepNth one (k + 1) s = stepNth one k (one s).1 := by
        rw [stepNth]; simp only [ho]
      rw [hstep, hw]
      exact ih _ hinv

theorem nthBack_refines (h1 : RefinesG inv win one (fun rem => specStep rem .nextBack)) (k : Nat) :
    RefinesG inv win (stepNth one k) (fun rem => specStep rem (.nthBack k)) :=
  (RefinesG.reverse (specStep_nthBack_reverse k)).mpr
    (nth_refines ((RefinesG.reverse specStep_nextBack_reverse).mp h1) k)

theorem drain_spec (h1 : RefinesG inv win one (fun rem => specStep rem .next)) :
    ∀ fuel s c l, inv s → (win s).length < fuel →
      inv (drain one fuel s c l).1 ∧ win (drain one fuel s c l).1 = [] ∧
        (drain one fuel s c l).2.1 = c + (win s).length ∧
        (drain one fuel s c l).2.2 =
          (match (win s).getLast? with | some x => Out.some x | none => l) := by
  intro fuel
  induction fuel with
  | zero => intro s c l _ h; exact absurd h (Nat.not_lt_zero _)
  | succ fuel ih =>
    intro s c l hs hlen
    obtain ⟨hinv, ⟨hw, hw', ho⟩ | ⟨x, hw, ho⟩⟩ := h1.next_cases hs
    · have hstep : drain one (fuel + 1) s c l = ((one s).1, c, l) := by
        rw [drain]; simp only [ho]
      rw [hstep, hw]
      exact ⟨hinv, hw', rfl, rfl⟩
    · have hstep : drain one (fuel + 1) s c l = drain one fuel (one s).1 (c + 1) (.some x) := by
        rw [drain]; simp only [ho]
      rw [hw, List.length_cons] at hlen
      obtain ⟨a, b, hc, hl⟩ := ih (one s).1 (c + 1) (.some x) hinv (Nat.lt_of_succ_lt_succ hlen)
      rw [hstep, hw]
      refine ⟨a, b, by rw [hc, List.length_cons]; omega, ?_⟩
      rw [hl]
      cases win (one s).1 <;> rfl

theorem count_refines (h1 : RefinesG inv win one (fun rem => specStep rem .next)) (fuel : σ → Nat)
    (hf : ∀ s, inv s → (win s).length < fuel s) :
    RefinesG inv win
      (fun s => ((drain one (fuel s) s 0 .none).1,
        match (drain one (fuel s) s 0 .none).2.2 with
        | .fault f => .fault f
        | _ => .val (drain one (fuel s) s 0 .none).2.1))
      (fun rem => specStep rem .count) := by
  intro s hs
  obtain ⟨a, b, c, d⟩ := drain_spec h1 (fuel s) s 0 .none hs (hf s hs)
  refine ⟨a, ?_⟩
  simp only [specStep, b, c, d]
  cases (win s).getLast? <;> simp

theorem last_refines (h1 : RefinesG inv win one (fun rem => specStep rem .next)) (fuel : σ → Nat)
    (hf : ∀ s, inv s → (win s).length < fuel s) :
    RefinesG inv win
      (fun s => ((drain one (fuel s) s 0 .none).1, (drain one (fuel s) s 0 .none).2.2))
      (fun rem => specStep rem .last) := by
  intro s hs
  obtain ⟨a, b, _, d⟩ := drain_spec h1 (fuel s) s 0 .none hs (hf s hs)
  refine ⟨a, ?_⟩
  simp only [specStep, b, d]
  rfl

theorem history_eq_spec {ι : Type} (stepf : σ → ι → σ × Out) (toOp : ι → IterOp)
    (runf : σ → List ι → List Out) (hnil : ∀ s, runf s [] = [])
    (hcons : ∀ s op ops, runf s (op :: ops) = (stepf s op).2 :: runf (stepf s op).1 ops)
    (h : ∀ op, RefinesG inv win (fun s => stepf s op) (fun rem => specStep rem (toOp op)))
    (ops : List ι) : ∀ s, inv s → runf s ops = specRun (win s) (ops.map toOp) := by
  induction ops with
  | nil => intro s _; rw [hnil]; rfl
  | cons op ops ih =>
    intro s hs
    obtain ⟨hinv, hsp⟩ := h op s hs
    have hsp : specStep (win s) (toOp op) = (win (stepf s op).1, (stepf s op).2) := hsp
    rw [hcons, ih _ hinv, List.map_cons, specRun, hsp]

end provided

/-- the elements not yet yielded -/
def window (S : List Nat) (it : WTIter) : List Nat := (S.drop it.i).take (it.e - it.i)

def Inv (S : List Nat) (it : WTIter) : Prop := it.i ≤ it.e ∧ it.e ≤ S.length

theorem window_length {S : List Nat} {it : WTIter} (h : Inv S it) :
    (window S it).length = it.e - it.i := by
  rw [window, List.length_take, List.length_drop, Nat.min_eq_left (Nat.sub_le_sub_right h.2 _)]

theorem window_nil (S : List Nat) {it : WTIter} (h : ¬ it.i < it.e) : window S it = [] := by
  rw [window, show it.e - it.i = 0 by omega, List.take_zero]

theorem window_cons {S : List Nat} {it : WTIter} (h : it.i < it.e) (he : it.e ≤ S.length) :
    window S it = S.getD it.i 0 :: window S { it with i := it.i + 1 } := by
  have hi : it.i < S.length := Nat.lt_of_lt_of_le h he
  have hn : it.e - it.i = it.e - (it.i + 1) + 1 :=
    (Nat.succ_pred_eq_of_pos (Nat.sub_pos_of_lt h)).symm
  rw [window, List.drop_eq_getElem_cons hi, hn, List.take_succ_cons, getD_of_lt hi]
  rfl

theorem window_concat {S : List Nat} {it : WTIter} (h : it.i < it.e) (he : it.e ≤ S.length) :
    window S it = window S { it with e := it.e - 1 } ++ [S.getD (it.e - 1) 0] := by
  have hi : it.e - 1 < S.length := Nat.lt_of_lt_of_le (Nat.sub_one_lt_of_lt h) he
  have hn : it.e - it.i = it.e - 1 - it.i + 1 := by
    rw [Nat.sub_right_comm, Nat.sub_add_cancel (Nat.sub_pos_of_lt h)]
  rw [window, hn, List.take_add_one, List.getElem?_drop,
    Nat.add_sub_of_le (Nat.le_sub_one_of_lt h), List.getElem?_eq_getElem hi, getD_of_lt hi]
  rfl

abbrev Refines (S : List Nat) (one : WTIter → WTIter × Out) (sp : List Nat → List Nat × Out) : Prop :=
  RefinesG (Inv S) (window S) one sp

section
variable (getU : Nat → M Nat) (S : List Nat) (hget : ∀ i, i < S.length → getU i = .ok (S.getD i 0))
include hget

theorem next_refines : Refines S (stepNext getU) (fun rem => specStep rem .next) := by
  intro it ⟨hie, he⟩
  by_cases h : it.i < it.e
  · rw [stepNext, if_pos h, window_cons h he, hget it.i (Nat.lt_of_lt_of_le h he)]
    exact ⟨⟨h, he⟩, rfl⟩
  · rw [stepNext, if_neg h, window_nil S h]
    exact ⟨⟨hie, he⟩, rfl⟩

theorem back_refines : Refines S (stepBack getU) (fun rem => specStep rem .nextBack) := by
  intro it ⟨hie, he⟩
  by_cases h : it.i < it.e
  · rw [stepBack, if_pos h, window_concat h he,
      hget (it.e - 1) (Nat.lt_of_lt_of_le (Nat.sub_one_lt_of_lt h) he)]
    exact ⟨⟨Nat.le_sub_one_of_lt h, Nat.le_trans (Nat.sub_le _ _) he⟩, specStep_nextBack_concat _ _⟩
  · rw [stepBack, if_neg h, window_nil S h]
    exact ⟨⟨hie, he⟩, rfl⟩

theorem step_refines (op : IterOp) :
    Refines S (fun it => step getU it op) (fun rem => specStep rem op) := by
  have hfuel : ∀ it, Inv S it → (window S it).length < it.e - it.i + 1 := fun it hi => by
    rw [window_length hi]; exact Nat.lt_succ_self _
  cases op with
  | next => exact next_refines getU S hget
  | nextBack => exact back_refines getU S hget
  | len =>
    intro it hi
    refine ⟨hi, ?_⟩
    simp only [step, sub_ok hi.1, specStep, window_length hi]
    rfl
  | nth k => exact nth_refines (next_refines getU S hget) k
  | nthBack k => exact nthBack_refines (back_refines getU S hget) k
  | count => exact count_refines (next_refines getU S hget) (fun it => it.e - it.i + 1) hfuel
  | last => exact last_refines (next_refines getU S hget) (fun it => it.e - it.i + 1) hfuel

theorem run_eq_spec (ops : List IterOp) :
    ∀ it : WTIter, it.i ≤ it.e → it.e ≤ S.length →
      run getU it ops = specRun ((S.drop it.i).take (it.e - it.i)) ops := by
  intro it hie he
  have h := history_eq_spec (step getU) id (run getU) (fun _ => rfl) (fun _ _ _ => rfl)
    (step_refines getU S hget) ops it ⟨hie, he⟩
  rwa [List.map_id] at h

end

section
variable (getO : Nat → M (Option Nat)) (S : List Nat) (hget : ∀ i, getO i = .ok S[i]?)
include hget

theorem fwdNext_refines :
    RefinesG (fun _ : Nat => True) (fun i => S.drop i) (fwdNext getO) (fun rem => specStep rem .next) := by
  intro i _
  refine ⟨trivial, ?_⟩
  show specStep (S.drop i) .next = (S.drop (i + 1), Out.ofOpt (getO i))
  rw [hget i]
  by_cases h : i < S.length
  · rw [List.drop_eq_getElem_cons h, List.getElem?_eq_getElem h]
    rfl
  · rw [List.drop_eq_nil_of_le (Nat.le_of_not_lt h), List.getElem?_eq_none (Nat.le_of_not_lt h)]
    exact Prod.ext (List.drop_eq_nil_of_le (by omega)).symm rfl

theorem fwdStep_refines (op : FwdOp) :
    RefinesG (fun _ : Nat => True) (fun i => S.drop i) (fun i => fwdStep getO S.length i op)
      (fun rem => specStep rem op.toIterOp) := by
  have hfuel : ∀ i, True → (S.drop i).length < S.length - i + 1 := fun i _ => by
    rw [List.length_drop]; exact Nat.lt_succ_self _
  cases op with
  | next => exact fwdNext_refines getO S hget
  | nth k => exact nth_refines (fwdNext_refines getO S hget) k
  | count => exact count_refines (fwdNext_refines getO S hget) (fun i => S.length - i + 1) hfuel
  | last => exact last_refines (fwdNext_refines getO S hget) (fun i => S.length - i + 1) hfuel

theorem fwdRun_eq_spec (ops : List FwdOp) :
    ∀ i, fwdRun getO S.length i ops = specRun (S.drop i) (ops.map FwdOp.toIterOp) := fun i =>
  history_eq_spec (fwdStep getO S.length) FwdOp.toIterOp (fwdRun getO S.length) (fun _ => rfl)
    (fun _ _ _ => rfl) (fwdStep_refines getO S hget) ops i trivial

end

end Qwt.Iter
