import Qwt.Model.Basic

/-! The fault monad `M` and its primitives as rewrite rules, a successful `do` block or `foldlM` read backwards,
    and the `getD` / `push` / `modify` facts about arrays that several layers share. -/
namespace Qwt

/-- decidable equality of model results (for `decide` on concrete witnesses) -/
instance decEqExcept {ε α} [DecidableEq ε] [DecidableEq α] : DecidableEq (Except ε α)
  | .ok a, .ok b => if h : a = b then isTrue (by rw [h]) else isFalse (fun e => h (Except.ok.inj e))
  | .error a, .error b =>
    if h : a = b then isTrue (by rw [h]) else isFalse (fun e => h (Except.error.inj e))
  | .ok _, .error _ => isFalse (fun e => by cases e)
  | .error _, .ok _ => isFalse (fun e => by cases e)

theorem ok_bind {α β : Type} (a : α) (f : α → M β) : (Except.ok a >>= f) = f a := rfl

theorem pure_bind' {α β : Type} (a : α) (f : α → M β) : ((pure a : M α) >>= f) = f a := rfl

theorem idx_ok {α : Type} {a : Array α} {i : Nat} (h : i < a.size) : idx a i = .ok a[i] :=
  dif_pos h

theorem idx_of_some {α : Type} {a : Array α} {i : Nat} {x : α} (h : a[i]? = some x) :
    idx a i = .ok x := by
  obtain ⟨hi, rfl⟩ := Array.getElem?_eq_some_iff.1 h
  exact idx_ok hi

theorem uidx_ok {α : Type} {a : Array α} {i : Nat} (h : i < a.size) : uidx a i = .ok a[i] :=
  dif_pos h

theorem idx_getD {α : Type} {a : Array α} {i : Nat} (d : α) (h : i < a.size) :
    idx a i = .ok (a.getD i d) := by
  rw [idx_ok h, Array.getD, dif_pos h]
  rfl

theorem uidx_getD {α : Type} {a : Array α} {i : Nat} (d : α) (h : i < a.size) :
    uidx a i = .ok (a.getD i d) := by
  rw [uidx_ok h, Array.getD, dif_pos h]
  rfl

theorem getElem!_eq_getD_zero (a : Array Nat) (i : Nat) : a[i]! = a.getD i 0 := by
  rw [Array.getD_eq_getD_getElem?, getElem!_def]
  cases a[i]? <;> rfl

theorem sub_ok {a b : Nat} (h : b ≤ a) : sub a b = .ok (a - b) := if_pos h

theorem add64_ok {a b : Nat} (h : a + b < two64) : add64 a b = .ok (a + b) := if_pos h

theorem mul64_ok {a b : Nat} (h : a * b < two64) : mul64 a b = .ok (a * b) := if_pos h

theorem bind_ok_inv {α β : Type} {x : M α} {f : α → M β} {b : β} (e : x >>= f = .ok b) :
    ∃ a, x = .ok a ∧ f a = .ok b := by
  cases x with
  | error err => cases e
  | ok a => exact ⟨a, rfl, e⟩

theorem foldlM_inv {σ α : Type} (I : Nat → σ → Prop) (f : σ → α → M σ)
    (hf : ∀ k st a st', I k st → f st a = .ok st' → I (k + 1) st') :
    ∀ (l : List α) (k : Nat) (st st' : σ), I k st → l.foldlM f st = .ok st' →
      I (k + l.length) st' := by
  intro l
  induction l with
  | nil => intro k st st' hi h; cases h; exact hi
  | cons a l ih =>
    intro k st st' hi h
    rw [List.foldlM_cons] at h
    obtain ⟨st1, h1, h2⟩ := bind_ok_inv h
    rw [List.length_cons, ← Nat.add_assoc, Nat.add_right_comm]
    exact ih (k + 1) st1 st' (hf k st a st1 hi h1) h2

/-- A loop whose body keeps the builder or pushes one item is a push loop over a list of items no
    longer than the input: this turns the per-element loops of the level constructors, which skip
    elements, into the plain push loops the leaf theorems speak of. -/
theorem foldlM_pushes {β σ δ : Type} (push : β → δ → M β) (body : β → σ → M β)
    (hbody : ∀ b s b', body b s = .ok b' → b' = b ∨ ∃ d, push b d = .ok b') :
    ∀ (l : List σ) (b0 b : β), l.foldlM body b0 = .ok b →
      ∃ ds : List δ, ds.length ≤ l.length ∧ ds.foldlM push b0 = .ok b := by
  intro l
  induction l with
  | nil => intro b0 b h; cases h; exact ⟨[], Nat.le_refl _, rfl⟩
  | cons s l ih =>
    intro b0 b h
    rw [List.foldlM_cons] at h
    obtain ⟨b1, h1, h2⟩ := bind_ok_inv h
    obtain ⟨ds, hl, hf⟩ := ih b1 b h2
    rcases hbody b0 s b1 h1 with rfl | ⟨d, hp⟩
    · exact ⟨ds, Nat.le_succ_of_le hl, hf⟩
    · refine ⟨d :: ds, Nat.succ_le_succ hl, ?_⟩
      rw [List.foldlM_cons, hp]; exact hf

theorem all_of_getD {α : Type} {a : Array α} (d : α) {P : α → Prop}
    (h : ∀ i, i < a.size → P (a.getD i d)) : ∀ x ∈ a.toList, P x := by
  intro x hx
  obtain ⟨j, hj, rfl⟩ := List.mem_iff_getElem.mp hx
  simp only [Array.length_toList] at hj
  have := h j hj
  simpa [Array.getD, hj] using this

/-- a `let x ← if c then a else b` of the model: the rest of the block is copied into both branches -/
theorem ite_bind {α β : Type} (c : Prop) [Decidable c] (a b : M α) (k : α → M β) :
    (if c then a >>= k else b >>= k) = (if c then a else b) >>= k := by
  split <;> rfl

theorem dbgAssert_true (dbg : Bool) {c : Bool} (h : c = true) : dbgAssert dbg c = .ok () := by
  subst h
  unfold dbgAssert
  simp

theorem guardM_pos {p : Prop} [Decidable p] (f : Fault) (h : p) : guardM (decide p) f = .ok () := by
  rw [guardM, decide_eq_true h]
  rfl

theorem getD_push_lt {α : Type} {d : α} (a : Array α) (x : α) (i : Nat) (h : i < a.size) :
    (a.push x).getD i d = a.getD i d := by
  rw [Array.getD_eq_getD_getElem?, Array.getD_eq_getD_getElem?, Array.getElem?_push_lt h,
    Array.getElem?_eq_getElem h]

theorem getD_push_eq {α : Type} {d : α} (a : Array α) (x : α) : (a.push x).getD a.size d = x := by
  rw [Array.getD_eq_getD_getElem?, Array.getElem?_push_size]
  rfl

theorem getD_append_left {α : Type} (a b : Array α) (j : Nat) (d : α) (h : j < a.size) :
    (a ++ b).getD j d = a.getD j d := by
  rw [Array.getD_eq_getD_getElem?, Array.getD_eq_getD_getElem?, Array.getElem?_append_left h]

theorem getD_append_right {α : Type} (a b : Array α) (j : Nat) (d : α) (h : a.size ≤ j) :
    (a ++ b).getD j d = b.getD (j - a.size) d := by
  rw [Array.getD_eq_getD_getElem?, Array.getD_eq_getD_getElem?, Array.getElem?_append_right h]

theorem getD_map {α β : Type} (a : Array α) (f : α → β) (j : Nat) (d : α) (d' : β) (h : j < a.size) :
    (a.map f).getD j d' = f (a.getD j d) := by
  rw [Array.getD_eq_getD_getElem?, Array.getD_eq_getD_getElem?, Array.getElem?_map]
  simp [h]

theorem getD_modify {α : Type} (a : Array α) (i j : Nat) (f : α → α) (d : α) :
    (a.modify i f).getD j d = if i = j ∧ j < a.size then f (a.getD j d) else a.getD j d := by
  rw [Array.getD_eq_getD_getElem?, Array.getD_eq_getD_getElem?, Array.getElem?_modify]
  by_cases hij : i = j
  · subst hij
    by_cases hs : i < a.size
    · simp [hs]
    · simp [hs]
  · simp [hij]

theorem getD_modify_succ {a : Array Nat} {x c : Nat} (hc : c < a.size) :
    (a.modify x (· + 1)).getD c 0 = a.getD c 0 + if x = c then 1 else 0 := by
  rw [getD_modify]
  by_cases h : x = c
  · rw [if_pos ⟨h, hc⟩, if_pos h]
  · rw [if_neg (fun hh => h hh.1), if_neg h]; rfl

/-- a loop modifying the `n` entries from `base` on, entry `base + i` by `g i` -/
theorem size_foldl_modify {α : Type} (a : Array α) (base : Nat) (g : Nat → α → α) (n : Nat) :
    ((List.range n).foldl (fun s i => s.modify (base + i) (g i)) a).size = a.size := by
  induction n with
  | zero => rfl
  | succ n ih =>
    rw [List.range_succ, List.foldl_append, List.foldl_cons, List.foldl_nil, Array.size_modify, ih]

theorem getD_foldl_modify {α : Type} (a : Array α) (base : Nat) (g : Nat → α → α) (d : α) (n t : Nat) :
    ((List.range n).foldl (fun s i => s.modify (base + i) (g i)) a).getD t d =
      if base ≤ t ∧ t < base + n ∧ t < a.size then g (t - base) (a.getD t d) else a.getD t d := by
  induction n with
  | zero => rw [if_neg (by omega)]; rfl
  | succ n ih =>
    rw [List.range_succ, List.foldl_append, List.foldl_cons, List.foldl_nil, getD_modify,
      size_foldl_modify, ih]
    by_cases h : base + n = t ∧ t < a.size
    · rw [if_pos h, if_neg (by omega), if_pos (by omega), ← h.1, Nat.add_sub_cancel_left]
    · rw [if_neg h]; exact ite_congr (propext (by omega)) (fun _ => rfl) (fun _ => rfl)

theorem forall_mem_push {α : Type} {P : α → Prop} {a : Array α} {x : α} (ha : ∀ y ∈ a.toList, P y)
    (hx : P x) : ∀ y ∈ (a.push x).toList, P y := by
  intro y hy
  rw [Array.toList_push, List.mem_append, List.mem_singleton] at hy
  rcases hy with h | rfl
  · exact ha y h
  · exact hx

theorem getD_of_lt {α : Type} {S : List α} {i : Nat} {d : α} (hi : i < S.length) :
    S.getD i d = S[i] := by
  rw [List.getD_eq_getElem?_getD, List.getElem?_eq_getElem hi, Option.getD_some]

/-- The constructor theorems have the form `∃ v, new … = .ok v ∧ P v`; their users hold
    `new … = .ok v` and want `P v`. -/
theorem of_exists_ok {α : Type} {x : M α} {P : α → Prop} (h : ∃ v, x = .ok v ∧ P v) {v : α}
    (hx : x = .ok v) : P v := by
  obtain ⟨v', e, hp⟩ := h
  cases hx.symm.trans e
  exact hp

end Qwt

/-! Two lists answering `get` alike are equal; the "no fault" reading of a call that returns a value
    (used by the summaries C04, C10, C19). -/
namespace Qwt.Cor
open Qwt

theorem ok_inj {α : Type} {a b : α} (h : (Except.ok a : M α) = .ok b) : a = b := by
  cases h; rfl

/-- two lists with the same `get?` function are equal (the form in which the `get_ok`
    theorems deliver it) -/
theorem list_eq_of_get {α : Type} {S S' : List α} {g : Nat → M (Option α)}
    (h1 : ∀ i, g i = .ok S[i]?) (h2 : ∀ i, g i = .ok S'[i]?) : S = S' := by
  apply List.ext_getElem?
  intro i
  have := h1 i
  rw [h2 i] at this
  exact (ok_inj this).symm

theorem list_eq_of_get2 {α : Type} {S S' : List α} {g g' : Nat → M (Option α)}
    (h1 : ∀ i, g i = .ok S[i]?) (h2 : ∀ i, g' i = .ok S'[i]?) (hg : ∀ i, g i = g' i) :
    S = S' :=
  list_eq_of_get h1 (fun i => by rw [hg i]; exact h2 i)

theorem no_fault {α : Type} {x : M α} {v : α} (h : x = .ok v) : ∀ f, x ≠ .error f := by
  intro f hf; rw [h] at hf; cases hf

theorem total_iff {α : Type} (x : M α) : (∃ v, x = .ok v) ↔ ∀ f, x ≠ .error f := by
  constructor
  · rintro ⟨v, h⟩; exact no_fault h
  · intro h
    cases x with
    | ok v => exact ⟨v, rfl⟩
    | error e => exact absurd rfl (h e)

end Qwt.Cor
