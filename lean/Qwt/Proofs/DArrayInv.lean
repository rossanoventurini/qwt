import Qwt.Model.DArray
import Qwt.Proofs.Basic

/-!
The inventory invariant of `DArray` (C07): `chunks`, `everyNth`, and the
`flushBlock` fold.  The central statement is `FoldInv`: after flushing the groups `cs`

* `blockInventory` has one entry per group,
* `subblockInventory` has `⌈|c|/32⌉` entries per group `c`, *dense or sparse* (alignment),
* the entries of a dense group are its first position and the 16-bit offsets of every
  32nd position; a sparse group stores `-(off)-1` and all its positions from `off` on in
  `overflowPositions`.
-/
namespace Qwt.DAProofs
open Qwt Qwt.DA Qwt.Extracted

theorem daBlockSize_eq : daBlockSize = 1024 := by decide
theorem daSubblockSize_eq : daSubblockSize = 32 := by decide
theorem daMaxInBlockDistance_eq : daMaxInBlockDistance = 65536 := by decide

theorem chunks_nil (n : Nat) : chunks n [] = [] := by
  rw [chunks, dif_pos (Or.inr rfl)]

theorem chunks_cons {n : Nat} (hn : 0 < n) {l : List Nat} (hl : l ≠ []) :
    chunks n l = l.take n :: chunks n (l.drop n) := by
  rw [chunks, dif_neg (not_or.mpr ⟨Nat.ne_of_gt hn, hl⟩)]

theorem chunks_getElem? (n : Nat) (hn : 0 < n) (l : List Nat) (g : Nat) :
    (chunks n l)[g]? = if n * g < l.length then some ((l.drop (n * g)).take n) else none := by
  induction g generalizing l with
  | zero =>
    by_cases hl : l = []
    · subst hl; rw [chunks_nil]; rfl
    · rw [chunks_cons hn hl, Nat.mul_zero, if_pos (List.length_pos_iff.mpr hl)]
      rfl
  | succ g ih =>
    by_cases hl : l = []
    · subst hl; rw [chunks_nil]; rfl
    · have hpos : 0 < l.length := List.length_pos_iff.mpr hl
      rw [chunks_cons hn hl, List.getElem?_cons_succ, ih, List.length_drop, List.drop_drop,
        Nat.mul_succ, Nat.add_comm (n * g) n]
      by_cases h : n * g < l.length - n
      · rw [if_pos h, if_pos (by omega)]
      · rw [if_neg h, if_neg (by omega)]

theorem chunks_ne_nil (n : Nat) (hn : 0 < n) (l : List Nat) :
    ∀ c ∈ chunks n l, c ≠ [] := by
  intro c hc
  obtain ⟨g, hg⟩ := List.getElem?_of_mem hc
  rw [chunks_getElem? n hn] at hg
  split at hg
  · rename_i hlt
    cases hg
    intro h
    have := congrArg List.length h
    simp only [List.length_take, List.length_drop, List.length_nil] at this
    omega
  · cases hg

theorem chunks_flatten (n : Nat) (hn : 0 < n) (l : List Nat) : (chunks n l).flatten = l := by
  induction hk : l.length using Nat.strongRecOn generalizing l with
  | _ k ih =>
    by_cases hl : l = []
    · subst hl; rw [chunks_nil]; rfl
    · have hpos := List.length_pos_iff.mpr hl
      rw [chunks_cons hn hl, List.flatten_cons,
        ih _ (by rw [List.length_drop]; omega) (l.drop n) rfl, List.take_append_drop]

theorem lt_chunks_length (n : Nat) (hn : 0 < n) (l : List Nat) (g : Nat) :
    g < (chunks n l).length ↔ n * g < l.length := by
  rw [← Nat.not_le, ← List.getElem?_eq_none_iff, chunks_getElem? n hn]
  split <;> simp [*]

theorem chunks_length (n : Nat) (hn : 0 < n) (l : List Nat) :
    (chunks n l).length = (l.length + n - 1) / n := by
  have h1 := mt (lt_chunks_length n hn l (chunks n l).length).mpr (Nat.lt_irrefl _)
  have h2 := lt_chunks_length n hn l ((chunks n l).length - 1)
  refine (Nat.div_eq_of_lt_le ?_ ?_).symm
  · rw [Nat.mul_comm]
    by_cases h0 : (chunks n l).length = 0
    · rw [h0]; omega
    · have := h2.mp (by omega)
      rw [Nat.mul_sub_one] at this
      omega
  · rw [Nat.succ_mul, Nat.mul_comm]
    omega

theorem everyNth_length (step : Nat) (l : List Nat) :
    (everyNth step l).length = (l.length + step - 1) / step := by
  simp [everyNth]

theorem everyNth_getElem? (step : Nat) (l : List Nat) (j : Nat)
    (hj : j < (l.length + step - 1) / step) :
    (everyNth step l)[j]? = some (l.getD (j * step) 0) := by
  simp [everyNth, hj]

theorem getElem?_push_of_some {α} {a : Array α} {i : Nat} {v x : α} (h : a[i]? = some v) :
    (a.push x)[i]? = some v := by
  obtain ⟨hi, rfl⟩ := Array.getElem_of_getElem? h
  exact Array.getElem?_push_lt hi

theorem getElem?_append_of_some {α} {a b : Array α} {i : Nat} {v : α} (h : a[i]? = some v) :
    (a ++ b)[i]? = some v := by
  obtain ⟨hi, rfl⟩ := Array.getElem_of_getElem? h
  rw [Array.getElem?_append_left hi, Array.getElem?_eq_getElem hi]

theorem getElem?_append_add {α} (a b : Array α) (j : Nat) :
    (a ++ b)[a.size + j]? = b[j]? := by
  rw [Array.getElem?_append_right (Nat.le_add_right _ _), Nat.add_sub_cancel_left]

def slots (c : List Nat) : Nat := (c.length + 31) / 32

theorem lt_slots {c : List Nat} {j : Nat} (h : 32 * j < c.length) : j < slots c := by
  unfold slots
  omega

def subOff (cs : List (List Nat)) (g : Nat) : Nat := ((cs.take g).map slots).sum

/-- the dense/sparse test of `flush_block`: last − first of a (non-empty) group -/
def isDense (c : List Nat) : Prop := c.getD (c.length - 1) 0 - c.getD 0 0 < 65536

instance (c : List Nat) : Decidable (isDense c) := by
  unfold isDense; infer_instance

/-- what the non-empty group `c`, stored as group number `g` with its sub-block entries from
    slot `so` on, looks like in `inv` -/
def GroupOK (inv : Inventories) (g so : Nat) (c : List Nat) : Prop :=
  (isDense c →
      inv.blockInventory[g]? = some (Int.ofNat (c.getD 0 0)) ∧
      ∀ j, j < slots c →
        inv.subblockInventory[so + j]? = some ((c.getD (j * 32) 0 - c.getD 0 0) % 65536))
  ∧ (¬ isDense c →
      ∃ off : Nat, inv.blockInventory[g]? = some (-(Int.ofNat off) - 1) ∧
        ∀ j, j < c.length → inv.overflowPositions[off + j]? = some (c.getD j 0))

structure FoldInv (cs : List (List Nat)) (inv : Inventories) : Prop where
  bsize : inv.blockInventory.size = cs.length
  ssize : inv.subblockInventory.size = (cs.map slots).sum
  grp : ∀ g c, cs[g]? = some c → GroupOK inv g (subOff cs g) c

theorem foldInv_nil : FoldInv [] {} where
  bsize := rfl
  ssize := rfl
  grp := by intro g c h; simp at h

/-- A flush appends one block entry, `slots` sub-block entries whatever the kind of the group,
    and the positions of a sparse group. -/
theorem flushBlock_cons (inv : Inventories) (first : Nat) (rest : List Nat) :
    flushBlock inv (first :: rest) =
      { inv with
        blockInventory := inv.blockInventory.push
          (if isDense (first :: rest) then Int.ofNat first
           else -(Int.ofNat inv.overflowPositions.size) - 1)
        subblockInventory := inv.subblockInventory ++
          (if isDense (first :: rest) then
            ((everyNth 32 (first :: rest)).map (fun p => (p - first) % 65536)).toArray
           else Array.replicate (slots (first :: rest)) 65535)
        overflowPositions := inv.overflowPositions ++
          (if isDense (first :: rest) then #[] else (first :: rest).toArray) } := by
  have hlast : (first :: rest).getLast?.getD first
      = (first :: rest).getD ((first :: rest).length - 1) 0 := by
    have hlen : 0 < (first :: rest).length := Nat.succ_pos _
    rw [List.getLast?_eq_getElem?, getD_of_lt (Nat.sub_lt hlen Nat.one_pos),
      List.getElem?_eq_getElem (Nat.sub_lt hlen Nat.one_pos)]
    rfl
  simp only [flushBlock, hlast, daSubblockSize_eq, daMaxInBlockDistance_eq]
  by_cases hd : isDense (first :: rest)
  · rw [if_pos hd, if_pos hd, if_pos hd, Array.append_empty]
    exact if_pos hd
  · rw [if_neg hd, if_neg hd, if_neg hd]
    exact if_neg hd

theorem groupOK_mono {inv inv' : Inventories} {g so : Nat} {c : List Nat}
    (hb : ∀ (i : Nat) v, inv.blockInventory[i]? = some v → inv'.blockInventory[i]? = some v)
    (hs : ∀ (i : Nat) v, inv.subblockInventory[i]? = some v → inv'.subblockInventory[i]? = some v)
    (ho : ∀ (i : Nat) v, inv.overflowPositions[i]? = some v → inv'.overflowPositions[i]? = some v)
    (h : GroupOK inv g so c) : GroupOK inv' g so c := by
  refine ⟨fun hd => ?_, fun hd => ?_⟩
  · obtain ⟨h1, h2⟩ := h.1 hd
    exact ⟨hb _ _ h1, fun j hj => hs _ _ (h2 j hj)⟩
  · obtain ⟨off, h1, h2⟩ := h.2 hd
    exact ⟨off, hb _ _ h1, fun j hj => ho _ _ (h2 j hj)⟩

theorem subOff_append (cs : List (List Nat)) (c : List Nat) (g : Nat) (hg : g ≤ cs.length) :
    subOff (cs ++ [c]) g = subOff cs g := by
  unfold subOff
  rw [List.take_append_of_le_length hg]

theorem subOff_length (cs : List (List Nat)) : subOff cs cs.length = (cs.map slots).sum := by
  unfold subOff; rw [List.take_length]

theorem foldInv_step {cs : List (List Nat)} {inv : Inventories} (h : FoldInv cs inv)
    (c : List Nat) (hc : c ≠ []) : FoldInv (cs ++ [c]) (flushBlock inv c) := by
  obtain ⟨first, rest, rfl⟩ := List.exists_cons_of_ne_nil hc
  rw [flushBlock_cons]
  refine ⟨?_, ?_, ?_⟩
  · show (inv.blockInventory.push _).size = _
    rw [Array.size_push, h.bsize, List.length_append]
    rfl
  · show (inv.subblockInventory ++ _).size = _
    rw [Array.size_append, h.ssize, List.map_append, List.sum_append]
    show _ + _ = _ + (slots (first :: rest) + 0)
    rw [Nat.add_zero]
    congr 1
    split
    · rw [List.size_toArray, List.length_map, everyNth_length]
      rfl
    · rw [Array.size_replicate]
  · intro g c' hg
    rcases Nat.lt_trichotomy g cs.length with hlt | rfl | hgt
    · -- an earlier group: its entries are still there
      rw [List.getElem?_append_left hlt] at hg
      rw [subOff_append _ _ _ (Nat.le_of_lt hlt)]
      exact groupOK_mono (fun i v hv => getElem?_push_of_some hv)
        (fun i v hv => getElem?_append_of_some hv) (fun i v hv => getElem?_append_of_some hv)
        (h.grp g c' hg)
    · -- the new group: what was appended
      rw [List.getElem?_concat_length] at hg
      cases hg
      rw [subOff_append _ _ _ (Nat.le_refl _), subOff_length, ← h.ssize, ← h.bsize]
      refine ⟨fun hd => ⟨?_, fun j hj => ?_⟩,
        fun hd => ⟨inv.overflowPositions.size, ?_, fun j hj => ?_⟩⟩
      · show (inv.blockInventory.push _)[inv.blockInventory.size]? = _
        rw [Array.getElem?_push_size, if_pos hd]
        rfl
      · show (inv.subblockInventory ++ _)[inv.subblockInventory.size + j]? = _
        rw [getElem?_append_add, if_pos hd, List.getElem?_toArray, List.getElem?_map,
          everyNth_getElem? 32 _ j hj]
        rfl
      · show (inv.blockInventory.push _)[inv.blockInventory.size]? = _
        rw [Array.getElem?_push_size, if_neg hd]
      · show (inv.overflowPositions ++ _)[inv.overflowPositions.size + j]? = _
        rw [getElem?_append_add, if_neg hd, List.getElem?_toArray, getD_of_lt hj,
          List.getElem?_eq_getElem hj]
    · rw [List.getElem?_eq_none (by rw [List.length_append]; exact hgt)] at hg
      cases hg

theorem foldInv_foldl (cs : List (List Nat)) (hcs : ∀ c ∈ cs, c ≠ []) :
    ∀ (pre : List (List Nat)) (inv : Inventories), FoldInv pre inv →
      FoldInv (pre ++ cs) (cs.foldl flushBlock inv) := by
  induction cs with
  | nil => intro pre inv h; simpa using h
  | cons c cs ih =>
    intro pre inv h
    have h1 := foldInv_step h c (hcs c (List.mem_cons_self))
    have h2 := ih (fun c' hc' => hcs c' (List.mem_cons_of_mem _ hc')) (pre ++ [c]) _ h1
    simpa using h2

theorem foldInv_chunks (ps : List Nat) :
    FoldInv (chunks 1024 ps) ((chunks 1024 ps).foldl flushBlock {}) := by
  have := foldInv_foldl (chunks 1024 ps) (chunks_ne_nil 1024 (by decide) ps) [] {} foldInv_nil
  simpa using this

theorem chunk_getD (n : Nat) (ps : List Nat) (g j : Nat) (hj : j < n) :
    ((ps.drop (n * g)).take n).getD j 0 = ps.getD (n * g + j) 0 := by
  simp only [List.getD_eq_getElem?_getD, List.getElem?_take, if_pos hj, List.getElem?_drop]

theorem chunk_length (n : Nat) (ps : List Nat) (g : Nat) :
    ((ps.drop (n * g)).take n).length = min n (ps.length - n * g) := by
  rw [List.length_take, List.length_drop]

theorem isDense_chunk (ps : List Nat) (g : Nat) (hg : 1024 * g < ps.length) :
    isDense ((ps.drop (1024 * g)).take 1024) ↔
      ps.getD (min (1024 * g + 1023) (ps.length - 1)) 0 - ps.getD (1024 * g) 0 < 65536 := by
  have hpos : 0 < min 1024 (ps.length - 1024 * g) :=
    Nat.lt_min.mpr ⟨by decide, Nat.sub_pos_of_lt hg⟩
  unfold isDense
  -- the last index: `1024 g + (min 1024 (|ps| - 1024 g) - 1) = min (1024 g + 1024) |ps| - 1`
  rw [chunk_length 1024, chunk_getD 1024 ps g 0 (by decide),
    chunk_getD 1024 ps g _ (Nat.lt_of_lt_of_le (Nat.sub_lt hpos Nat.one_pos) (Nat.min_le_left _ _)),
    Nat.add_zero, ← Nat.add_sub_assoc hpos, ← Nat.add_min_add_left,
    Nat.add_sub_cancel' (Nat.le_of_lt hg), ← Nat.sub_min_sub_right]
  exact Iff.rfl

theorem subOff_succ (cs : List (List Nat)) (g : Nat) (hg : g < cs.length) :
    subOff cs (g + 1) = subOff cs g + slots cs[g] := by
  unfold subOff
  rw [List.take_add_one, List.getElem?_eq_getElem hg, List.map_append, List.sum_append]
  simp

theorem chunks_getElem (n : Nat) (hn : 0 < n) (ps : List Nat) (g : Nat)
    (hg : g < (chunks n ps).length) : (chunks n ps)[g] = (ps.drop (n * g)).take n := by
  have h := chunks_getElem? n hn ps g
  rw [List.getElem?_eq_getElem hg, if_pos ((lt_chunks_length n hn ps g).mp hg)] at h
  exact Option.some.inj h

/-- every group before group `g` is full and takes 32 slots -/
theorem subOff_chunks (ps : List Nat) (g : Nat) (hg : 1024 * g < ps.length) :
    subOff (chunks 1024 ps) g = 32 * g := by
  induction g with
  | zero => rfl
  | succ g ih =>
    have hlt : g < (chunks 1024 ps).length := (lt_chunks_length 1024 (by decide) ps g).mpr (by omega)
    rw [subOff_succ _ _ hlt, ih (by omega), chunks_getElem 1024 (by decide) ps g hlt, slots,
      chunk_length 1024, Nat.min_eq_left (by omega), Nat.mul_succ]

/-- the last group takes the slots of what is left -/
theorem slots_sum_chunks (ps : List Nat) :
    ((chunks 1024 ps).map slots).sum = (ps.length + 31) / 32 := by
  rw [← subOff_length]
  cases hL : (chunks 1024 ps).length with
  | zero =>
    have := mt (lt_chunks_length 1024 (by decide) ps 0).mpr (by omega)
    rw [show ps.length = 0 by omega]
    rfl
  | succ m =>
    have hm : m < (chunks 1024 ps).length := hL ▸ Nat.lt_succ_self m
    have h1 := (lt_chunks_length 1024 (by decide) ps m).mp hm
    have h2 := mt (lt_chunks_length 1024 (by decide) ps (m + 1)).mpr (hL ▸ Nat.lt_irrefl _)
    rw [subOff_succ _ _ hm, subOff_chunks ps m h1, chunks_getElem 1024 (by decide) ps m hm, slots,
      chunk_length 1024, Nat.min_eq_right (by omega),
      show ps.length + 31 = ps.length - 1024 * m + 31 + 32 * (32 * m) by omega,
      Nat.add_mul_div_left _ _ (by decide), Nat.add_comm]

/-- The inventory invariant in terms of the list of positions (property C07).
    Group `g` consists of `ps[1024 g ..]` (1024 elements, fewer for the last group); its
    sub-block entries start at slot `32 g` whatever the kinds of the groups before it.
    1024, 32 and 65536 are `daBlockSize`, `daSubblockSize`, `daMaxInBlockDistance` of
    `Qwt.Extracted`: `daBlockSize_eq` … are the only link, used where `flushBlock`, `invNew` and
    `select` are unfolded. -/
structure InvSpec (ps : List Nat) (inv : Inventories) : Prop where
  bsize : inv.blockInventory.size = (ps.length + 1023) / 1024
  ssize : inv.subblockInventory.size = (ps.length + 31) / 32
  dense : ∀ g, 1024 * g < ps.length →
    ps.getD (min (1024 * g + 1023) (ps.length - 1)) 0 - ps.getD (1024 * g) 0 < 65536 →
      inv.blockInventory[g]? = some (Int.ofNat (ps.getD (1024 * g) 0)) ∧
      ∀ j, j < 32 → 1024 * g + 32 * j < ps.length →
        inv.subblockInventory[32 * g + j]? =
          some ((ps.getD (1024 * g + 32 * j) 0 - ps.getD (1024 * g) 0) % 65536)
  sparse : ∀ g, 1024 * g < ps.length →
    ¬ ps.getD (min (1024 * g + 1023) (ps.length - 1)) 0 - ps.getD (1024 * g) 0 < 65536 →
      ∃ off : Nat, inv.blockInventory[g]? = some (-(Int.ofNat off) - 1) ∧
        ∀ j, j < 1024 → 1024 * g + j < ps.length →
          inv.overflowPositions[off + j]? = some (ps.getD (1024 * g + j) 0)

theorem invSpec_fold (ps : List Nat) : InvSpec ps ((chunks 1024 ps).foldl flushBlock {}) := by
  have hF := foldInv_chunks ps
  have hgrp : ∀ g, 1024 * g < ps.length →
      GroupOK ((chunks 1024 ps).foldl flushBlock {}) g (32 * g) ((ps.drop (1024 * g)).take 1024) := by
    intro g hg
    have := hF.grp g _ (by rw [chunks_getElem? 1024 (by decide), if_pos hg])
    rwa [subOff_chunks ps g hg] at this
  refine ⟨?_, ?_, ?_, ?_⟩
  · exact hF.bsize.trans (chunks_length 1024 (by decide) ps)
  · rw [hF.ssize, slots_sum_chunks]
  · intro g hg hd
    obtain ⟨h1, h2⟩ := (hgrp g hg).1 ((isDense_chunk ps g hg).mpr hd)
    rw [chunk_getD 1024 ps g 0 (by decide)] at h1
    refine ⟨h1, fun j hj hlt => ?_⟩
    have := h2 j (lt_slots
      (by rw [chunk_length 1024]; exact Nat.lt_min.mpr ⟨by omega, by omega⟩))
    rwa [chunk_getD 1024 ps g (j * 32) (by omega), chunk_getD 1024 ps g 0 (by decide),
      Nat.mul_comm j 32] at this
  · intro g hg hd
    obtain ⟨off, h1, h2⟩ := (hgrp g hg).2 (mt (isDense_chunk ps g hg).mp hd)
    refine ⟨off, h1, fun j hj hlt => ?_⟩
    have := h2 j (by rw [chunk_length 1024]; exact Nat.lt_min.mpr ⟨hj, by omega⟩)
    rwa [chunk_getD 1024 ps g j hj] at this

/-- In a dense group of an increasing list the stored 16-bit offsets are exact (no wrap-around):
    every offset is at most last − first < 65536. -/
theorem InvSpec.dense_start {ps : List Nat} {inv : Inventories} (h : InvSpec ps inv)
    (hmono : ∀ i j, i ≤ j → j < ps.length → ps.getD i 0 ≤ ps.getD j 0) {g j : Nat} (hj : j < 32)
    (hlt : 1024 * g + 32 * j < ps.length)
    (hd : ps.getD (min (1024 * g + 1023) (ps.length - 1)) 0 - ps.getD (1024 * g) 0 < 65536) :
    ∃ off, inv.blockInventory[g]? = some (Int.ofNat (ps.getD (1024 * g) 0)) ∧
      inv.subblockInventory[32 * g + j]? = some off ∧
      ps.getD (1024 * g) 0 + off = ps.getD (1024 * g + 32 * j) 0 ∧ off < 65536 := by
  obtain ⟨hb, hs⟩ := h.dense g (Nat.lt_of_le_of_lt (Nat.le_add_right _ _) hlt) hd
  have h1 := hmono (1024 * g) (1024 * g + 32 * j) (Nat.le_add_right _ _) hlt
  have h2 := hmono (1024 * g + 32 * j) (min (1024 * g + 1023) (ps.length - 1))
    (Nat.le_min.mpr ⟨by omega, Nat.le_sub_one_of_lt hlt⟩)
    (Nat.lt_of_le_of_lt (Nat.min_le_right _ _) (Nat.sub_lt (Nat.zero_lt_of_lt hlt) Nat.one_pos))
  refine ⟨_, hb, hs j hj hlt, ?_, Nat.mod_lt _ (by decide)⟩
  rw [Nat.mod_eq_of_lt (by omega)]
  omega

end Qwt.DAProofs
