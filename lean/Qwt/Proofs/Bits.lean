import Qwt.Model.Basic

/-! Numbers as bit strings: `testBit`, shift-and-mask, `two64`, `mask128`, `not64`, `popc`.  Facts about the
    list functions of `Spec` (`bitsOf`, `select`, `rank`, …) are in `WordBits`. -/
namespace Qwt

theorem two64_eq : two64 = 2 ^ 64 := by decide

theorem mask128_eq : mask128 = 2 ^ 128 - 1 := by decide

theorem and3 (x : Nat) : x &&& 3 = x % 4 := Nat.and_two_pow_sub_one_eq_mod x 2

theorem testBit_of_lt_two_pow {w n k : Nat} (hw : w < 2 ^ n) (hk : n ≤ k) : w.testBit k = false :=
  Nat.testBit_lt_two_pow (Nat.lt_of_lt_of_le hw (Nat.pow_le_pow_right (by decide) hk))

theorem shr_and_one (w k : Nat) : (w >>> k) &&& 1 = (w.testBit k).toNat := by
  rw [Nat.and_one_is_mod, Nat.shiftRight_eq_div_pow, Nat.toNat_testBit]

theorem shr_and_one_eq_testBit (w k : Nat) : ((w >>> k) &&& 1 == 1) = w.testBit k := by
  rw [shr_and_one]
  cases w.testBit k <;> rfl

theorem not64_lt (a : Nat) : not64 a < 2 ^ 64 := by
  unfold not64 mask64 two64
  omega

theorem not64_testBit (a : Nat) (ha : a < 2 ^ 64) (k : Nat) :
    (not64 a).testBit k = (decide (k < 64) && !a.testBit k) := by
  unfold not64 mask64
  rw [two64_eq, Nat.mod_eq_of_lt ha, Nat.sub_sub, Nat.add_comm, Nat.testBit_two_pow_sub_succ ha]

theorem popc_zero : popc 0 = 0 := by
  rw [popc]
  simp

theorem popc_step (w : Nat) : popc w = w % 2 + popc (w / 2) := by
  by_cases h : w = 0
  · subst h
    simp [popc_zero]
  · rw [popc]
    simp [h]

theorem popc_eq_countP (n : Nat) : ∀ w, w < 2 ^ n →
    popc w = (List.range n).countP (fun j => w.testBit j) := by
  induction n with
  | zero => intro w hw; have : w = 0 := by omega
            subst this; simp [popc_zero]
  | succ n ih =>
    intro w hw
    rw [popc]
    split
    · next h => subst h; simp
    · rw [ih (w / 2) (by rw [Nat.pow_succ] at hw; omega), List.range_succ_eq_map,
        List.countP_cons, List.countP_map]
      have e : ((fun j => w.testBit j) ∘ Nat.succ) = fun j => (w / 2).testBit j := by
        funext j; simp [Nat.testBit_succ]
      rw [e, Nat.testBit_zero]
      have : w % 2 = 0 ∨ w % 2 = 1 := by omega
      rcases this with h | h <;> simp [h] <;> omega

end Qwt
