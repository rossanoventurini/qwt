import Qwt.Model.Prefetch
import Qwt.Proofs.Basic
import Qwt.Proofs.BitVectorOps
import Qwt.Proofs.QVector
import Qwt.Proofs.PfsArith
import Qwt.Proofs.RSQHolds
import Qwt.Props.C06

/-!
`PrefetchSupport::new` (`src/quadwt/prefetch_support.rs`, model `Qwt.PFS.new`) never faults on a
quad vector satisfying the C13 invariant and produces four sample bit vectors whose prefix
ranks are the sampled (`/ rate`, `rate = 2 ^ pfsSampleShift`) prefix ranks of the level: `PfsRep`.

The build state holds three arrays of length four; they are handled as `mk4 f = #[f 0, f 1, f 2, f 3]`.
-/
open Qwt Qwt.BV

namespace Qwt.PfsP

def mk4 {α} (f : Nat → α) : Array α := #[f 0, f 1, f 2, f 3]

theorem lt4 {k : Nat} (h : k < 4) : k = 0 ∨ k = 1 ∨ k = 2 ∨ k = 3 := by revert k; decide

theorem mk4_get {α} [Inhabited α] (f : Nat → α) {k : Nat} (h : k < 4) : (mk4 f)[k]! = f k := by
  rcases lt4 h with rfl | rfl | rfl | rfl <;> rfl

theorem mk4_modify {α} (f : Nat → α) (g : α → α) {s : Nat} (h : s < 4) :
    (mk4 f).modify s g = mk4 (fun k => if k = s then g (f k) else f k) := by
  rcases lt4 h with rfl | rfl | rfl | rfl <;> rfl

theorem mk4_set {α} (f : Nat → α) (v : α) {s : Nat} (h : s < 4) :
    (mk4 f).set! s v = mk4 (fun k => if k = s then v else f k) := by
  rcases lt4 h with rfl | rfl | rfl | rfl <;> rfl

theorem mk4_congr {α} {f g : Nat → α} (h : ∀ k, k < 4 → f k = g k) : mk4 f = mk4 g := by
  unfold mk4
  rw [h 0 (by decide), h 1 (by decide), h 2 (by decide), h 3 (by decide)]

theorem choose4 {β} {p : Nat → β → Prop} (h : ∀ k, k < 4 → ∃ b, p k b) :
    ∃ g : Nat → β, ∀ k, k < 4 → p k (g k) := by
  obtain ⟨b0, h0⟩ := h 0 (by decide)
  obtain ⟨b1, h1⟩ := h 1 (by decide)
  obtain ⟨b2, h2⟩ := h 2 (by decide)
  obtain ⟨b3, h3⟩ := h 3 (by decide)
  refine ⟨fun k => match k with | 0 => b0 | 1 => b1 | 2 => b2 | _ => b3, fun k hk => ?_⟩
  rcases lt4 hk with rfl | rfl | rfl | rfl <;> assumption

theorem foldlM_mk4 {α : Type} [Inhabited α] (g : Nat → α → M α) (a a' : Nat → α)
    (h : ∀ k, k < 4 → g k (a k) = .ok (a' k)) :
    (List.range 4).foldlM (fun (arr : Array α) k => do
        let b ← g k arr[k]!
        pure (arr.set! k b)) (mk4 a) = .ok (mk4 a') := by
  -- after `n` rounds the first `n` slots are done
  have key : ∀ n, n ≤ 4 → (List.range n).foldlM (fun (arr : Array α) k => do
      let b ← g k arr[k]!
      pure (arr.set! k b)) (mk4 a) = .ok (mk4 (fun k => if k < n then a' k else a k)) := by
    intro n
    induction n with
    | zero => intro _; rfl
    | succ n ih =>
      intro hn
      rw [List.range_succ, List.foldlM_append, ih (Nat.le_of_succ_le hn), ok_bind, List.foldlM_cons,
        mk4_get _ hn, if_neg (Nat.lt_irrefl n), h n hn, ok_bind, pure_bind, List.foldlM_nil,
        mk4_set _ _ hn]
      refine congrArg Except.ok (mk4_congr fun k _ => ?_)
      by_cases hk : k = n
      · rw [if_pos hk, if_pos (hk ▸ Nat.lt_succ_self k), hk]
      · by_cases hl : k < n
        · rw [if_neg hk, if_pos hl, if_pos (Nat.lt_succ_of_lt hl)]
        · rw [if_neg hk, if_neg hl,
            if_neg (fun h => hl (Nat.lt_of_le_of_ne (Nat.le_of_lt_succ h) hk))]
  rw [key 4 (Nat.le_refl 4)]
  exact congrArg Except.ok (mk4_congr fun k hk => if_pos hk)

theorem rank_append_le {α} [BEq α] (c : α) (l : List α) (x : α) {j : Nat} (h : j ≤ l.length) :
    Spec.rank c j (l ++ [x]) = Spec.rank c j l := by
  unfold Spec.rank; rw [List.take_append_of_le_length h]

theorem rank_append_last (l : List Bool) (b : Bool) :
    Spec.rank true (l.length + 1) (l ++ [b]) =
      Spec.rank true l.length l + (if b = true then 1 else 0) := by
  unfold Spec.rank
  rw [List.take_of_length_le (by simp), List.take_of_length_le (Nat.le_refl _), List.count_append]
  cases b <;> simp

/-- loop invariant of `PrefetchSupport::new` after `i` elements of `L`, for each symbol `k`: its
    counter; its flag, which says whether the counter has passed a multiple of `rate` since the
    last push (`covered L.length (mOf L.length i)` elements were covered then); its sample vector,
    whose prefix ranks are the sampled ranks of the level -/
def StInv (L : List Nat) (i : Nat) (bv : Nat → BitVector) (cnt : Nat → Nat) (bit : Nat → Bool) : Prop :=
  ∀ k, k < 4 →
    cnt k = Spec.rank k i L ∧
    bit k = decide (Spec.rank k (covered L.length (mOf L.length i)) L / rate < Spec.rank k i L / rate) ∧
    BV.Inv (bv k) ∧ (BV.abs (bv k)).length = mOf L.length i ∧
    ∀ j, j ≤ mOf L.length i →
      Spec.rank true j (BV.abs (bv k)) = Spec.rank k (covered L.length j) L / rate

theorem buildStep_ok (qv : QV.QVector) (hq : QV.Inv qv) (hn : (QV.abs qv).length + 1 < two64)
    (i : Nat) (hi : i < (QV.abs qv).length) (bv : Nat → BitVector) (cnt : Nat → Nat)
    (bit : Nat → Bool) (h : StInv (QV.abs qv) i bv cnt bit) :
    ∃ bv' cnt' bit', PFS.buildStep qv rate ⟨mk4 bv, mk4 cnt, mk4 bit⟩ i =
        .ok ⟨mk4 bv', mk4 cnt', mk4 bit'⟩ ∧ StInv (QV.abs qv) (i + 1) bv' cnt' bit' := by
  have hget := QV.getUnchecked_ok false hq hi
  have hsym : (QV.abs qv)[i] < 4 := by rw [QV.getElem_abs]; exact QV.symAt_lt _ _
  have hLi := List.getElem?_eq_getElem hi
  have hlen := QV.len_ok qv
  generalize (QV.abs qv)[i] = sym at hget hsym hLi
  generalize QV.abs qv = L at *
  have hne : ∀ k, k ≠ sym → L[i]? ≠ some k :=
    fun k e e' => e (Option.some.inj (hLi.symm.trans e')).symm
  let cnt' : Nat → Nat := fun k => if k = sym then cnt k + 1 else cnt k
  have hcnt : ∀ k, k < 4 → cnt' k = Spec.rank k (i + 1) L := by
    intro k hk
    show (if k = sym then cnt k + 1 else cnt k) = _
    by_cases e : k = sym
    · rw [if_pos e, (h k hk).1, Spec.rank_succ_of_eq k L (e ▸ hLi)]
    · rw [if_neg e, (h k hk).1, Spec.rank_succ_of_ne k L (hne k e)]
  let bitN : Nat → Bool := fun k =>
    if ((cnt sym + 1) % rate == 0) = true then (if k = sym then true else bit k) else bit k
  have hbit : ∀ k, k < 4 → bitN k = decide
      (Spec.rank k (covered L.length (mOf L.length i)) L / rate < Spec.rank k (i + 1) L / rate) := by
    intro k hk
    show (if _ then (if k = sym then true else bit k) else bit k) = _
    have hle := Spec.rank_mono k L (covered_mOf_le hi)
    by_cases e : k = sym
    · subst e
      rw [Spec.rank_succ_of_eq k L hLi, flag_succ hle, ← (h k hk).2.1, ← (h k hk).1]
      cases ((cnt k + 1) % rate == 0) <;> simp
    · rw [Spec.rank_succ_of_ne k L (hne k e), ← (h k hk).2.1, if_neg e, ite_self]
  unfold PFS.buildStep
  rw [hget]
  simp only [ok_bind, mk4_modify cnt _ hsym]
  rw [mk4_get _ hsym, if_pos rfl]
  have hbits : (if ((cnt sym + 1) % rate == 0) = true then (mk4 bit).set! sym true else mk4 bit) =
      mk4 bitN := by
    simp only [bitN]
    cases ((cnt sym + 1) % rate == 0)
    · rfl
    · simp only [if_true]; exact mk4_set bit true hsym
  rw [hbits]
  have hcond : ((i % rate == 0 || i + 1 == QV.len qv) = true) ↔ (i % rate = 0 ∨ i + 1 = L.length) := by
    rw [hlen]; simp
  by_cases hp : i % rate = 0 ∨ i + 1 = L.length
  · rw [if_pos (hcond.mpr hp)]
    obtain ⟨hm, hcov⟩ := step_push hi hp
    obtain ⟨bv', hpush⟩ := choose4 fun k hk => BV.push_spec (bv k) (bitN k) (h k hk).2.2.1 (by
      rw [← BV.abs_length, (h k hk).2.2.2.1]
      exact Nat.lt_of_le_of_lt (Nat.succ_le_succ (mOf_le (Nat.le_of_lt hi))) hn)
    refine ⟨bv', cnt', fun _ => false, ?_, ?_⟩
    · rw [foldlM_mk4 (fun k b => BV.push b (mk4 bitN)[k]!) bv bv'
        (fun k hk => by rw [mk4_get _ hk]; exact (hpush k hk).1)]
      rfl
    · intro k hk
      obtain ⟨_, _, hI, hlenk, hpre⟩ := h k hk
      obtain ⟨_, hI', ha'⟩ := hpush k hk
      refine ⟨hcnt k hk, ?_, hI', ?_, ?_⟩
      · rw [hm, hcov]; simp
      · rw [ha', List.length_append, hlenk, hm]; rfl
      · intro j hj
        rw [ha']
        rw [hm, ← hlenk] at hj
        rcases Nat.le_or_eq_of_le_succ hj with hjm | ej
        · rw [rank_append_le _ _ _ hjm]; exact hpre j (hlenk ▸ hjm)
        · rw [ej, rank_append_last, hlenk, hpre _ (Nat.le_refl _), hcov]
          rw [hbit k hk]
          have hle : covered L.length (mOf L.length i) ≤ i + 1 := Nat.le_succ_of_le (covered_mOf_le hi)
          exact flag_add (Spec.rank_mono k L hle) (Nat.le_trans (Spec.rank_sub_le k L hle)
            (Nat.add_le_add_left (Nat.sub_le_iff_le_add'.mpr (lt_covered_mOf_add hi)) _))
  · rw [if_neg (fun hc => hp (hcond.mp hc))]
    have hm := step_nopush hi hp
    refine ⟨bv, cnt', bitN, rfl, ?_⟩
    intro k hk
    obtain ⟨_, _, hI, hlenk, hpre⟩ := h k hk
    refine ⟨hcnt k hk, ?_, hI, ?_, ?_⟩
    · rw [hm]; exact hbit k hk
    · rw [hm]; exact hlenk
    · rw [hm]; exact hpre

theorem init_stInv (L : List Nat) :
    StInv L 0 (fun _ => ({} : BitVector)) (fun _ => 0) (fun _ => false) := by
  intro k _
  refine ⟨(Spec.rank_zero k L).symm, ?_, BV.init_inv.1, ?_, ?_⟩
  · rw [mOf_zero, covered_zero]; simp
  · rw [BV.init_inv.2, mOf_zero]; rfl
  · intro j hj
    rw [mOf_zero] at hj
    rw [Nat.le_zero.mp hj, covered_zero, Spec.rank_zero, Spec.rank_zero, Nat.zero_div]

theorem build_fold (qv : QV.QVector) (hq : QV.Inv qv) (hn : (QV.abs qv).length + 1 < two64) :
    ∀ n, n ≤ (QV.abs qv).length → ∃ bv cnt bit,
      (List.range n).foldlM (PFS.buildStep qv rate) {} = .ok ⟨mk4 bv, mk4 cnt, mk4 bit⟩ ∧
      StInv (QV.abs qv) n bv cnt bit := by
  intro n
  induction n with
  | zero => intro _; exact ⟨_, _, _, rfl, init_stInv _⟩
  | succ n ih =>
    intro hle
    obtain ⟨bv, cnt, bit, e, hI⟩ := ih (Nat.le_of_succ_le hle)
    obtain ⟨bv', cnt', bit', e', hI'⟩ := buildStep_ok qv hq hn n hle bv cnt bit hI
    refine ⟨bv', cnt', bit', ?_, hI'⟩
    rw [List.range_succ, List.foldlM_append, e, ok_bind, List.foldlM_cons, e', ok_bind]
    rfl

theorem mapM4 {α β} (f : α → M β) (a : Nat → α) (b : Nat → β)
    (h : ∀ k, k < 4 → f (a k) = .ok (b k)) : (mk4 a).mapM f = .ok (mk4 b) := by
  rw [Array.mapM_eq_mapM_toList]
  show List.toArray <$> List.mapM f [a 0, a 1, a 2, a 3] = _
  simp only [List.mapM_cons, List.mapM_nil, h 0 (by decide), h 1 (by decide), h 2 (by decide),
    h 3 (by decide)]
  rfl

/-- what `PrefetchSupport::new` establishes for a level holding the quaternary list `L` -/
structure PfsRep (L : List Nat) (p : PFS.PrefetchSupport) : Prop where
  shift : p.sampleRateShift = Extracted.pfsSampleShift
  size : p.samples.size = 4
  sample : ∀ k, k < 4 → ∃ r bits, p.samples[k]? = some r ∧ RSN.Inv r bits ∧
    bits.length = nbOf L.length ∧
    ∀ j, j ≤ nbOf L.length →
      Spec.rank true j bits = Spec.rank k (covered L.length j) L / rate

theorem mk4_getElem? {α} (f : Nat → α) {k : Nat} (h : k < 4) : (mk4 f)[k]? = some (f k) := by
  rcases lt4 h with rfl | rfl | rfl | rfl <;> rfl

/-- `PrefetchSupport::new` returns `RSNarrow::new` of the four bit vectors the loop has built -/
theorem new_eq (qv : QV.QVector) (hq : QV.Inv qv) (hn : (QV.abs qv).length + 1 < two64) :
    ∃ (bv : Nat → BitVector) (r : Nat → RSN.RSNarrow),
      PFS.new qv Extracted.pfsSampleShift = .ok ⟨mk4 r, Extracted.pfsSampleShift⟩ ∧
      ∀ k, k < 4 → RSN.new (bv k) = .ok (r k) ∧ RSN.Inv (r k) (BV.abs (bv k)) ∧ BV.Inv (bv k) ∧
        (BV.abs (bv k)).length = nbOf (QV.abs qv).length ∧
        ∀ j, j ≤ nbOf (QV.abs qv).length → Spec.rank true j (BV.abs (bv k)) =
          Spec.rank k (covered (QV.abs qv).length j) (QV.abs qv) / rate := by
  obtain ⟨bv, cnt, bit, e, hI⟩ := build_fold qv hq hn _ (Nat.le_refl _)
  obtain ⟨r, hr⟩ := choose4 (p := fun k x => RSN.new (bv k) = .ok x ∧ RSN.Inv x (BV.abs (bv k)))
    fun k hk => by
      obtain ⟨x, e1, _, e3⟩ := Props.C06.rsn_new_inv (Props.C06.holds_of_inv (hI k hk).2.2.1)
      exact ⟨x, e1, e3⟩
  refine ⟨bv, r, ?_, fun k hk => ?_⟩
  · unfold PFS.new
    rw [one_shiftLeft_shift, QV.len_ok]
    show (List.foldlM (PFS.buildStep qv rate) { } (List.range (QV.abs qv).length) >>= _) = _
    rw [e, ok_bind]
    show (mk4 bv).mapM RSN.new >>= _ = _
    rw [mapM4 RSN.new bv r (fun k hk => (hr k hk).1)]
    rfl
  · obtain ⟨_, _, hinv, hl, hpre⟩ := hI k hk
    rw [mOf_self] at hl hpre
    exact ⟨(hr k hk).1, (hr k hk).2, hinv, hl, hpre⟩

theorem new_ok (qv : QV.QVector) (hq : QV.Inv qv) (hn : (QV.abs qv).length + 1 < two64) :
    ∃ p, PFS.new qv Extracted.pfsSampleShift = .ok p ∧ PfsRep (QV.abs qv) p := by
  obtain ⟨bv, r, hnew, h⟩ := new_eq qv hq hn
  exact ⟨_, hnew, rfl, rfl, fun k hk =>
    ⟨r k, BV.abs (bv k), mk4_getElem? r hk, (h k hk).2.1, (h k hk).2.2.2⟩⟩

/-- below the length limit of the crate (`2^43` symbols) the bound of `new_ok` holds -/
theorem new_ok_of_len (qv : QV.QVector) (hq : QV.Inv qv) (hl : QV.len qv < 2 ^ 43) :
    ∃ p, PFS.new qv Extracted.pfsSampleShift = .ok p ∧ PfsRep (QV.abs qv) p := by
  rw [QV.len_ok] at hl
  exact new_ok qv hq (Nat.lt_trans (Nat.succ_lt_succ hl) (by decide))

theorem push_position {b b' : QV.QVector} {d : Nat} (h : QV.push b d = .ok b') :
    b'.position = b.position + 2 ∧ b.position + 2 < two64 := by
  unfold QV.push at h
  simp only [add64] at h
  generalize (if ((b.position / 2 &&& 255) == 0) = true then b.data ++ #[0, 0, 0, 0] else b.data)
    = data at h
  by_cases hs : data.size < 4
  · rw [if_pos hs] at h; cases h
  · rw [if_neg hs] at h
    by_cases hn : b.position + 2 < two64
    · rw [if_pos hn] at h
      obtain rfl := Except.ok.inj h
      exact ⟨rfl, hn⟩
    · rw [if_neg hn] at h; cases h

theorem pushes_position (digits : List Nat) (b q : QV.QVector)
    (h : digits.foldlM (fun (b : QV.QVectorBuilder) d => QV.push b d) b = .ok q) :
    q.position = b.position + 2 * digits.length ∧ (b.position < two64 → q.position < two64) := by
  have := foldlM_inv (fun k (q : QV.QVector) =>
      q.position = b.position + 2 * k ∧ (b.position < two64 → q.position < two64)) _
    (fun k st d st' hi hp => by
      obtain ⟨e1, e2⟩ := push_position hp
      exact ⟨by rw [e1, hi.1, Nat.mul_succ, Nat.add_assoc], fun _ => e1 ▸ e2⟩)
    digits 0 b q ⟨rfl, id⟩ h
  rwa [Nat.zero_add] at this

/-- `PrefetchSupport::new` is total on every vector produced by the push loop of a level
    constructor (no length hypothesis: the pushes themselves succeeded), and describes the
    pushed digits -/
theorem new_of_pushes (digits : List Nat) (hd : ∀ d ∈ digits, d < 4) (qvb : QV.QVectorBuilder)
    (h : digits.foldlM (fun (b : QV.QVectorBuilder) d => QV.push b d) {} = .ok qvb) :
    ∃ p, PFS.new (QV.build qvb) Extracted.pfsSampleShift = .ok p ∧ PfsRep digits p := by
  obtain ⟨hpos, hlt⟩ := pushes_position digits {} qvb h
  have h1 : 1 < two64 := by decide
  have hbound : 0 + 2 * digits.length < two64 := hpos ▸ hlt (Nat.lt_trans Nat.one_pos h1)
  obtain ⟨q, e, hinv, habs⟩ := RSQP.pushes_ok digits {} QV.empty_inv.1 hbound
  rw [h] at e
  cases e
  have habs' : QV.abs qvb = digits := by
    rw [habs, QV.empty_inv.2, List.nil_append]
    exact (List.map_congr_left fun d hd' => Nat.mod_eq_of_lt (hd d hd')).trans (List.map_id digits)
  rw [← habs']
  exact PfsP.new_ok (QV.build qvb) hinv (by
    show (QV.abs qvb).length + 1 < two64
    rw [habs']; omega)

end Qwt.PfsP
