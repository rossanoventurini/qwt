import Qwt.Proofs.CraftDefs
/-! C02: `sortByKey` (the insertion sort of the model) is a sorted permutation. -/
namespace Qwt.Proofs.Craft
open Qwt Qwt.Huff Qwt.Props.C02

theorem insertByKey_perm {α} (key : α → Nat) (x : α) (l : List α) :
    (insertByKey key x l).Perm (x :: l) := by
  induction l with
  | nil => exact List.Perm.refl _
  | cons y ys ih =>
    unfold insertByKey
    split
    · exact List.Perm.refl _
    · exact (List.Perm.cons y ih).trans (List.Perm.swap x y ys)

theorem insertByKey_sorted {α} (key : α → Nat) (x : α) (l : List α)
    (h : l.Pairwise (fun a b => key a ≤ key b)) :
    (insertByKey key x l).Pairwise (fun a b => key a ≤ key b) := by
  induction l with
  | nil => simp [insertByKey]
  | cons y ys ih =>
    unfold insertByKey
    have hy := List.pairwise_cons.mp h
    split
    · rename_i hlt
      refine List.pairwise_cons.mpr ⟨?_, h⟩
      intro a ha
      rcases List.mem_cons.mp ha with rfl | ha
      · omega
      · have := hy.1 a ha; omega
    · rename_i hge
      refine List.pairwise_cons.mpr ⟨?_, ih hy.2⟩
      intro a ha
      rcases List.mem_cons.mp ((insertByKey_perm key x ys).mem_iff.mp ha) with rfl | ha
      · omega
      · exact hy.1 a ha

theorem sortByKey_aux {α} (key : α → Nat) (l acc : List α)
    (h : acc.Pairwise (fun a b => key a ≤ key b)) :
    (l.foldl (fun acc x => insertByKey key x acc) acc).Perm (l ++ acc) ∧
    (l.foldl (fun acc x => insertByKey key x acc) acc).Pairwise (fun a b => key a ≤ key b) := by
  induction l generalizing acc with
  | nil => exact ⟨List.Perm.refl _, h⟩
  | cons x xs ih =>
    obtain ⟨p, s⟩ := ih (insertByKey key x acc) (insertByKey_sorted key x acc h)
    refine ⟨?_, s⟩
    simp only [List.foldl_cons, List.cons_append]
    exact p.trans ((List.Perm.append_left xs (insertByKey_perm key x acc)).trans
      List.perm_middle)

theorem sortByKey_perm {α} (key : α → Nat) (l : List α) : (sortByKey key l).Perm l := by
  have := (sortByKey_aux key l [] List.Pairwise.nil).1
  simpa [sortByKey] using this

theorem sortByKey_sorted {α} (key : α → Nat) (l : List α) :
    (sortByKey key l).Pairwise (fun a b => key a ≤ key b) :=
  (sortByKey_aux key l [] List.Pairwise.nil).2

end Qwt.Proofs.Craft
