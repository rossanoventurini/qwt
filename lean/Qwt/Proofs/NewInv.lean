import Qwt.Model.BinWT
import Qwt.Proofs.Basic

/-! What a successful run of each wavelet-tree constructor consists of: the `do` block of `new`
read backwards, once for the empty input and once for the rest. -/
namespace Qwt

/-- The `do` block of either quad `levelStep` is compiled with the `if` on `c.pfs` outermost and
    the rest of the step (`rest`) copied into both branches. -/
theorem pfs_branch {β : Type} {b : Bool} {qv : QV.QVector} {old : Array PFS.PrefetchSupport}
    {rest : Array PFS.PrefetchSupport → M β} {out : β}
    (h : (if b = true then do
        let p ← PFS.new qv Extracted.pfsSampleShift
        let pfs ← pure (old.push p)
        rest pfs
      else do
        let pfs ← pure old
        rest pfs) = .ok out) :
    ∃ pfs, rest pfs = .ok out ∧ (b = false ∧ pfs = old ∨
      b = true ∧ ∃ p, PFS.new qv Extracted.pfsSampleShift = .ok p ∧ pfs = old.push p) := by
  cases b
  · exact ⟨old, h, Or.inl ⟨rfl, rfl⟩⟩
  · obtain ⟨p, hp, h⟩ := bind_ok_inv h
    exact ⟨_, h, Or.inr ⟨rfl, p, hp, rfl⟩⟩

namespace QWTree

theorem levelStep_inv {c : Cfg} {st st' : LevelSt} (h : levelStep c st = .ok st') :
    ∃ qvb rs seq pfs,
      st.seq.foldlM (fun (b : QV.QVectorBuilder) symbol => do
        let tb ← twoBits c symbol st.shift
        QV.push b tb) {} = .ok qvb ∧
      RSQ.fromQV c.dbg c.B (QV.build qvb) = .ok rs ∧
      Utils.stablePartitionOf4 c.W st.seq st.shift = .ok seq ∧
      (c.pfs = false ∧ pfs = st.pfs ∨ c.pfs = true ∧ ∃ p,
        PFS.new (QV.build qvb) Extracted.pfsSampleShift = .ok p ∧ pfs = st.pfs.push p) ∧
      st' = { seq, shift := if st.shift ≥ 2 then st.shift - 2 else st.shift,
              qvs := st.qvs.push rs, pfs } := by
  unfold levelStep at h
  obtain ⟨_, _, h⟩ := bind_ok_inv h
  obtain ⟨qvb, hq, h⟩ := bind_ok_inv h
  obtain ⟨pfs, h, hp⟩ := pfs_branch h
  obtain ⟨rs, hr, h⟩ := bind_ok_inv h
  obtain ⟨seq, hseq, h⟩ := bind_ok_inv h
  cases h
  exact ⟨qvb, rs, seq, pfs, hq, hr, hseq, hp, rfl⟩

theorem new_inv_empty {c : Cfg} {seq : Array Nat} {t : QWT} (he : seq.isEmpty = true)
    (h : QWTree.new c seq = .ok t) :
    ∃ d, RSQ.default c.B = .ok d ∧
      t = { n := 0, nLevels := 0, sigma := 0, qvs := #[d], pfs := none } := by
  unfold QWTree.new at h
  rw [he] at h
  obtain ⟨d, hd, h⟩ := bind_ok_inv h
  cases h
  exact ⟨d, hd, rfl⟩

theorem new_inv {c : Cfg} {seq : Array Nat} {t : QWT} (hne : seq.isEmpty = false)
    (h : QWTree.new c seq = .ok t) :
    ∃ m st, Utils.msb c.W (seq.foldl max 0) = .ok m ∧
      (List.range ((m + 1 + 1) / 2)).foldlM (fun st _ => levelStep c st)
        ({ seq, shift := 2 * ((m + 1 + 1) / 2 - 1) } : LevelSt) = .ok st ∧
      t = { n := seq.size, nLevels := (m + 1 + 1) / 2, sigma := seq.foldl max 0, qvs := st.qvs,
            pfs := if c.pfs then some st.pfs else none } := by
  unfold QWTree.new at h
  rw [hne] at h
  obtain ⟨m, hm, h⟩ := bind_ok_inv h
  obtain ⟨st, hst, h⟩ := bind_ok_inv h
  cases h
  exact ⟨m, st, hm, hst, rfl⟩

end QWTree

namespace Huff

theorem levelStep_inv {c : Cfg} {codes : Array PrefixCode} {st st' : LevelSt}
    (h : levelStep c codes st = .ok st') :
    ∃ qvb rs seq pfs,
      st.seq.foldlM (fun (b : QV.QVectorBuilder) s => do
        match codes[Utils.asUsize s]? with
        | none => throw Fault.unwrapNone
        | some code =>
          if code.len ≥ st.shift then
            QV.push b ((code.content >>> (code.len - st.shift)) &&& 3)
          else pure b) {} = .ok qvb ∧
      RSQ.fromQV c.dbg c.B (QV.build qvb) = .ok rs ∧
      partitionWithCodes 4 st.seq st.shift codes = .ok seq ∧
      (c.pfs = false ∧ pfs = st.pfs ∨ c.pfs = true ∧ ∃ p,
        PFS.new (QV.build qvb) Extracted.pfsSampleShift = .ok p ∧ pfs = st.pfs.push p) ∧
      st' = { seq, shift := st.shift + 2, qvs := st.qvs.push rs,
              lens := st.lens.push (QV.len (QV.build qvb)), pfs } := by
  unfold levelStep at h
  obtain ⟨qvb, hq, h⟩ := bind_ok_inv h
  obtain ⟨pfs, h, hp⟩ := pfs_branch h
  obtain ⟨rs, hr, h⟩ := bind_ok_inv h
  obtain ⟨seq, hseq, h⟩ := bind_ok_inv h
  cases h
  exact ⟨qvb, rs, seq, pfs, hq, hr, hseq, hp, rfl⟩

theorem new_inv_empty {c : Cfg} {seq : Array Nat} {lens : List (Nat × Nat)} {t : HQWT}
    (he : seq.isEmpty = true) (h : Huff.new c seq lens = .ok t) :
    ∃ d, RSQ.default c.B = .ok d ∧ t = { n := 0, nLevels := 0, qvs := #[d], lens := #[0] } := by
  unfold Huff.new at h
  rw [he] at h
  obtain ⟨d, hd, h⟩ := bind_ok_inv h
  cases h
  exact ⟨d, hd, rfl⟩

theorem new_inv {c : Cfg} {seq : Array Nat} {lens : List (Nat × Nat)} {t : HQWT}
    (hne : seq.isEmpty = false) (h : Huff.new c seq lens = .ok t) :
    ∃ codes st, craftWmCodes 4 lens (Utils.asUsize (seq.foldl max 0)) = .ok codes ∧
      (List.range (codes.foldl (fun m x => max m x.len) 0 / 2)).foldlM
        (fun st _ => levelStep c codes st) ({ seq, shift := 2 } : LevelSt) = .ok st ∧
      t = { n := seq.size, nLevels := codes.foldl (fun m x => max m x.len) 0 / 2,
            codesEncode := codes,
            codesDecode := decodeTables codes (codes.foldl (fun m x => max m x.len) 0),
            qvs := st.qvs, lens := st.lens, pfs := if c.pfs then some st.pfs else none } := by
  unfold Huff.new at h
  rw [hne] at h
  obtain ⟨codes, hc, h⟩ := bind_ok_inv h
  obtain ⟨st, hst, h⟩ := bind_ok_inv h
  cases h
  exact ⟨codes, st, hc, hst, rfl⟩

end Huff

namespace BinWT
open Qwt.Huff (craftWmCodes decodeTables)

theorem levelStep_inv {c : Cfg} {compressed : Bool} {nL : Nat} {codes : Array Huff.PrefixCode}
    {st st' : LevelSt} (h : levelStep c compressed nL codes st = .ok st') :
    ∃ bvm rs seq,
      st.seq.foldlM (fun (b : BV.BitVectorMut) s => do
        if compressed then
          match codes[Utils.asUsize s]? with
          | none => throw Fault.unwrapNone
          | some code =>
            if code.len ≥ st.shift then
              BV.push b (((code.content >>> (code.len - st.shift)) &&& 1) == 1)
            else pure b
        else do
          let sh ← sub nL st.shift
          if sh ≥ c.W then throw Fault.overflow
          BV.push b ((Utils.asUsize (s >>> sh) &&& 1) == 1)) {} = .ok bvm ∧
      RSW.new bvm = .ok rs ∧
      (if compressed = true then Huff.partitionWithCodes 2 st.seq st.shift codes
        else sub nL st.shift >>= fun sh => Utils.stablePartitionOf2 c.W st.seq sh) = .ok seq ∧
      st' = { seq, shift := st.shift + 1, bvs := st.bvs.push rs, lens := st.lens.push bvm.nBits } := by
  unfold levelStep at h
  obtain ⟨bvm, hb, h⟩ := bind_ok_inv h
  obtain ⟨rs, hrs, h⟩ := bind_ok_inv h
  cases compressed
  · simp only [Bool.false_eq_true, if_false] at h
    obtain ⟨sh, hsh, h⟩ := bind_ok_inv h
    obtain ⟨seq, hseq, h⟩ := bind_ok_inv h
    cases h
    exact ⟨bvm, rs, seq, hb, hrs, by rw [if_neg Bool.false_ne_true, hsh]; exact hseq, rfl⟩
  · simp only [if_true] at h
    obtain ⟨seq, hseq, h⟩ := bind_ok_inv h
    cases h
    exact ⟨bvm, rs, seq, hb, hrs, hseq, rfl⟩

theorem new_inv_empty {c : Cfg} {compressed : Bool} {seq : Array Nat} {lens : List (Nat × Nat)}
    {t : WT} (he : seq.isEmpty = true) (h : BinWT.new c compressed seq lens = .ok t) : t = {} := by
  unfold BinWT.new at h
  rw [he] at h
  cases h
  rfl

theorem new_inv_plain {c : Cfg} {seq : Array Nat} {lens : List (Nat × Nat)} {t : WT}
    (hne : seq.isEmpty = false) (h : BinWT.new c false seq lens = .ok t) :
    ∃ m st, Utils.msb c.W (seq.foldl max 0) = .ok m ∧
      (List.range (m + 1)).foldlM (fun st _ => levelStep c false (m + 1) #[] st)
        ({ seq, shift := 1 } : LevelSt) = .ok st ∧
      t = { n := seq.size, nLevels := m + 1, sigma := some (seq.foldl max 0), codesEncode := none,
            codesDecode := none, bvs := st.bvs, lens := st.lens } := by
  unfold BinWT.new at h
  rw [hne] at h
  simp only [Bool.false_eq_true, if_false] at h
  obtain ⟨m, hm, h⟩ := bind_ok_inv h
  obtain ⟨x, hx, h⟩ := bind_ok_inv h
  cases hx
  obtain ⟨st, hst, h⟩ := bind_ok_inv h
  cases h
  exact ⟨m, st, hm, hst, rfl⟩

theorem new_inv_huff {c : Cfg} {seq : Array Nat} {lens : List (Nat × Nat)} {t : WT}
    (hne : seq.isEmpty = false) (h : BinWT.new c true seq lens = .ok t) :
    ∃ codes st, craftWmCodes 2 lens (Utils.asUsize (seq.foldl max 0)) = .ok codes ∧
      (List.range (codes.foldl (fun m x => max m x.len) 0)).foldlM
        (fun st _ => levelStep c true (codes.foldl (fun m x => max m x.len) 0) codes st)
        ({ seq, shift := 1 } : LevelSt) = .ok st ∧
      t = { n := seq.size, nLevels := codes.foldl (fun m x => max m x.len) 0, sigma := none,
            codesEncode := some codes,
            codesDecode := some (decodeTables codes (codes.foldl (fun m x => max m x.len) 0)),
            bvs := st.bvs, lens := st.lens } := by
  unfold BinWT.new at h
  rw [hne] at h
  simp only [if_true] at h
  obtain ⟨codes, hc, h⟩ := bind_ok_inv h
  obtain ⟨x, hx, h⟩ := bind_ok_inv h
  cases hx
  obtain ⟨st, hst, h⟩ := bind_ok_inv h
  cases h
  exact ⟨codes, st, hc, hst, rfl⟩

end BinWT

end Qwt
