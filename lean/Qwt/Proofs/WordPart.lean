import Qwt.Spec.Basic
import Qwt.Model.Utils

/-! `stable_partition_of_4` / `_of_2` (`src/utils/mod.rs`) compute `Spec.stablePart` by the digit at the shift;
    permutation and counting facts about `Spec.stablePart` that the wavelet-matrix levels use as well. -/
namespace Qwt.Proofs.Word
open Qwt Qwt.Utils

theorem asUsize_and (j a : Nat) (hj : j ≤ 64) : asUsize a &&& (2 ^ j - 1) = a % 2 ^ j := by
  rw [Nat.and_two_pow_sub_one_eq_mod, asUsize]
  exact Nat.mod_mod_of_dvd a (Nat.pow_dvd_pow 2 hj)

theorem and3_eq (a : Nat) : asUsize a &&& 3 = a % 4 := asUsize_and 2 a (by decide)

theorem and1_eq (a : Nat) : asUsize a &&& 1 = a % 2 := asUsize_and 1 a (by decide)

theorem foldl_buckets4_eq_filters (shift : Nat) (l : List Nat) : ∀ (b : Buckets4),
    l.foldl (fun (b : Buckets4) a => b.push (asUsize (a >>> shift) &&& 3) a) b =
      { v0 := b.v0 ++ (l.filter (fun x => (x >>> shift) % 4 == 0)).toArray
        v1 := b.v1 ++ (l.filter (fun x => (x >>> shift) % 4 == 1)).toArray
        v2 := b.v2 ++ (l.filter (fun x => (x >>> shift) % 4 == 2)).toArray
        v3 := b.v3 ++ (l.filter (fun x => (x >>> shift) % 4 == 3)).toArray } := by
  induction l with
  | nil => intro b; simp
  | cons a l ih =>
    intro b
    rw [List.foldl_cons, ih, and3_eq]
    simp only [List.filter_cons]
    have h4 : (a >>> shift) % 4 < 4 := Nat.mod_lt _ (by decide)
    generalize (a >>> shift) % 4 = r at h4
    have : r = 0 ∨ r = 1 ∨ r = 2 ∨ r = 3 := by omega
    rcases this with h | h | h | h <;> subst h <;> simp [Buckets4.push]

theorem foldl_buckets2_eq_filters (shift : Nat) (l : List Nat) : ∀ (b : Array Nat × Array Nat),
    l.foldl (fun (b : Array Nat × Array Nat) a =>
      if asUsize (a >>> shift) &&& 1 == 0 then (b.1.push a, b.2) else (b.1, b.2.push a)) b =
      (b.1 ++ (l.filter (fun x => (x >>> shift) % 2 == 0)).toArray,
       b.2 ++ (l.filter (fun x => (x >>> shift) % 2 == 1)).toArray) := by
  induction l with
  | nil => intro b; simp
  | cons a l ih =>
    intro b
    rw [List.foldl_cons, ih, and1_eq]
    simp only [List.filter_cons]
    have h4 : (a >>> shift) % 2 < 2 := Nat.mod_lt _ (by decide)
    generalize (a >>> shift) % 2 = r at h4
    have : r = 0 ∨ r = 1 := by omega
    rcases this with h | h <;> subst h <;> simp

theorem stablePart4 (key : α → Nat) (s : List α) :
    Spec.stablePart key 4 s =
      s.filter (fun x => key x == 0) ++ s.filter (fun x => key x == 1) ++
      s.filter (fun x => key x == 2) ++ s.filter (fun x => key x == 3) := by
  simp [Spec.stablePart, List.range_succ]

theorem stablePart2 (key : α → Nat) (s : List α) :
    Spec.stablePart key 2 s =
      s.filter (fun x => key x == 0) ++ s.filter (fun x => key x == 1) := by
  simp [Spec.stablePart, List.range_succ]

theorem stablePartitionOf4_eq (W shift : Nat) (seq : Array Nat) (hs : shift < W) :
    stablePartitionOf4 W seq shift =
      .ok (Spec.stablePart (fun x => (x >>> shift) % 4) 4 seq.toList).toArray := by
  unfold stablePartitionOf4
  rw [if_neg (fun h => Nat.not_le.mpr hs h.1), ← Array.foldl_toList, foldl_buckets4_eq_filters,
    stablePart4]
  simp [Buckets4.concat]

theorem stablePartitionOf2_eq (W shift : Nat) (seq : Array Nat) (hs : shift < W) :
    stablePartitionOf2 W seq shift =
      .ok (Spec.stablePart (fun x => (x >>> shift) % 2) 2 seq.toList).toArray := by
  unfold stablePartitionOf2
  rw [if_neg (fun h => Nat.not_le.mpr hs h.1), ← Array.foldl_toList, foldl_buckets2_eq_filters,
    stablePart2]
  simp

theorem stablePart_filter (key : α → Nat) (r : Nat) (s : List α) (d : Nat) (hd : d < r) :
    (Spec.stablePart key r s).filter (fun x => key x == d) = s.filter (fun x => key x == d) := by
  induction r with
  | zero => omega
  | succ r ih =>
    unfold Spec.stablePart at *
    rw [List.range_succ, List.flatMap_append, List.filter_append]
    by_cases h : d < r
    · rw [ih h]
      simp only [List.flatMap_cons, List.flatMap_nil, List.append_nil, List.filter_filter]
      have : s.filter (fun x => (key x == d && key x == r)) = [] := by
        rw [List.filter_eq_nil_iff]; intro a _; simp; omega
      rw [this, List.append_nil]
    · have hdr : d = r := by omega
      subst hdr
      have : ((List.range d).flatMap (fun d' => s.filter (fun x => key x == d'))).filter
          (fun x => key x == d) = [] := by
        rw [List.filter_eq_nil_iff]
        intro a ha
        rw [List.mem_flatMap] at ha
        obtain ⟨d', hd', ha⟩ := ha
        simp at hd' ha ⊢
        omega
      rw [this]
      simp [List.filter_filter]

theorem mem_of_mem_stablePart {key : α → Nat} {r : Nat} {s : List α} {x : α}
    (h : x ∈ Spec.stablePart key r s) : x ∈ s := by
  obtain ⟨_, _, hx⟩ := List.mem_flatMap.1 h
  exact (List.mem_filter.1 hx).1

theorem stablePart_filter_all (key : α → Nat) (r : Nat) (s : List α) (hk : ∀ x ∈ s, key x < r)
    (d : Nat) :
    (Spec.stablePart key r s).filter (fun x => key x == d) = s.filter (fun x => key x == d) := by
  by_cases hd : d < r
  · exact stablePart_filter key r s d hd
  · have hne : ∀ x ∈ s, ¬ ((key x == d) = true) := fun x hx => by
      have := hk x hx
      rw [beq_iff_eq]
      omega
    rw [List.filter_eq_nil_iff.2 fun x hx => hne x (mem_of_mem_stablePart hx),
      List.filter_eq_nil_iff.2 hne]

theorem stablePart_perm_lt (key : α → Nat) (r : Nat) (s : List α) :
    (Spec.stablePart key r s).Perm (s.filter (fun x => key x < r)) := by
  induction r with
  | zero => simp [Spec.stablePart]
  | succ r ih =>
    unfold Spec.stablePart at *
    rw [List.range_succ, List.flatMap_append]
    simp only [List.flatMap_cons, List.flatMap_nil, List.append_nil]
    refine (List.Perm.append_right _ ih).trans ?_
    have h := List.filter_append_perm (fun x => decide (key x < r)) (s.filter (fun x => key x < r + 1))
    simp only [List.filter_filter] at h
    have e1 : s.filter (fun x => decide (key x < r) && decide (key x < r + 1)) =
        s.filter (fun x => decide (key x < r)) := by
      apply List.filter_congr; intro x _; simp; omega
    have e2 : s.filter (fun x => (!decide (key x < r)) && decide (key x < r + 1)) =
        s.filter (fun x => key x == r) := by
      apply List.filter_congr; intro x _
      rw [Bool.eq_iff_iff]; simp; omega
    rw [e1, e2] at h
    exact h

theorem stablePart_perm (key : α → Nat) (r : Nat) (s : List α) (hk : ∀ x ∈ s, key x < r) :
    (Spec.stablePart key r s).Perm s := by
  have h := stablePart_perm_lt key r s
  have e : s.filter (fun x => decide (key x < r)) = s := by
    rw [List.filter_eq_self]; intro a ha; simp [hk a ha]
  rwa [e] at h

theorem stablePartitionOf4_size {W sh : Nat} {a a' : Array Nat}
    (h : stablePartitionOf4 W a sh = .ok a') : a'.size = a.size := by
  unfold stablePartitionOf4 at h
  split at h
  · cases h
  · cases h
    have hp := (stablePart_perm (fun x => (x >>> sh) % 4) 4 a.toList
      (fun x _ => Nat.mod_lt _ (by decide))).length_eq
    rw [stablePart4] at hp
    rw [← Array.foldl_toList, foldl_buckets4_eq_filters]
    simpa [Buckets4.concat] using hp

end Qwt.Proofs.Word
