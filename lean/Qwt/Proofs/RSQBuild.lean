import Qwt.Proofs.RSQHolds

/-! `RSSupportPlain::new` (`rsNew`) and `RSQVector::from` (`fromQV`).

One iteration `buildStep` at position `i` is `phase1` (at a superblock start: a new word per symbol, block
counters reset), then `phase2` (at a block start: the block counters go into the field of that block), then
`phase3` (the symbol at `i` is counted, every `rsqSelectNumSamples`-th occurrence sampled): `buildStep_eq`.
`GInv` describes the loop state at any of these points and `BInv m` is its instance between iterations;
`phase1_inv`, `phase2_inv`, `phase3_inv` lead from `BInv m` to `BInv (m + 1)` (`buildStep_inv`, `build_fold`).
After the loop the sentinel block is one more block step (`sentinel_ok`), the sample arrays get their last entry
(`fsinv_of_sinv`), and `RSInv` holds (`rsNew_ok`); `fromQV_ok` adds the symbol counts and gives `RepInv`. -/

namespace Qwt.RSQP
open Qwt Qwt.QV Qwt.RSQ Qwt.Extracted

theorem blocksInSuperblock_eq : rsqBlocksInSuperblock = 8 := rfl

theorem P_pos : 0 < rsqSelectNumSamples := by decide

theorem idx4_lt {j n c : Nat} (hj : j < n) (hc : c < 4) : 4 * j + c < 4 * n := by omega

theorem getD_zeros4 {c : Nat} (hc : c < 4) : (#[0, 0, 0, 0] : Array Nat).getD c 0 = 0 := by
  rcases lt4_cases hc with rfl | rfl | rfl | rfl <;> rfl

theorem rank_lt_two44 (c : Nat) (s : List Nat) (i : Nat) (hlen : s.length < 2 ^ 43) :
    Spec.rank c i s < 2 ^ 44 := by
  have := Spec.rank_le_count c s i
  have := List.count_le_length (a := c) (l := s)
  omega

/-- superblock indices fit the `u32` sample entries -/
theorem sb_lt_two32 {B m : Nat} (hB : 256 ≤ B) (hm : m < 2 ^ 43) : m / (8 * B) < 4294967296 := by
  have := Nat.div_le_div_left (a := m) (show 2048 ≤ 8 * B by omega) (by decide)
  omega

theorem rank_step (s : List Nat) {m x : Nat} (hx : s[m]? = some x) (c : Nat) :
    Spec.rank c (m + 1) s = Spec.rank c m s + if x = c then 1 else 0 := by
  rw [Spec.rank_succ, hx]
  by_cases h : x = c <;> simp [h]

theorem setBlockCounters_ok {sbs bc : Array Nat} {k b : Nat} (hsz : sbs.size = 4 * (k + 1)) (hb : b < 8)
    (hbcs : bc.size = 4) (hbc : ∀ c, c < 4 → bc.getD c 0 < 4096) :
    ∃ sbs', setBlockCounters sbs b bc = .ok sbs' ∧ sbs'.size = sbs.size ∧
      ∀ j c, c < 4 → sbs'.getD (4 * j + c) 0 =
        if j = k ∧ b ≠ 0 then sbs.getD (4 * j + c) 0 ||| (bc.getD c 0 <<< ((b - 1) * 12))
        else sbs.getD (4 * j + c) 0 := by
  unfold setBlockCounters
  rw [if_neg (by omega)]
  have hall : bc.all (· < 4096) = true := by
    rw [Array.all_eq_true]; intro i hi
    have := hbc i (hbcs ▸ hi)
    rw [Array.getD_eq_getD_getElem?, Array.getElem?_eq_getElem hi] at this
    simpa using this
  simp only [guardM, hall, decide_eq_true hb, if_true, bind, Except.bind, pure, Except.pure]
  by_cases hb0 : b = 0
  · subst hb0
    exact ⟨sbs, rfl, rfl, fun j c hc => (if_neg (fun h => h.2 rfl)).symm⟩
  · rw [if_neg (mt beq_iff_eq.1 hb0)]
    refine ⟨_, rfl, size_foldl_modify _ _ _ _, fun j c hc => ?_⟩
    have hin : (4 * k ≤ 4 * j + c ∧ 4 * j + c < 4 * k + 4 ∧ 4 * j + c < 4 * k + 4) ↔ j = k := by omega
    rw [getD_foldl_modify, getElem!_eq_getD_zero, hsz, Nat.mul_succ, Nat.add_sub_cancel, ite_iff_congr hin]
    by_cases hj : j = k
    · rw [if_pos hj, if_pos ⟨hj, hb0⟩, hj, Nat.add_sub_cancel_left]
    · rw [if_neg hj, if_neg (fun h => hj h.1)]

def phase1 (B : Nat) (st : BuildSt) (i : Nat) : BuildSt :=
  if i % (rsqBlocksInSuperblock * B) == 0 then
    { st with sbs := st.sbs ++ st.sbc.map (fun c => (c <<< 84) % two128), bc := #[0, 0, 0, 0] }
  else st

def phase2 (B : Nat) (st : BuildSt) (i : Nat) : M BuildSt :=
  if i % B == 0 then do
    let sbs ← setBlockCounters st.sbs ((i / B) % rsqBlocksInSuperblock) st.bc
    pure { st with sbs }
  else pure st

def bump (st : BuildSt) (symbol : Nat) : BuildSt :=
  { st with sbc := st.sbc.modify symbol (· + 1), bc := st.bc.modify symbol (· + 1),
                    occs := st.occs.modify symbol (· + 1) }

def phase3 (dbg : Bool) (B : Nat) (qv : QVector) (st : BuildSt) (i : Nat) : M BuildSt :=
  if i < QV.len qv then do
    let symbol ← QV.getUnchecked dbg qv i
    let o ← idx st.occs symbol
    if o % rsqSelectNumSamples == 0 then do
        dbgAssert dbg (i / (B * rsqBlocksInSuperblock) ≤ 4294967295)
        dbgAssert dbg (i / (B * rsqBlocksInSuperblock) < st.sbs.size / 4)
        pure (bump { st with samples := st.samples.modify symbol (·.push ((i / (B * rsqBlocksInSuperblock)) % 4294967296)) } symbol)
    else pure (bump st symbol)
  else pure st

theorem buildStep_eq (dbg B qv st i) :
    buildStep dbg B qv st i = (phase2 B (phase1 B st i) i >>= fun st => phase3 dbg B qv st i) := by
  unfold buildStep phase1 phase2 phase3 bump
  by_cases h1 : (i % (rsqBlocksInSuperblock * B) == 0) = true <;>
  by_cases h2 : (i % B == 0) = true <;>
  simp only [h1, h2, if_true, if_false, bind_assoc, pure_bind, Bool.false_eq_true] <;> rfl

variable {s : List Nat} {B : Nat} {st : BuildSt} {q : QVector}

/-- Loop of `RSSupportPlain::new`: `L` is the sample array of symbol `c` once the first `m` symbols of `s` are
    counted, superblocks having `SB` symbols: entry `t` is the superblock of occurrence number
    `t * rsqSelectNumSamples`. -/
structure SInv (s : List Nat) (SB c m : Nat) (L : Array Nat) : Prop where
  size_iff : ∀ t, t < L.size ↔ t * rsqSelectNumSamples < Spec.rank c m s
  val : ∀ t, t < L.size → ∃ p, p < m ∧ s[p]? = some c ∧
    Spec.rank c p s = t * rsqSelectNumSamples ∧ L.getD t 0 = p / SB

theorem sinv_mono {SB c m m' : Nat} {L : Array Nat} (h : SInv s SB c m L)
    (hm : m ≤ m') (hr : Spec.rank c m' s = Spec.rank c m s) : SInv s SB c m' L := by
  refine ⟨fun t => by rw [hr]; exact h.size_iff t, fun t ht => ?_⟩
  obtain ⟨p, h1, h2⟩ := h.val t ht
  exact ⟨p, Nat.lt_of_lt_of_le h1 hm, h2⟩

theorem sinv_keep_eq {SB c m : Nat} {L : Array Nat} (h : SInv s SB c m L)
    (hr : Spec.rank c (m + 1) s = Spec.rank c m s + 1)
    (hne : Spec.rank c m s % rsqSelectNumSamples ≠ 0) : SInv s SB c (m + 1) L := by
  refine ⟨fun t => ?_, fun t ht => ?_⟩
  · rw [hr]
    exact (h.size_iff t).trans (lt_succ_iff_of_ne fun e => hne (e ▸ Nat.mul_mod_left t _))
  · obtain ⟨p, h1, h2⟩ := h.val t ht
    exact ⟨p, Nat.lt_succ_of_lt h1, h2⟩

theorem sinv_push {SB c m : Nat} {L : Array Nat} (h : SInv s SB c m L)
    (hm : s[m]? = some c)
    (he : Spec.rank c m s % rsqSelectNumSamples = 0) : SInv s SB c (m + 1) (L.push (m / SB)) := by
  have hr := Spec.rank_succ_of_eq c s hm
  -- `R = L.size * P`
  have hR : Spec.rank c m s = L.size * rsqSelectNumSamples := by
    obtain ⟨q, hq⟩ : ∃ q, Spec.rank c m s = q * rsqSelectNumSamples := by
      refine ⟨Spec.rank c m s / rsqSelectNumSamples, ?_⟩
      have h0 := Nat.div_add_mod (Spec.rank c m s) rsqSelectNumSamples
      rw [he, Nat.add_zero, Nat.mul_comm] at h0
      exact h0.symm
    have h1 := h.size_iff L.size
    have h2 := h.size_iff q
    rw [hq, Nat.mul_lt_mul_right P_pos] at h1 h2
    have : L.size = q := by omega
    rw [this]; exact hq
  refine ⟨fun t => ?_, fun t ht => ?_⟩
  · rw [hr, hR, Array.size_push, Nat.lt_succ_iff, Nat.lt_succ_iff, Nat.mul_le_mul_right_iff P_pos]
  · rw [Array.size_push] at ht
    by_cases htl : t < L.size
    · obtain ⟨p, h1, h2, h3, h4⟩ := h.val t htl
      exact ⟨p, Nat.lt_succ_of_lt h1, h2, h3, by rw [getD_push_lt _ _ _ htl]; exact h4⟩
    · have : t = L.size := by omega
      subst this
      exact ⟨m, Nat.lt_succ_self m, hm, hR, getD_push_eq _ _⟩

/-- State `st` of the loop of `RSSupportPlain::new` over `s` with blocks of `B` symbols, anywhere inside an
    iteration: `nsb` superblocks exist, block counters are relative
    to position `base`, the block fields of all block starts `< mb` are set, and the first `m`
    symbols are counted -/
structure GInv (s : List Nat) (B nsb base mb m : Nat) (st : BuildSt) : Prop where
  sbc_size : st.sbc.size = 4
  sbc : ∀ c, c < 4 → st.sbc.getD c 0 = Spec.rank c m s
  occs_size : st.occs.size = 4
  occs : ∀ c, c < 4 → st.occs.getD c 0 = Spec.rank c m s
  bc_size : st.bc.size = 4
  bc : ∀ c, c < 4 → st.bc.getD c 0 = Spec.rank c m s - Spec.rank c base s
  sbs_size : st.sbs.size = 4 * nsb
  sb : ∀ j c, j < nsb → c < 4 → sbOf (st.sbs.getD (4 * j + c) 0) = Spec.rank c (j * (8 * B)) s
  fl : ∀ j c b, j < nsb → c < 4 → 1 ≤ b → b ≤ 7 →
    fld (st.sbs.getD (4 * j + c) 0) b =
      if (8 * j + b) * B < mb then Spec.rank c ((8 * j + b) * B) s - Spec.rank c (j * (8 * B)) s else 0
  samples_size : st.samples.size = 4
  samples : ∀ c, c < 4 → SInv s (8 * B) c m (st.samples.getD c #[])

/-- the bound `mb` matters only through the block starts below it -/
theorem ginv_mb {nsb base mb mb' m : Nat} (h : GInv s B nsb base mb m st)
    (hmb : ∀ a, a * B < mb ↔ a * B < mb') : GInv s B nsb base mb' m st :=
  ⟨h.sbc_size, h.sbc, h.occs_size, h.occs, h.bc_size, h.bc, h.sbs_size, h.sb,
    fun j c b hj hc h1 h7 => (h.fl j c b hj hc h1 h7).trans (ite_iff_congr (hmb _) _ _),
    h.samples_size, h.samples⟩

/-- positions past the end of the sequence all look alike to the invariant -/
theorem ginv_pad {nsb base mb m m' : Nat}
    (h : GInv s B nsb base mb m st) (hm : s.length ≤ m) (hmm : m ≤ m') : GInv s B nsb base mb m' st := by
  have hr : ∀ c, Spec.rank c m' s = Spec.rank c m s := fun c => by
    rw [Spec.rank_of_ge c s hm, Spec.rank_of_ge c s (Nat.le_trans hm hmm)]
  exact ⟨h.sbc_size, fun c hc => by rw [hr, h.sbc c hc], h.occs_size,
    fun c hc => by rw [hr, h.occs c hc], h.bc_size, fun c hc => by rw [hr, h.bc c hc],
    h.sbs_size, h.sb, h.fl, h.samples_size, fun c hc => sinv_mono (h.samples c hc) hmm (hr c)⟩

theorem bump_inv {nsb base mb m x : Nat}
    (h : GInv s B nsb base mb m st) (hx : s[m]? = some x) (hbase : base ≤ m)
    (samples' : Array (Array Nat)) (hs1 : samples'.size = 4)
    (hs2 : ∀ c, c < 4 → SInv s (8 * B) c (m + 1) (samples'.getD c #[])) :
    GInv s B nsb base mb (m + 1) (bump { st with samples := samples' } x) := by
  unfold bump
  refine ⟨?_, ?_, ?_, ?_, ?_, ?_, h.sbs_size, h.sb, h.fl, hs1, hs2⟩
  · show (st.sbc.modify x _).size = 4
    rw [Array.size_modify, h.sbc_size]
  · intro c hc
    show (st.sbc.modify x _).getD c 0 = _
    rw [getD_modify_succ (by rw [h.sbc_size]; exact hc), h.sbc c hc, rank_step s hx c]
  · show (st.occs.modify x _).size = 4
    rw [Array.size_modify, h.occs_size]
  · intro c hc
    show (st.occs.modify x _).getD c 0 = _
    rw [getD_modify_succ (by rw [h.occs_size]; exact hc), h.occs c hc, rank_step s hx c]
  · show (st.bc.modify x _).size = 4
    rw [Array.size_modify, h.bc_size]
  · intro c hc
    show (st.bc.modify x _).getD c 0 = _
    rw [getD_modify_succ (by rw [h.bc_size]; exact hc), h.bc c hc, rank_step s hx c]
    exact (Nat.sub_add_comm (Spec.rank_mono c s hbase)).symm

/-- at its first position `m`, block `b` of the last superblock `k` gets its counters;
    `phase2` and the sentinel block of `rsNew` are instances -/
theorem setBlock_inv {k b m : Nat} (hB : 0 < B) (hB' : 8 * B ≤ 4096)
    (hb : b < 8) (hm : m = (8 * k + b) * B) (h : GInv s B (k + 1) (k * (8 * B)) m m st) :
    ∃ sbs', setBlockCounters st.sbs b st.bc = .ok sbs' ∧
      GInv s B (k + 1) (k * (8 * B)) (m + 1) m { st with sbs := sbs' } := by
  subst hm
  have hbc : ∀ c, c < 4 → st.bc.getD c 0 < 4096 := by
    intro c hc
    have h1 := Spec.rank_sub_le c s (sb_le_blk (B := B) k b)
    rw [Nat.add_mul, ← sb_mul, Nat.add_sub_cancel_left] at h1
    rw [h.bc c hc, Nat.add_mul, ← sb_mul]
    exact Nat.lt_of_le_of_lt (Nat.sub_le_iff_le_add'.2 h1)
      (Nat.lt_of_lt_of_le (Nat.mul_lt_mul_of_pos_right hb hB) hB')
  obtain ⟨sbs', e1, e2, e3⟩ := setBlockCounters_ok (k := k) (b := b) h.sbs_size hb h.bc_size hbc
  -- every other block start is on the same side of `m` and of `m + 1`
  have hside : ∀ j b', ¬ (j = k ∧ b' = b) → b' ≤ 7 →
      ((8 * j + b') * B < (8 * k + b) * B ↔ (8 * j + b') * B < (8 * k + b) * B + 1) :=
    fun j b' hn h7 => lt_succ_iff_of_ne fun e =>
      hn (blk_inj (Nat.lt_succ_of_le h7) hb (Nat.eq_of_mul_eq_mul_right hB e))
  refine ⟨sbs', e1, h.sbc_size, h.sbc, h.occs_size, h.occs, h.bc_size, h.bc, e2.trans h.sbs_size,
    ?_, ?_, h.samples_size, h.samples⟩
  · intro j c hj hc
    show sbOf (sbs'.getD _ 0) = _
    rw [e3 j c hc]
    split
    · rw [sbOf_or (hbc c hc) (Nat.le_of_lt_succ hb)]
      exact h.sb j c hj hc
    · exact h.sb j c hj hc
  · intro j c b' hj hc h1 h7
    show fld (sbs'.getD _ 0) b' = _
    rw [e3 j c hc]
    by_cases hjb : j = k ∧ b' = b
    · obtain ⟨rfl, rfl⟩ := hjb
      rw [if_pos ⟨rfl, Nat.ne_of_gt h1⟩, fld_or (hbc c hc) h1 h1, if_pos rfl, h.fl j c b' hj hc h1 h7,
        if_neg (Nat.lt_irrefl _), Nat.zero_or, if_pos (Nat.lt_succ_self _)]
      exact h.bc c hc
    · rw [← ite_iff_congr (hside j b' hjb h7), ← h.fl j c b' hj hc h1 h7]
      split
      · rename_i hjk
        rw [fld_or (hbc c hc) (Nat.pos_of_ne_zero hjk.2) h1, if_neg (fun e => hjb ⟨hjk.1, e⟩)]
      · rfl

/-- the loop invariant before iteration `m`: nothing has happened before iteration `0`; after
    iteration `k` the last superblock is `k / (8 * B)`, and block counters count from its start -/
def BInv (s : List Nat) (B : Nat) : Nat → BuildSt → Prop
  | 0, st => GInv s B 0 0 0 0 st
  | k + 1, st => GInv s B (k / (8 * B) + 1) (k / (8 * B) * (8 * B)) (k + 1) (k + 1) st

theorem binv_zero (s : List Nat) (B : Nat) : BInv s B 0 {} := by
  show GInv s B 0 0 0 0 {}
  refine ⟨rfl, fun c hc => by rw [Spec.rank_zero]; exact getD_zeros4 hc, rfl,
    fun c hc => by rw [Spec.rank_zero]; exact getD_zeros4 hc, rfl,
    fun c hc => by rw [Spec.rank_zero, Nat.zero_sub]; exact getD_zeros4 hc, rfl,
    fun j c hj => absurd hj (Nat.not_lt_zero j), fun j c b hj => absurd hj (Nat.not_lt_zero j), rfl, ?_⟩
  intro c hc
  have : (#[#[], #[], #[], #[]] : Array (Array Nat)).getD c #[] = #[] := by
    rcases lt4_cases hc with rfl | rfl | rfl | rfl <;> rfl
  show SInv s (8 * B) c 0 ((#[#[], #[], #[], #[]] : Array (Array Nat)).getD c #[])
  rw [this]
  refine ⟨fun t => ?_, fun t ht => ?_⟩
  · rw [Spec.rank_zero]; simp
  · simp at ht

theorem phase1_inv {m : Nat} (hlen : s.length < 2 ^ 43)
    (h : BInv s B m st) :
    GInv s B (m / (8 * B) + 1) (m / (8 * B) * (8 * B)) m m (phase1 B st m) := by
  unfold phase1
  rw [blocksInSuperblock_eq]
  by_cases hm : m % (8 * B) = 0
  · rw [if_pos (beq_iff_eq.2 hm)]
    have hbase : m / (8 * B) * (8 * B) = m := Nat.div_mul_cancel (Nat.dvd_of_mod_eq_zero hm)
    -- `m / (8 * B)` superblocks so far; the block counters are reset, whatever they counted from
    obtain ⟨base, h⟩ : ∃ base, GInv s B (m / (8 * B)) base m m st := by
      cases m with
      | zero => exact ⟨0, by rw [Nat.zero_div]; exact h⟩
      | succ k => exact ⟨_, by rw [Nat.succ_div_of_mod_eq_zero hm]; exact h⟩
    have hold : ∀ j c, j < m / (8 * B) → c < 4 →
        (st.sbs ++ st.sbc.map (fun c => (c <<< 84) % two128)).getD (4 * j + c) 0 =
          st.sbs.getD (4 * j + c) 0 := fun j c hj hc =>
      getD_append_left _ _ _ _ (h.sbs_size ▸ idx4_lt hj hc)
    -- the new words, at indices `4 * (m / (8 * B)) + c`, start superblock `m / (8 * B)` at `m`
    have hnew : ∀ c, c < 4 →
        (st.sbs ++ st.sbc.map (fun c => (c <<< 84) % two128)).getD (4 * (m / (8 * B)) + c) 0 =
          (Spec.rank c (m / (8 * B) * (8 * B)) s <<< 84) % two128 := fun c hc => by
      rw [getD_append_right _ _ _ _ (h.sbs_size ▸ Nat.le_add_right _ c), h.sbs_size,
        Nat.add_sub_cancel_left, getD_map _ _ _ 0 0 (h.sbc_size ▸ hc), h.sbc c hc, hbase]
    refine ⟨h.sbc_size, h.sbc, h.occs_size, h.occs, rfl, ?_, ?_, ?_, ?_, h.samples_size, h.samples⟩
    · intro c hc
      rw [hbase, Nat.sub_self]
      exact getD_zeros4 hc
    · show (st.sbs ++ _).size = _
      rw [Array.size_append, h.sbs_size, Array.size_map, h.sbc_size, Nat.mul_succ]
    · intro j c hj hc
      show sbOf ((st.sbs ++ _).getD _ 0) = _
      rcases Nat.lt_succ_iff_lt_or_eq.1 hj with hj' | rfl
      · rw [hold j c hj' hc]
        exact h.sb j c hj' hc
      · rw [hnew c hc, sbOf_init (rank_lt_two44 _ _ _ hlen)]
    · intro j c b hj hc h1 h7
      show fld ((st.sbs ++ _).getD _ 0) b = _
      rcases Nat.lt_succ_iff_lt_or_eq.1 hj with hj' | rfl
      · rw [hold j c hj' hc]
        exact h.fl j c b hj' hc h1 h7
      · rw [hnew c hc, fld_init (rank_lt_two44 _ _ _ hlen) h1 h7,
          if_neg (Nat.not_lt.2 (Nat.le_trans (Nat.le_of_eq hbase.symm) (sb_le_blk _ b)))]
  · rw [if_neg (mt beq_iff_eq.1 hm)]
    cases m with
    | zero => exact absurd (Nat.zero_mod _) hm
    | succ k => rw [Nat.succ_div_of_mod_ne_zero hm]; exact h

theorem phase2_inv {m : Nat} (hB : 0 < B) (hB' : 8 * B ≤ 4096)
    (h : GInv s B (m / (8 * B) + 1) (m / (8 * B) * (8 * B)) m m st) :
    ∃ st', phase2 B st m = .ok st' ∧
      GInv s B (m / (8 * B) + 1) (m / (8 * B) * (8 * B)) (m + 1) m st' := by
  unfold phase2
  rw [blocksInSuperblock_eq]
  by_cases hm : m % B = 0
  · rw [if_pos (beq_iff_eq.2 hm)]
    have hmB : m = (8 * (m / (8 * B)) + m / B % 8) * B := by
      rw [blk_decomp, Nat.div_mul_cancel (Nat.dvd_of_mod_eq_zero hm)]
    obtain ⟨sbs', e, h'⟩ := setBlock_inv hB hB' (Nat.mod_lt _ (by decide)) hmB h
    rw [e]
    exact ⟨_, rfl, h'⟩
  · rw [if_neg (mt beq_iff_eq.1 hm)]
    exact ⟨st, rfl, ginv_mb h fun a => lt_succ_iff_of_ne fun e => hm (by rw [← e, Nat.mul_mod_left])⟩

theorem phase3_inv {nsb base mb m : Nat} (dbg : Bool)
    (hB : 256 ≤ B) (hq : Holds q s) (hs : ∀ x ∈ s, x < 4) (hlen : s.length < 2 ^ 43)
    (hnsb : m / (8 * B) < nsb) (hbase : base ≤ m) (h : GInv s B nsb base mb m st) :
    ∃ st', phase3 dbg B q st m = .ok st' ∧ GInv s B nsb base mb (m + 1) st' := by
  unfold phase3
  rw [holds_len hq]
  by_cases hm : m < s.length
  · rw [if_pos hm, getUnchecked_ok hq hs dbg hm]
    have hx : s[m]? = some (s.getD m 0) := by
      rw [List.getD_eq_getElem?_getD, List.getElem?_eq_getElem hm]; rfl
    have hx4 := sym_lt hs m
    generalize s.getD m 0 = x at hx hx4
    simp only [ok_bind]
    rw [idx_getD 0 (by rw [h.occs_size]; exact hx4), h.occs x hx4]
    simp only [ok_bind]
    have hsb := sb_lt_two32 hB (Nat.lt_trans hm hlen)
    by_cases ho : Spec.rank x m s % rsqSelectNumSamples = 0
    · rw [if_pos (beq_iff_eq.2 ho), blocksInSuperblock_eq, Nat.mul_comm B 8, Nat.mod_eq_of_lt hsb,
        dbgAssert_true dbg (decide_eq_true (Nat.le_of_lt_succ hsb)),
        dbgAssert_true dbg (decide_eq_true (by
          rw [h.sbs_size, Nat.mul_div_cancel_left _ (by decide : 0 < 4)]; exact hnsb))]
      refine ⟨_, rfl, ?_⟩
      apply bump_inv h hx hbase
      · rw [Array.size_modify, h.samples_size]
      · intro c hc
        rw [getD_modify, h.samples_size]
        by_cases hxc : x = c
        · subst hxc
          rw [if_pos ⟨rfl, hc⟩]
          exact sinv_push (h.samples x hc) hx ho
        · rw [if_neg (fun hh => hxc hh.1)]
          apply sinv_mono (h.samples c hc) (Nat.le_succ m)
          rw [rank_step s hx c, if_neg hxc]; rfl
    · rw [if_neg (mt beq_iff_eq.1 ho)]
      refine ⟨_, rfl, ?_⟩
      apply bump_inv h hx hbase st.samples h.samples_size
      intro c hc
      by_cases hxc : x = c
      · subst hxc
        apply sinv_keep_eq (h.samples x hc) _ ho
        rw [rank_step s hx x, if_pos rfl]
      · apply sinv_mono (h.samples c hc) (Nat.le_succ m)
        rw [rank_step s hx c, if_neg hxc]; rfl
  · rw [if_neg hm]
    exact ⟨st, rfl, ginv_pad h (Nat.le_of_not_lt hm) (Nat.le_succ m)⟩

theorem buildStep_inv {m : Nat} (dbg : Bool)
    (hB : B = 256 ∨ B = 512) (hq : Holds q s) (hs : ∀ x ∈ s, x < 4) (hlen : s.length < 2 ^ 43)
    (h : BInv s B m st) :
    ∃ st', buildStep dbg B q st m = .ok st' ∧ BInv s B (m + 1) st' := by
  rw [buildStep_eq]
  have h1 := phase1_inv hlen h
  obtain ⟨st2, e2, h2⟩ := phase2_inv (bsize_pos hB) (bsize_le hB) h1
  obtain ⟨st3, e3, h3⟩ := phase3_inv dbg (bsize_ge hB) hq hs hlen (Nat.lt_succ_self _)
    (Nat.div_mul_le_self _ _) h2
  rw [e2]
  exact ⟨st3, e3, h3⟩

theorem build_fold (dbg : Bool)
    (hB : B = 256 ∨ B = 512) (hq : Holds q s) (hs : ∀ x ∈ s, x < 4) (hlen : s.length < 2 ^ 43)
    (k : Nat) :
    ∃ st, (List.range k).foldlM (buildStep dbg B q) {} = .ok st ∧ BInv s B k st := by
  induction k with
  | zero => exact ⟨{}, rfl, binv_zero s B⟩
  | succ k ih =>
    obtain ⟨st, e, h⟩ := ih
    obtain ⟨st', e', h'⟩ := buildStep_inv dbg hB hq hs hlen h
    refine ⟨st', ?_, h'⟩
    rw [List.range_succ, List.foldlM_append, e]
    simp only [ok_bind, List.foldlM_cons, List.foldlM_nil]
    rw [e']; rfl

/-- After `RSSupportPlain::new`: `S` is the finished sample array of a symbol `c` that occurs in `s`
    (superblocks of `SB` symbols): the samples of `SInv`, then the index of the last superblock. -/
structure FSInv (s : List Nat) (SB c : Nat) (S : Array Nat) : Prop where
  val : ∀ t, t * rsqSelectNumSamples < s.count c → t < S.size ∧ ∃ p, s[p]? = some c ∧
    Spec.rank c p s = t * rsqSelectNumSamples ∧ S.getD t 0 = p / SB
  sentinel : ∀ t, t * rsqSelectNumSamples < s.count c → s.count c ≤ (t + 1) * rsqSelectNumSamples →
    t + 1 < S.size ∧ S.getD (t + 1) 0 = s.length / SB

theorem fsinv_of_sinv {SB c k : Nat} {L : Array Nat}
    (h : SInv s SB c (s.length + 1) L) (hpos : 0 < s.count c) (hk : k = s.length / SB) :
    FSInv s SB c ((if L.isEmpty then L.push 0 else L).push k) := by
  have hr : Spec.rank c (s.length + 1) s = s.count c := Spec.rank_of_ge c s (Nat.le_succ _)
  have hne : L.isEmpty = false := by
    have := (h.size_iff 0).2 (by rw [hr]; omega)
    rw [Array.isEmpty_eq_false_iff]
    intro e; rw [e] at this; simp at this
  rw [hne]
  simp only [Bool.false_eq_true, if_false]
  refine ⟨fun t ht => ?_, fun t ht ht' => ?_⟩
  · have htl : t < L.size := (h.size_iff t).2 (by rw [hr]; exact ht)
    obtain ⟨p, _, h2, h3, h4⟩ := h.val t htl
    exact ⟨by rw [Array.size_push]; exact Nat.lt_succ_of_lt htl, p, h2, h3,
      by rw [getD_push_lt _ _ _ htl]; exact h4⟩
  · have htl : t < L.size := (h.size_iff t).2 (by rw [hr]; exact ht)
    have htl' : ¬ (t + 1 < L.size) := by
      rw [h.size_iff (t + 1), hr]; omega
    have : t + 1 = L.size := by omega
    rw [this, getD_push_eq, Array.size_push]
    exact ⟨Nat.lt_succ_self _, hk⟩

/-- What `RSSupportPlain::new` with blocks of `B` symbols establishes between its result `rs` and the
    sequence `s`. -/
structure RSInv (B : Nat) (rs : RSSupportPlain) (s : List Nat) : Prop where
  sbs_size : rs.superblocks.size = 4 * (s.length / (8 * B) + 1)
  sb : ∀ j c, j ≤ s.length / (8 * B) → c < 4 →
    sbOf (rs.superblocks.getD (4 * j + c) 0) = Spec.rank c (j * (8 * B)) s
  fl : ∀ j c b, j ≤ s.length / (8 * B) → c < 4 → 1 ≤ b → b ≤ 7 →
    fld (rs.superblocks.getD (4 * j + c) 0) b =
      if 8 * j + b ≤ s.length / B + 1 then
        Spec.rank c ((8 * j + b) * B) s - Spec.rank c (j * (8 * B)) s else 0
  samples_size : rs.selectSamples.size = 4
  samples : ∀ c, c < 4 → 0 < s.count c → FSInv s (8 * B) c (rs.selectSamples.getD c #[])

theorem ok_bind {α β : Type} (v : α) (f : α → M β) : (Except.ok v : M α) >>= f = f v := rfl

/-- after the loop: unless the last block is the last of its superblock, the block after it (the
    sentinel) gets its counters, as if the loop had reached its start `(s.length / B + 1) * B` -/
theorem sentinel_ok (hB : 0 < B) (hB' : 8 * B ≤ 4096)
    (h : GInv s B (s.length / (8 * B) + 1) (s.length / (8 * B) * (8 * B)) (s.length + 1)
      (s.length + 1) st) :
    ∃ sbs mb m, (if s.length / B % 8 + 1 < 8 then setBlockCounters st.sbs (s.length / B % 8 + 1) st.bc
        else pure st.sbs) = .ok sbs ∧
      GInv s B (s.length / (8 * B) + 1) (s.length / (8 * B) * (8 * B)) mb m { st with sbs := sbs } ∧
      ∀ j b, j ≤ s.length / (8 * B) → 1 ≤ b → b ≤ 7 →
        ((8 * j + b) * B < mb ↔ 8 * j + b ≤ s.length / B + 1) := by
  by_cases hnb : s.length / B % 8 + 1 < 8
  · have hle : s.length + 1 ≤ (s.length / B + 1) * B := by
      rw [Nat.mul_comm]; exact Nat.lt_mul_div_succ _ hB
    have hpad := ginv_mb (mb' := (s.length / B + 1) * B) (ginv_pad h (Nat.le_succ _) hle) (fun a => by
      rw [mul_lt_succ_iff hB, Nat.mul_lt_mul_right hB, Nat.lt_succ_iff])
    have hm : (s.length / B + 1) * B = (8 * (s.length / (8 * B)) + (s.length / B % 8 + 1)) * B := by
      rw [← Nat.add_assoc, blk_decomp]
    obtain ⟨sbs', e, h'⟩ := setBlock_inv hB hB' hnb hm hpad
    refine ⟨sbs', _, _, by rw [if_pos hnb, e], h', fun j b _ _ _ => ?_⟩
    rw [mul_lt_succ_iff hB, Nat.mul_div_cancel _ hB]
  · refine ⟨st.sbs, _, _, by rw [if_neg hnb]; rfl, h, fun j b hj h1 h7 => ?_⟩
    rw [mul_lt_succ_iff hB]
    rw [sb_div] at hj
    omega

theorem rsNew_ok (dbg : Bool)
    (hB : B = 256 ∨ B = 512) (hq : Holds q s) (hs : ∀ x ∈ s, x < 4) (hlen : s.length < 2 ^ 43) :
    ∃ rs, rsNew dbg B q = .ok rs ∧ RSInv B rs s := by
  unfold rsNew
  obtain ⟨st, e, (h : GInv s B (s.length / (8 * B) + 1) (s.length / (8 * B) * (8 * B)) (s.length + 1)
    (s.length + 1) st)⟩ := build_fold dbg hB hq hs hlen (s.length + 1)
  have hg1 : guardM (decide (QV.len q < 2 ^ rsqLenLimitLog)) Fault.assertDoc = .ok () := by
    unfold guardM; rw [if_pos]; rw [holds_len hq]; exact decide_eq_true hlen
  have hg2 : guardM (B == 256 || B == 512) Fault.assertFail = .ok () := by
    unfold guardM; rw [if_pos]; rcases hB with rfl | rfl <;> rfl
  rw [hg1, hg2, holds_len hq, e]
  simp only [ok_bind]
  obtain ⟨sbs, mb, m, e1, h', hcond⟩ := sentinel_ok (bsize_pos hB) (bsize_le hB) h
  rw [blocksInSuperblock_eq, ite_bind, e1]
  simp only [ok_bind]
  rw [show sbs.size = _ from h'.sbs_size, Nat.mul_div_cancel_left _ (by decide : 0 < 4),
    sub_ok (Nat.le_add_left 1 _), Nat.add_sub_cancel]
  simp only [ok_bind]
  refine ⟨_, rfl, h'.sbs_size, fun j c hj hc => h'.sb j c (Nat.lt_succ_of_le hj) hc,
    fun j c b hj hc h1 h7 => (h'.fl j c b (Nat.lt_succ_of_le hj) hc h1 h7).trans
      (ite_iff_congr (hcond j b hj h1 h7) _ _), ?_, ?_⟩
  · show (st.samples.map _).size = 4
    rw [Array.size_map, h.samples_size]
  · intro c hc hpos
    show FSInv s (8 * B) c ((st.samples.map _).getD c #[])
    rw [getD_map _ _ _ #[] #[] (by rw [h.samples_size]; exact hc)]
    exact fsinv_of_sinv (h.samples c hc) hpos (Nat.mod_eq_of_lt (sb_lt_two32 (bsize_ge hB) hlen))

/-- The representation invariant that `RSQVector::from` establishes between `r` (blocks of `B` symbols) and `s`. -/
structure RepInv (B : Nat) (r : RSQVector) (s : List Nat) : Prop where
  hB : B = 256 ∨ B = 512
  holds : Holds r.qv s
  syms : ∀ x ∈ s, x < 4
  hlen : s.length < 2 ^ 43
  rs : RSInv B r.rs s
  occs : r.nOccsSmaller = #[0, s.count 0, s.count 0 + s.count 1, s.count 0 + s.count 1 + s.count 2,
    s.count 0 + s.count 1 + s.count 2 + s.count 3]

theorem count_fold (hq : Holds q s) (hs : ∀ x ∈ s, x < 4) (k : Nat)
    (hk : k ≤ s.length) :
    ∃ cnt, (List.range k).foldlM (fun (c : Array Nat) i => do
        let s ← QV.getUnchecked false q i
        pure (c.modify s (· + 1))) #[0, 0, 0, 0, 0] = .ok cnt ∧ cnt.size = 5 ∧
      ∀ c, c < 4 → cnt.getD c 0 = Spec.rank c k s := by
  induction k with
  | zero =>
    refine ⟨_, rfl, rfl, fun c hc => ?_⟩
    rw [Spec.rank_zero]
    rcases lt4_cases hc with rfl | rfl | rfl | rfl <;> rfl
  | succ k ih =>
    obtain ⟨cnt, e, hsz, hc⟩ := ih (Nat.le_of_succ_le hk)
    have hx : s[k]? = some (s.getD k 0) := by
      rw [List.getD_eq_getElem?_getD, List.getElem?_eq_getElem hk]; rfl
    refine ⟨cnt.modify (s.getD k 0) (· + 1), ?_, by rw [Array.size_modify, hsz], fun c hc4 => ?_⟩
    · rw [List.range_succ, List.foldlM_append, e]
      simp only [ok_bind, List.foldlM_cons, List.foldlM_nil]
      rw [getUnchecked_ok hq hs false hk]
      rfl
    · rw [getD_modify_succ (hsz ▸ Nat.lt_succ_of_lt hc4), hc c hc4, rank_step s hx c]

theorem fromQV_ok (dbg : Bool)
    (hB : B = 256 ∨ B = 512) (hq : Holds q s) (hs : ∀ x ∈ s, x < 4) (hlen : s.length < 2 ^ 43) :
    ∃ r, fromQV dbg B q = .ok r ∧ RepInv B r s := by
  unfold fromQV
  obtain ⟨rs, e, h⟩ := rsNew_ok dbg hB hq hs hlen
  obtain ⟨cnt, e2, hsz, hc⟩ := count_fold hq hs s.length (Nat.le_refl _)
  rw [e, holds_len hq]
  simp only [ok_bind]
  rw [e2]
  simp only [ok_bind, getElem!_eq_getD_zero]
  refine ⟨_, rfl, hB, hq, hs, hlen, h, ?_⟩
  show #[_, _, _, _, _] = _
  rw [hc 0 (by decide), hc 1 (by decide), hc 2 (by decide), hc 3 (by decide)]
  simp only [← count_eq_rank_length]

end Qwt.RSQP
