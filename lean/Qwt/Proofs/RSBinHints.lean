import Qwt.Proofs.RSBinWord

/-! What `RSNarrow` and `RSWide` share beyond single words.

Select hints: `D n` is the cumulative count after `n` build steps (a step is a 512-bit line for
`RSWide`, a 64-bit word for `RSNarrow`); a group is eight steps.  A hint is recorded at the first
step at which the count reaches the next multiple of `P`; at most one multiple is crossed per step
because a step adds at most `P`.  With them the facts both build loops need about pushed entries
and about the step from unit `n` to `n + 1`, and the search that `select1` / `select0` run over the
hints, stated once for both structures. -/
namespace Qwt.RSBin

structure HintInv (D : Nat → Nat) (P n : Nat) (smp : Array Nat) (hint : Nat) : Prop where
  hint_eq : hint = D n / P
  size : smp.size = hint + 1
  zero : smp.getD 0 0 = 0
  pos : ∀ h, 1 ≤ h → h ≤ hint →
    ∃ m, m < n ∧ smp.getD h 0 = m / 8 ∧ D m < h * P ∧ h * P ≤ D (m + 1)

theorem HintInv.init (D : Nat → Nat) (P : Nat) (h0 : D 0 = 0) : HintInv D P 0 #[0] 0 where
  hint_eq := by simp [h0]
  size := rfl
  zero := rfl
  pos := by intro h h1 h2; omega

theorem HintInv.step {D : Nat → Nat} {P n : Nat} {smp : Array Nat} {hint : Nat}
    (hv : HintInv D P n smp hint) (hP : 0 < P) (hmono : D n ≤ D (n + 1)) (hstep : D (n + 1) ≤ D n + P) :
    HintInv D P (n + 1)
      (if D (n + 1) / P > hint then smp.push (n / 8) else smp)
      (if D (n + 1) / P > hint then hint + 1 else hint) := by
  have hq1 : D n / P ≤ D (n + 1) / P := Nat.div_le_div_right hmono
  have hq2 : D (n + 1) / P ≤ D n / P + 1 := by
    calc D (n + 1) / P ≤ (D n + P) / P := Nat.div_le_div_right hstep
      _ = D n / P + 1 := Nat.add_div_right _ hP
  by_cases hc : D (n + 1) / P > hint
  · simp only [hc, if_true]
    have hnew : D (n + 1) / P = hint + 1 := by have := hv.hint_eq; omega
    refine ⟨hnew.symm, by simp [hv.size], ?_, ?_⟩
    · rw [getD_push_lt _ _ _ (by have := hv.size; omega)]; exact hv.zero
    · intro h h1 h2
      by_cases hh : h ≤ hint
      · obtain ⟨m, hm, e, a1, a2⟩ := hv.pos h h1 hh
        refine ⟨m, by omega, ?_, a1, a2⟩
        rw [getD_push_lt _ _ _ (by have := hv.size; omega)]; exact e
      · have hh' : h = hint + 1 := by omega
        subst hh'
        refine ⟨n, by omega, ?_, ?_, ?_⟩
        · have := getD_push_eq (d := 0) smp (n / 8)
          rw [hv.size] at this; exact this
        · -- D n / P = hint
          have : D n / P < hint + 1 := by have := hv.hint_eq; omega
          exact (Nat.div_lt_iff_lt_mul hP).1 this
        · have : hint + 1 ≤ D (n + 1) / P := by omega
          exact (Nat.le_div_iff_mul_le hP).1 this
  · simp only [hc, if_false]
    have hsame : D (n + 1) / P = hint := by have := hv.hint_eq; omega
    refine ⟨hsame.symm, hv.size, hv.zero, ?_⟩
    intro h h1 h2
    obtain ⟨m, hm, e, a1, a2⟩ := hv.pos h h1 h2
    exact ⟨m, by omega, e, a1, a2⟩

theorem HintInv.step_C {bit : Bool} {s : List Bool} {U P n : Nat} {smp : Array Nat} {hint : Nat}
    (hv : HintInv (fun m => C bit s (U * m)) P n smp hint) (hP : 0 < P) (hU : U ≤ P) {c : Nat}
    (hc : c = C bit s (U * (n + 1))) :
    HintInv (fun m => C bit s (U * m)) P (n + 1)
      (if c / P > hint then smp.push (n / 8) else smp) (if c / P > hint then hint + 1 else hint) := by
  subst hc
  exact hv.step hP (C_mono bit s (Nat.mul_le_mul_left U (Nat.le_succ n)))
    (Nat.le_trans (C_add_le bit s (U * n) U) (Nat.add_le_add_left hU _))

/-- the two hints read by a select for the `k`-th occurrence bracket its group `g` -/
theorem HintInv.bracket {D : Nat → Nat} {P N : Nat} {smp : Array Nat} {hint : Nat}
    (hv : HintInv D P N smp hint) (hP : 0 < P) (hmono : ∀ {i j}, i ≤ j → D i ≤ D j)
    (k : Nat) (hk : k < D N) (sent g : Nat) (hg1 : D (8 * g) ≤ k) (hg2 : k < D (8 * (g + 1)))
    (hsent : g ≤ sent) :
    k / P + 1 < (smp.push sent).size ∧ (smp.push sent).getD (k / P) 0 ≤ g ∧
      g ≤ (smp.push sent).getD (k / P + 1) 0 := by
  have hkh : k / P ≤ hint := by rw [hv.hint_eq]; exact Nat.div_le_div_right (Nat.le_of_lt hk)
  have hsz := hv.size
  generalize hkp : k / P = kp at *
  refine ⟨by simp; omega, ?_, ?_⟩
  · rw [getD_push_lt _ _ _ (by omega)]
    by_cases h0 : kp = 0
    · rw [h0, hv.zero]; exact Nat.zero_le _
    · obtain ⟨m, hm, e, a1, a2⟩ := hv.pos kp (by omega) hkh
      rw [e]
      -- D m < (k/P) * P ≤ k
      have h1 : kp * P ≤ k := by rw [← hkp]; exact Nat.div_mul_le_self k P
      apply Nat.le_of_not_lt
      intro hgt
      have : D (8 * (g + 1)) ≤ D m := hmono (by omega)
      omega
  · by_cases hlast : kp + 1 ≤ hint
    · rw [getD_push_lt _ _ _ (by omega)]
      obtain ⟨m, hm, e, a1, a2⟩ := hv.pos (kp + 1) (by omega) hlast
      rw [e]
      have h1 : k < (kp + 1) * P := by
        have := Nat.div_add_mod k P
        have := Nat.mod_lt k hP
        rw [Nat.add_mul, Nat.one_mul, Nat.mul_comm, ← hkp]; omega
      apply Nat.le_of_not_lt
      intro hgt
      have : D (m + 1) ≤ D (8 * g) := hmono (by omega)
      omega
    · have : kp + 1 = smp.size := by omega
      rw [this, getD_push_eq]; exact hsent

/-- an invariant of the loop body holds after every prefix of a loop over `0..N` -/
theorem foldl_range_inv {σ : Type} (I : Nat → σ → Prop) (f : σ → Nat → σ) {init : σ} {N : Nat} (h0 : I 0 init)
    (hstep : ∀ n st, n < N → I n st → I (n + 1) (f st n)) : ∀ n, n ≤ N → I n ((List.range n).foldl f init) := by
  intro n
  induction n with
  | zero => intro _; exact h0
  | succ n ih =>
    intro hn
    rw [List.range_succ, List.foldl_append]
    exact hstep n _ hn (ih (Nat.le_of_succ_le hn))

theorem succ_last {n : Nat} (h : n % 8 = 7) :
    (n + 1) / 8 = n / 8 + 1 ∧ (n + 1) % 8 = 0 ∧ 8 * (n / 8 + 1) = n + 1 := by omega

theorem succ_mid {n : Nat} (h : n % 8 ≠ 7) : (n + 1) / 8 = n / 8 ∧ (n + 1) % 8 = n % 8 + 1 := by omega

/-! ### the search of `select1_subblock` / `select0_subblock`

The two structures run the same three loops: from the group the hint names, walk groups while
their count stays `≤ i`; step back one group; walk its eight units the same way.  `gval q` and
`uval l` read the count in front of group `q` / unit `l`. -/

def hintScan (gval : Nat → M Nat) (i hintEnd : Nat) : Nat → Nat → M Nat
  | 0, hs => pure hs
  | f + 1, hs =>
    if hs < hintEnd then do
      let v ← gval hs
      if v > i then pure hs else hintScan gval i hintEnd f (hs + 1)
    else pure hs

def unitScan (uval : Nat → M Nat) (i position : Nat) : Nat → Nat → M Nat
  | 0, _ => pure position
  | f + 1, j => do
    let v ← uval (position + j)
    if v > i then do
      let j1 ← sub j 1
      pure (position + j1)
    else if j == 7 then pure (position + j)
    else unitScan uval i position f (j + 1)

def selectScan (gval uval : Nat → M Nat) (samples : Array Nat) (P i : Nat) : M (Nat × Nat) := do
  let hs ← idx samples (i / P)
  let he ← idx samples (i / P + 1)
  let hs ← hintScan gval i (1 + he) (1 + he + 1 - hs) hs
  let g ← sub hs 1
  let l ← unitScan uval i (g * 8) 8 0
  let rank ← uval l
  return (l, rank)

/-- the group walk stops at `tgt`, the first group in front of which more than `k` are counted
(or at `hintEnd`, which the hint guarantees not to lie before it) -/
theorem hintScan_eq {gval : Nat → M Nat} {V : Nat → Nat} {k tgt hintEnd : Nat}
    (hg : ∀ q, q ≤ tgt → gval q = .ok (V q)) (ht : tgt ≤ hintEnd)
    (hbelow : ∀ q, q < tgt → V q ≤ k) (habove : tgt < hintEnd → k < V tgt) :
    ∀ f hs, hs ≤ tgt → tgt - hs ≤ f → hintScan gval k hintEnd f hs = .ok tgt := by
  intro f
  induction f with
  | zero =>
    intro hs h1 h2
    rw [Nat.le_antisymm h1 (Nat.le_of_sub_eq_zero (Nat.le_zero.1 h2))]; rfl
  | succ f ih =>
    intro hs h1 h2
    rw [hintScan]
    by_cases hlt : hs < hintEnd
    · rw [if_pos hlt, hg hs h1, ok_bind]
      by_cases hgt : V hs > k
      · rw [if_pos hgt]
        have : ¬ hs < tgt := fun h => Nat.lt_irrefl _ (Nat.lt_of_lt_of_le hgt (hbelow hs h))
        rw [Nat.le_antisymm h1 (Nat.le_of_not_lt this)]; rfl
      · rw [if_neg hgt]
        have hne : hs ≠ tgt := fun e => hgt (e ▸ habove (e ▸ hlt))
        exact ih (hs + 1) (by omega) (by omega)
    · rw [if_neg hlt, Nat.le_antisymm h1 (by omega)]; rfl

theorem unitScan_eq {uval : Nat → M Nat} {D : Nat → Nat} {k p : Nat}
    (hu : ∀ j, j < 8 → uval (p + j) = .ok (D (p + j))) (h1 : D p ≤ k) (h2 : k < D (p + 8)) :
    ∀ f j, j + f = 8 → j ≤ 7 → (∀ j', j' < j → D (p + j') ≤ k) →
      ∃ l, unitScan uval k p f j = .ok l ∧ p ≤ l ∧ l < p + 8 ∧ D l ≤ k ∧ k < D (l + 1) := by
  intro f
  induction f with
  | zero => intro j hj hj7; omega
  | succ f ih =>
    intro j hjf hj7 hprev
    rw [unitScan, hu j (by omega), ok_bind]
    by_cases hgt : D (p + j) > k
    · rw [if_pos hgt]
      cases j with
      | zero => exact absurd h1 (Nat.not_le_of_gt hgt)
      | succ j => exact ⟨p + j, rfl, Nat.le_add_right _ _, by omega, hprev j (Nat.lt_succ_self j), hgt⟩
    · rw [if_neg hgt]
      by_cases h7 : j = 7
      · subst h7
        exact ⟨p + 7, rfl, Nat.le_add_right _ _, by omega, Nat.le_of_not_lt hgt, h2⟩
      · rw [if_neg (by simpa using h7)]
        exact ih (j + 1) (by omega) (by omega) fun j' hj' =>
          if e : j' = j then e ▸ Nat.le_of_not_lt hgt else hprev j' (by omega)

/-- the whole search returns the unit `l` holding occurrence `k` together with the count in front
of it.  `N` units were scanned by the build loop, in `G` groups; `S ≥ G` is the sentinel stored
after the hints, up to which group counts can be read. -/
theorem selectScan_eq {D : Nat → Nat} {P N : Nat} {smp : Array Nat} {hint : Nat}
    (hv : HintInv D P N smp hint) (hP : 0 < P) (hmono : ∀ {i j}, i ≤ j → D i ≤ D j) (h0 : D 0 = 0)
    {gval uval : Nat → M Nat} {G S : Nat} (hN : N ≤ 8 * G) (hS : G ≤ S)
    (hg : ∀ q, q ≤ S → gval q = .ok (D (8 * q))) (hu : ∀ l, l < 8 * G → uval l = .ok (D l))
    {k : Nat} (hk : k < D N) :
    ∃ l, selectScan gval uval (smp.push S) P k = .ok (l, D l) ∧ l < N ∧ D l ≤ k ∧ k < D (l + 1) := by
  obtain ⟨g, hgG, hg1, hg2⟩ := exists_step (fun q => D (8 * q)) k G (by rw [Nat.mul_zero, h0]; exact Nat.zero_le k)
    (Nat.lt_of_lt_of_le hk (hmono hN))
  obtain ⟨hb1, hb2, hb3⟩ := hv.bracket hP hmono k hk S g hg1 hg2 (by omega)
  obtain ⟨l, hl, hl1, hl2, hl3, hl4⟩ := unitScan_eq (fun j hj => hu (8 * g + j) (by omega)) hg1 hg2
    8 0 rfl (by decide) fun _ h => absurd h (Nat.not_lt_zero _)
  refine ⟨l, ?_, Nat.lt_of_not_le fun h => Nat.lt_irrefl k (Nat.lt_of_lt_of_le hk (Nat.le_trans (hmono h) hl3)),
    hl3, hl4⟩
  rw [selectScan, idx_getD 0 (by omega), ok_bind, idx_getD 0 hb1, ok_bind,
    hintScan_eq (tgt := g + 1) (fun q hq => hg q (by omega)) (by omega)
      (fun q hq => Nat.le_trans (hmono (by omega)) hg1) (fun _ => hg2) _ _ (by omega) (by omega),
    ok_bind, sub_ok (Nat.le_add_left 1 g), ok_bind, Nat.add_sub_cancel, Nat.mul_comm g 8, hl, ok_bind,
    hu l (by omega)]
  rfl

/-- the count of `bit` in front of boundary `q`, read off a reader `rk` of counts of ones (`U` bits
to a unit): what `select1_subblock` / `select0_subblock` compare with `i` -/
def readC (rk : Nat → M Nat) (U : Nat) (bit : Bool) (q : Nat) : M Nat := do
  let r ← rk q
  if bit then pure r else sub (U * q) r

theorem readC_eq {rk : Nat → M Nat} {U q : Nat} {s : List Bool} (h : rk q = .ok (R s (U * q))) (bit : Bool) :
    readC rk U bit q = .ok (C bit s (U * q)) := by
  rw [readC, h, ok_bind]
  cases bit
  · exact sub_ok (Spec.rank_le true s _)
  · rfl

/-- a structure whose two readers return the prefix counts of ones (groups up to the sentinel `S`,
units inside the `G` groups) and whose hints are those of the build loop finds, for every
`k < s.count bit`, the unit holding occurrence `k` -/
theorem selectScan_C {bit : Bool} {s : List Bool} {U P N : Nat} {smp : Array Nat} {hint : Nat}
    (hh : HintInv (fun m => C bit s (U * m)) P N smp hint) (hP : 0 < P)
    {rkG rkU : Nat → M Nat} {G S : Nat} (hN : N ≤ 8 * G) (hS : G ≤ S)
    (hg : ∀ q, q ≤ S → rkG q = .ok (R s (8 * U * q))) (hu : ∀ l, l < 8 * G → rkU l = .ok (R s (U * l)))
    (hlen : s.length ≤ U * N) {k : Nat} (hk : k < s.count bit) :
    ∃ l, selectScan (readC rkG (8 * U) bit) (readC rkU U bit) (smp.push S) P k = .ok (l, C bit s (U * l)) ∧
      l < N ∧ C bit s (U * l) ≤ k ∧ k < C bit s (U * (l + 1)) :=
  selectScan_eq hh hP (fun hij => C_mono bit s (Nat.mul_le_mul_left U hij)) (C_zero bit s) hN hS
    (fun q hq => by rw [readC_eq (hg q hq), Nat.mul_comm 8 U, Nat.mul_assoc])
    (fun l hl => readC_eq (hu l hl) bit)
    (Nat.lt_of_lt_of_le hk (C_length bit s ▸ C_mono bit s hlen))

end Qwt.RSBin
