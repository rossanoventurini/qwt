import Qwt.Proofs.WordBits

/-!
`Spec.rank` / `Spec.select` as the wavelet matrices (binary and quad) use them.  The general facts are the
`Spec.*` lemmas of `WordBits`; `rank_le_length`, `rank_le_count`, `select_eq_none_iff`, `select_none`,
`rank_cons_succ`, `select_eq_some_iff`, `select_some` restate them under the names and argument orders the
matrix proofs call.  Proved here: `rank_nil`, `select_rank`, `le_of_select` and the lemmas on mapped and
filtered lists.
-/

namespace Qwt.BinWM
open Qwt

theorem rank_le_length [BEq α] (c : α) (i : Nat) (s : List α) : Spec.rank c i s ≤ i :=
  Spec.rank_le c s i

theorem rank_le_count [BEq α] (c : α) (i : Nat) (s : List α) : Spec.rank c i s ≤ s.count c :=
  Spec.rank_le_count c s i

theorem select_eq_none_iff [BEq α] [LawfulBEq α] {c : α} {k : Nat} {s : List α} :
    Spec.select c k s = none ↔ s.count c ≤ k :=
  Spec.select_eq_none_iff

theorem select_none [BEq α] {c : α} {k : Nat} {s : List α}
    (h : s.count c ≤ k) : Spec.select c k s = none :=
  Proofs.Word.select_none c s k h

variable {α : Type}

theorem rank_nil [BEq α] (c : α) (i : Nat) : Spec.rank c i ([] : List α) = 0 := by
  simp [Spec.rank]

theorem rank_cons_succ [BEq α] (c x : α) (i : Nat) (s : List α) :
    Spec.rank c (i + 1) (x :: s) = Spec.rank c i s + (if x == c then 1 else 0) :=
  Spec.rank_cons_succ c s x i

theorem select_eq_some_iff [BEq α] [LawfulBEq α] {c : α} {k q : Nat} {s : List α} :
    Spec.select c k s = some q ↔ s[q]? = some c ∧ Spec.rank c q s = k :=
  Spec.select_eq_some_iff

theorem select_some [BEq α] [LawfulBEq α] {c : α} {k q : Nat} {s : List α}
    (h : Spec.select c k s = some q) :
    q < s.length ∧ s[q]? = some c ∧ Spec.rank c q s = k :=
  Spec.of_select_eq_some h

theorem select_rank [BEq α] [LawfulBEq α] {c : α} {q : Nat} {s : List α}
    (h : s[q]? = some c) : Spec.select c (Spec.rank c q s) s = some q :=
  select_eq_some_iff.mpr ⟨h, rfl⟩

theorem le_of_select [BEq α] [LawfulBEq α] {c : α} {b n q : Nat} {s : List α}
    (h : Spec.select c n s = some q) (hb : Spec.rank c b s ≤ n) : b ≤ q := by
  obtain ⟨hget, hrank⟩ := select_eq_some_iff.mp h
  apply Classical.byContradiction
  intro hlt
  have hmono := Spec.rank_mono c s (Nat.succ_le_of_lt (Nat.lt_of_not_le hlt))
  rw [Spec.rank_succ_of_eq c s hget, hrank] at hmono
  exact Nat.not_succ_le_self n (Nat.le_trans hmono hb)

theorem rank_map (p : α → Bool) (v : Bool) (j : Nat) (l : List α) :
    Spec.rank v j (l.map p) = (l.take j).countP (fun x => p x == v) := by
  unfold Spec.rank
  rw [← List.map_take, List.count_eq_countP, List.countP_map]
  rfl

theorem count_map (p : α → Bool) (v : Bool) (l : List α) :
    (l.map p).count v = l.countP (fun x => p x == v) := by
  rw [List.count_eq_countP, List.countP_map]; rfl

theorem filter_take (q : α → Bool) (i : Nat) (l : List α) :
    (l.filter q).take ((l.take i).countP q) = (l.take i).filter q := by
  induction l generalizing i with
  | nil => simp
  | cons x xs ih =>
    cases i with
    | zero => simp
    | succ i =>
      by_cases hx : q x
      · simp [List.take_succ_cons, hx, ih]
      · simp [List.take_succ_cons, hx, ih]

/-- the element at position `j` reappears in the filtered list at the number of kept
    predecessors -/
theorem filter_getElem (q : α → Bool) (j : Nat) (l : List α) (x : α)
    (h : l[j]? = some x) (hq : q x = true) :
    (l.filter q)[(l.take j).countP q]? = some x := by
  induction l generalizing j with
  | nil => simp at h
  | cons y ys ih =>
    cases j with
    | zero =>
      simp at h; subst h
      simp [hq]
    | succ j =>
      have h' : ys[j]? = some x := by simpa using h
      by_cases hy : q y
      · simp [hy, ih j h']
      · simp [hy, ih j h']

end Qwt.BinWM
