import Qwt.Proofs.CraftSort
import Qwt.Proofs.WordBits
/-! C02: the decode tables (`decodeTables`, `tableFind`) invert an injective code table. -/
namespace Qwt.Proofs.Craft
open Qwt Qwt.Huff Qwt.Props.C02

theorem prefixCode_eq_mk {cd : PrefixCode} {c l : Nat} (h1 : cd.content = c) (h2 : cd.len = l) :
    cd = ⟨c, l⟩ := by
  subst h1 h2
  rfl

theorem tableFind_iff {l : List (Nat × Nat)} (hu : ∀ x ∈ l, ∀ y ∈ l, x.1 = y.1 → x = y)
    (key v : Nat) : tableFind l.toArray key = some v ↔ (key, v) ∈ l := by
  unfold tableFind
  rw [List.toList_toArray]
  constructor
  · intro h
    obtain ⟨⟨c, i⟩, hf, rfl⟩ := Option.map_eq_some_iff.mp h
    have hc : (c == key) = true := List.find?_some (p := fun x : Nat × Nat => x.1 == key) hf
    exact beq_iff_eq.mp hc ▸ List.mem_of_find?_eq_some hf
  · intro h
    have : (l.find? (fun x => x.1 == key)).isSome :=
      List.find?_isSome.mpr ⟨_, h, beq_self_eq_true key⟩
    obtain ⟨x, hx⟩ := Option.isSome_iff_exists.mp this
    have hk : (x.1 == key) = true := List.find?_some (p := fun x : Nat × Nat => x.1 == key) hx
    rw [hx, hu x (List.mem_of_find?_eq_some hx) _ h (beq_iff_eq.mp hk)]
    rfl

/-- the bucket-filling step of `decodeTables` -/
def fillStep (codes : Array PrefixCode) (acc : Array (List (Nat × Nat))) (i : Nat) :
    Array (List (Nat × Nat)) :=
  let cd := codes[i]!
  if cd.len != 0 then acc.modify cd.len (fun l => l ++ [(cd.content, i)]) else acc

theorem size_fillStep (codes : Array PrefixCode) (acc : Array (List (Nat × Nat))) (n : Nat) :
    (fillStep codes acc n).size = acc.size := by
  unfold fillStep
  dsimp only
  split
  · exact Array.size_modify
  · rfl

theorem mem_fillStep (codes : Array PrefixCode) {acc : Array (List (Nat × Nat))} {L : Nat}
    (hL : L < acc.size) (n c i : Nat) :
    (c, i) ∈ (fillStep codes acc n).getD L [] ↔
      (c, i) ∈ acc.getD L [] ∨ (i = n ∧ codes[n]!.len = L ∧ L ≠ 0 ∧ codes[n]!.content = c) := by
  unfold fillStep
  by_cases hz : codes[n]!.len = 0
  · rw [if_neg (by simp [hz])]
    exact ⟨Or.inl, fun h => h.elim id fun ⟨_, h1, h2, _⟩ => absurd (h1 ▸ hz) h2⟩
  · rw [if_pos (by simp [hz]), Array.getD_eq_getD_getElem?, Array.getD_eq_getD_getElem?,
      Array.getElem?_modify, Array.getElem?_eq_getElem hL]
    by_cases hLe : codes[n]!.len = L
    · rw [if_pos hLe, Option.map_some, Option.getD_some, Option.getD_some, List.mem_append,
        List.mem_singleton, Prod.mk.injEq]
      exact or_congr_right ⟨fun ⟨h1, h2⟩ => ⟨h2, hLe, hLe ▸ hz, h1.symm⟩,
        fun ⟨h1, _, _, h2⟩ => ⟨h2.symm, h1⟩⟩
    · rw [if_neg hLe]
      exact ⟨Or.inl, fun h => h.elim id fun ⟨_, h1, _⟩ => absurd h1 hLe⟩

theorem fill_spec (codes : Array PrefixCode) (maxLen : Nat) : ∀ n,
    ((List.range n).foldl (fillStep codes) (Array.replicate (maxLen + 1) [])).size = maxLen + 1 ∧
    ∀ L c i, L ≤ maxLen →
      ((c, i) ∈ ((List.range n).foldl (fillStep codes) (Array.replicate (maxLen + 1) [])).getD L [] ↔
        i < n ∧ codes[i]!.len = L ∧ L ≠ 0 ∧ codes[i]!.content = c) := by
  intro n
  induction n with
  | zero =>
    refine ⟨Array.size_replicate .., fun L c i hL => ?_⟩
    rw [List.range_zero, List.foldl_nil, Array.getD_eq_getD_getElem?, Array.getElem?_replicate,
      if_pos (by omega), Option.getD_some]
    exact ⟨fun h => absurd h List.not_mem_nil, fun h => absurd h.1 (Nat.not_lt_zero _)⟩
  | succ n ih =>
    obtain ⟨ih1, ih2⟩ := ih
    rw [List.range_succ, List.foldl_append, List.foldl_cons, List.foldl_nil]
    refine ⟨(size_fillStep ..).trans ih1, fun L c i hL => ?_⟩
    rw [mem_fillStep _ (by omega), ih2 L c i hL]
    constructor
    · rintro (⟨a, b⟩ | ⟨rfl, b⟩)
      · exact ⟨Nat.lt_succ_of_lt a, b⟩
      · exact ⟨Nat.lt_succ_self _, b⟩
    · rintro ⟨a, b⟩
      rcases Nat.lt_or_eq_of_le (Nat.le_of_lt_succ a) with h | rfl
      · exact .inl ⟨h, b⟩
      · exact .inr ⟨rfl, b⟩

theorem decodeTables_eq (codes : Array PrefixCode) (maxLen : Nat) :
    decodeTables codes maxLen =
      ((List.range codes.size).foldl (fillStep codes) (Array.replicate (maxLen + 1) [])).map
        (fun l => (sortByKey (fun x => x.1) l).toArray) := rfl

theorem lt_size_of_len_ne_zero {codes : Array PrefixCode} {i : Nat} (h : codes[i]!.len ≠ 0) :
    i < codes.size := by
  apply Nat.lt_of_not_le
  intro hle
  apply h
  rw [Array.getElem!_eq_getD, Array.getD_eq_getD_getElem?, Array.getElem?_eq_none hle]
  rfl

theorem decode_tables_find {codes : Array PrefixCode} {maxLen : Nat}
    (hinj : ∀ i i' : Nat, codes[i]!.len ≠ 0 → codes[i]! = codes[i']! → i = i')
    (hmax : ∀ s : Nat, codes[s]!.len ≤ maxLen) (len content sym : Nat) :
    tableFind ((decodeTables codes maxLen)[len]!) content = some sym ↔
      codes[sym]! = ⟨content, len⟩ ∧ len ≠ 0 := by
  obtain ⟨hsz, hmem⟩ := fill_spec codes maxLen codes.size
  rw [decodeTables_eq]
  generalize (List.range codes.size).foldl (fillStep codes) (Array.replicate (maxLen + 1) []) = filled
    at hsz hmem
  by_cases hL : len ≤ maxLen
  · have htab : (filled.map (fun l => (sortByKey (fun x => x.1) l).toArray))[len]!
        = (sortByKey (fun x => x.1) (filled.getD len [])).toArray := by
      rw [Array.getElem!_eq_getD, Array.getD_eq_getD_getElem?, Array.getElem?_map,
        Array.getD_eq_getD_getElem?, Array.getElem?_eq_getElem (by omega)]
      rfl
    have hin : ∀ c i, (c, i) ∈ sortByKey (fun x : Nat × Nat => x.1) (filled.getD len []) ↔
        i < codes.size ∧ codes[i]!.len = len ∧ len ≠ 0 ∧ codes[i]!.content = c := fun c i => by
      rw [(sortByKey_perm _ _).mem_iff, hmem len c i hL]
    rw [htab, tableFind_iff ?_, hin]
    · constructor
      · rintro ⟨_, a, b, c⟩
        exact ⟨prefixCode_eq_mk c a, b⟩
      · rintro ⟨h1, h2⟩
        exact ⟨lt_size_of_len_ne_zero (by rw [h1]; exact h2), by rw [h1], h2, by rw [h1]⟩
    · rintro ⟨c, i⟩ hx ⟨c', i'⟩ hy (e : c = c')
      obtain ⟨_, a, b, d⟩ := (hin c i).mp hx
      obtain ⟨_, a', _, d'⟩ := (hin c' i').mp hy
      rw [e, hinj i i' (a ▸ b) ((prefixCode_eq_mk (d.trans e) a).trans (prefixCode_eq_mk d' a').symm)]
  · have htab : (filled.map (fun l => (sortByKey (fun x => x.1) l).toArray))[len]! = #[] := by
      rw [Array.getElem!_eq_getD, Array.getD_eq_getD_getElem?,
        Array.getElem?_eq_none (by rw [Array.size_map]; omega)]
      rfl
    rw [htab]
    constructor
    · intro h
      cases h
    · rintro ⟨h1, _⟩
      have := hmax sym
      rw [h1] at this
      exact absurd this hL

/-- `max_len` as computed by `HuffQWaveletTree::new` bounds every length -/
theorem len_le_maxLen (codes : Array PrefixCode) (s : Nat) :
    codes[s]!.len ≤ codes.foldl (fun m x => max m x.len) 0 := by
  by_cases h : s < codes.size
  · rw [getElem!_pos codes s h, ← Array.foldl_toList, ← List.foldl_map (f := PrefixCode.len)]
    exact (Spec.le_foldl_max _ 0).2 _ (List.mem_map_of_mem (Array.getElem_mem_toList h))
  · rw [Array.getElem!_eq_getD, Array.getD_eq_getD_getElem?, Array.getElem?_eq_none (by omega)]
    exact Nat.zero_le _

theorem wmvalid_inj {D : Nat} {codes : Array PrefixCode} {occ : List Nat} (hv : WMValid D codes occ) :
    ∀ i i' : Nat, codes[i]!.len ≠ 0 → codes[i]! = codes[i']! → i = i' := by
  intro i i' h0 he
  apply Classical.byContradiction
  intro hne
  have hi : i ∈ occ := Classical.byContradiction (fun h => h0 (hv.nonocc_len i h))
  have hi' : i' ∈ occ := Classical.byContradiction (fun h => h0 (by rw [he]; exact hv.nonocc_len i' h))
  exact hv.prefix_free i hi i' hi' hne (by rw [he]; exact List.prefix_refl _)

end Qwt.Proofs.Craft

