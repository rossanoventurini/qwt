import Qwt.Proofs.RSQBuild

/-! From `RSInv`: the counters of a superblock word, `getRank`, `rankBlock`. From `RepInv`: `rankIntraBlock`,
`rank`, `occs`, `occsSmaller`. -/
namespace Qwt.RSQP
open Qwt Qwt.QV Qwt.RSQ Qwt.Extracted

variable {B : Nat} {rs : RSSupportPlain} {r : RSQVector} {s : List Nat}

theorem nSuperblocks_eq (h : RSInv B rs s) :
    nSuperblocks rs = s.length / (8 * B) + 1 := by
  unfold nSuperblocks; rw [h.sbs_size, Nat.mul_div_cancel_left _ (by decide : 0 < 4)]

theorem sbs_uidx (h : RSInv B rs s) {j c : Nat}
    (hj : j ≤ s.length / (8 * B)) (hc : c < 4) :
    uidx rs.superblocks (4 * j + c) = .ok (rs.superblocks.getD (4 * j + c) 0) := by
  have hlt : 4 * j + c < rs.superblocks.size := h.sbs_size ▸ idx4_lt (Nat.lt_succ_of_le hj) hc
  rw [uidx_ok hlt, Array.getD, dif_pos hlt]; rfl

/-- the absolute counter of superblock `j`, as `get_rank` and `get_superblock_counter` read it -/
theorem sbCounter_eq (h : RSInv B rs s)
    (hlen : s.length < 2 ^ 43) {j c : Nat} (hj : j ≤ s.length / (8 * B)) (hc : c < 4) :
    (rs.superblocks.getD (4 * j + c) 0 >>> 84) % two64 = Spec.rank c (j * (8 * B)) s := by
  rw [show _ >>> 84 = _ from h.sb j c hj hc, two64_eq]
  exact Nat.mod_eq_of_lt (Nat.lt_trans (rank_lt_two44 _ _ _ hlen) (by decide))

/-- block counter `b` of a packed word, `0` for block `0` -/
def fld0 (w b : Nat) : Nat := if b = 0 then 0 else fld w b

/-- absolute counter plus block counter is the rank at the start of block `b` of superblock `j`,
    up to the sentinel block -/
theorem sb_add_fld0 (h : RSInv B rs s) {j c b : Nat}
    (hj : j ≤ s.length / (8 * B)) (hc : c < 4) (hb7 : b ≤ 7) (hb : 8 * j + b ≤ s.length / B + 1) :
    Spec.rank c (j * (8 * B)) s + fld0 (rs.superblocks.getD (4 * j + c) 0) b =
      Spec.rank c ((8 * j + b) * B) s := by
  unfold fld0
  by_cases hb0 : b = 0
  · rw [if_pos hb0, hb0, Nat.add_zero, Nat.add_zero, sb_mul]
  · rw [if_neg hb0, h.fl j c b hj hc (Nat.pos_of_ne_zero hb0) hb7, if_pos hb]
    exact Nat.add_sub_of_le (Spec.rank_mono c s (sb_le_blk j b))

/-- the branch-free field read of `get_rank` -/
theorem getRank_field (w b : Nat) :
    (((w >>> ((b - if b > 0 then 1 else 0) * 12)) % two64) &&& 0xFFF) * (if b > 0 then 1 else 0) =
      fld0 w b := by
  unfold fld0 fld
  by_cases hb0 : b = 0
  · rw [if_pos hb0, hb0]; rfl
  · rw [if_neg hb0, if_pos (Nat.pos_of_ne_zero hb0), Nat.mul_one, show (0xFFF : Nat) = 2 ^ 12 - 1 from rfl,
      Nat.and_two_pow_sub_one_eq_mod, two64_eq, Nat.mod_mod_of_dvd _ (by decide : 2 ^ 12 ∣ 2 ^ 64),
      Nat.mul_comm (b - 1) 12]

theorem getRank_ok (h : RSInv B rs s) (hlen : s.length < 2 ^ 43) {j c b : Nat}
    (hj : j ≤ s.length / (8 * B)) (hc : c < 4) (hb7 : b ≤ 7) (hb : 8 * j + b ≤ s.length / B + 1) :
    getRank rs j c b = .ok (Spec.rank c ((8 * j + b) * B) s) := by
  unfold getRank
  rw [if_neg (Nat.not_le.2 hc), sbs_uidx h hj hc]
  simp only [ok_bind]
  rw [sbCounter_eq h hlen hj hc, getRank_field, sb_add_fld0 h hj hc hb7 hb]
  rfl

theorem rankBlock_ok (h : RSInv B rs s) (hlen : s.length < 2 ^ 43) (dbg : Bool) {c i : Nat} (hc : c ≤ 3)
    (hi : i ≤ s.length) :
    rankBlock dbg B rs c i = .ok (Spec.rank c (i / B * B) s) := by
  unfold rankBlock
  rw [dbgAssert_true dbg (decide_eq_true hc), blocksInSuperblock_eq, nSuperblocks_eq h, Nat.mul_comm B 8]
  simp only [ok_bind]
  have hsb : i / (8 * B) ≤ s.length / (8 * B) := Nat.div_le_div_right hi
  have hbl : i / B ≤ s.length / B := Nat.div_le_div_right hi
  have hdec := blk_decomp (B := B) i
  rw [if_neg (Nat.not_le.2 (Nat.lt_succ_of_le hsb)),
    show i / B &&& 7 = i / B % 8 from Nat.and_two_pow_sub_one_eq_mod _ 3,
    getRank_ok h hlen hsb (Nat.lt_succ_of_le hc) (Nat.le_of_lt_succ (Nat.mod_lt _ (by decide)))
      (hdec.symm ▸ Nat.le_succ_of_le hbl), hdec]

/-- `lineRank` behind its bounds check, when the counted prefix lies inside the sequence (past
    the last line the prefix is empty) -/
theorem lineRank_rank {q : QVector} (h : Holds q s) (hs : ∀ x ∈ s, x < 4) (dbg : Bool)
    {l c i : Nat} (hc : c < 4) (hi : i ≤ 256) (hin : 256 * l + i ≤ s.length) :
    (if l < nLines q then lineRank dbg q.data l c i else pure 0) =
      .ok (Spec.rank c (256 * l + i) s - Spec.rank c (256 * l) s) := by
  rw [holds_nLines h]
  by_cases hl : l < (s.length + 255) / 256
  · rw [if_pos hl, lineRank_ok h hs dbg hl hc hi, cnt_line_eq_rank s c (256 * l) i hin]
  · rw [if_neg hl, show i = 0 by omega, Nat.add_zero, Nat.sub_self]; rfl

theorem rankIntraBlock_ok (h : RepInv B r s) (dbg : Bool)
    {c i : Nat} (hc : c ≤ 3) (hi : i ≤ s.length) :
    rankIntraBlock dbg B r c i = .ok (Spec.rank c i s - Spec.rank c (i / B * B) s) := by
  unfold rankIntraBlock
  have hq := h.holds
  have hs := h.syms
  have hc4 := Nat.lt_succ_of_le hc
  rw [dbgAssert_true dbg (decide_eq_true hc)]
  rcases h.hB with rfl | rfl
  · rw [dbgAssert_true dbg (by decide)]
    simp only [ok_bind, show ((256 : Nat) == 256) = true from rfl, if_true]
    rw [show i >>> 8 = i / 256 from Nat.shiftRight_eq_div_pow i 8,
      show i &&& 255 = i % 256 from Nat.and_two_pow_sub_one_eq_mod i 8,
      lineRank_rank hq hs dbg hc4 (Nat.le_of_lt (Nat.mod_lt _ (by decide)))
        (by rw [Nat.div_add_mod]; exact hi), Nat.div_add_mod, Nat.mul_comm]
  · rw [dbgAssert_true dbg (by decide)]
    simp only [ok_bind, show ((512 : Nat) == 256) = false from rfl, show ((512 : Nat) == 512) = true from rfl,
      if_true, Bool.false_eq_true, if_false]
    rw [show i >>> 9 = i / 512 from Nat.shiftRight_eq_div_pow i 9,
      show i &&& 511 = i % 512 from Nat.and_two_pow_sub_one_eq_mod i 9]
    -- `i = 256 * l + o` with `l = i / 512 * 2` the first line of the block
    have ho : i % 512 < 512 := Nat.mod_lt _ (by decide)
    have hi' : i = 256 * (i / 512 * 2) + i % 512 := by omega
    rw [show i / 512 * 512 = 256 * (i / 512 * 2) by omega]
    generalize i / 512 * 2 = l at hi' ⊢
    generalize i % 512 = o at ho hi' ⊢
    subst hi'
    by_cases hoff : o ≤ 256
    · rw [if_pos hoff, ite_bind, lineRank_rank hq hs dbg hc4 hoff hi]
      simp only [ok_bind]
      rw [if_neg (Nat.not_lt.2 hoff)]; rfl
    · rw [if_neg hoff, ite_bind, lineRank_rank hq hs dbg hc4 (Nat.le_refl _) (by omega)]
      simp only [ok_bind]
      rw [if_pos (Nat.lt_of_not_le hoff), ite_bind,
        lineRank_rank hq hs dbg hc4 (show o - 256 ≤ 256 by omega) (by omega)]
      simp only [ok_bind]
      rw [Nat.mul_succ, show 256 * l + 256 + (o - 256) = 256 * l + o by omega, Nat.add_comm,
        Nat.sub_add_sub_cancel (Spec.rank_mono c s (by omega)) (Spec.rank_mono c s (Nat.le_add_right _ _))]
      rfl

theorem rankUnchecked_ok (h : RepInv B r s) (dbg : Bool)
    {c i : Nat} (hc : c ≤ 3) (hi : i ≤ s.length) :
    rankUnchecked dbg B r c i = .ok (Spec.rank c i s) := by
  unfold rankUnchecked
  rw [dbgAssert_true dbg (decide_eq_true hc), rankBlock_ok h.rs h.hlen dbg hc hi,
    rankIntraBlock_ok h dbg hc hi]
  simp only [ok_bind]
  exact congrArg Except.ok (Nat.add_sub_of_le (Spec.rank_mono c s (Nat.div_mul_le_self i B)))

theorem rank_ok {B : Nat} {r : RSQVector} {s : List Nat} (h : RepInv B r s) (dbg : Bool) (c i : Nat) :
    RSQ.rank dbg B r c i = .ok (if c ≤ 3 ∧ i ≤ s.length then some (Spec.rank c i s) else none) := by
  unfold RSQ.rank RSQ.len
  rw [holds_len h.holds]
  by_cases hc : c ≤ 3 ∧ i ≤ s.length
  · rw [if_neg (by simp; omega), if_pos hc, rankUnchecked_ok h dbg hc.1 hc.2]; rfl
  · rw [if_pos (by simp; omega), if_neg hc]; rfl

theorem occsSmaller_succ (s : List Nat) (c : Nat) :
    Spec.occsSmaller id (c + 1) s = Spec.occsSmaller id c s + s.count c := by
  unfold Spec.occsSmaller
  induction s with
  | nil => rfl
  | cons x xs ih =>
    rw [List.countP_cons, List.countP_cons, List.count_cons, ih]
    by_cases h1 : x < c
    · have h2 : x < c + 1 := by omega
      have h3 : ¬ x = c := by omega
      simp [h1, h2, h3]; omega
    · by_cases h3 : x = c
      · subst h3; simp
        omega
      · have h2 : ¬ x < c + 1 := by omega
        simp [h1, h2, h3]

theorem occsSmaller_zero (s : List Nat) : Spec.occsSmaller id 0 s = 0 := by
  unfold Spec.occsSmaller
  induction s with
  | nil => rfl
  | cons x xs ih => rw [List.countP_cons, ih]; simp

theorem nOccs_getD (h : RepInv B r s) {c : Nat} (hc : c ≤ 4) :
    r.nOccsSmaller.size = 5 ∧ r.nOccsSmaller.getD c 0 = Spec.occsSmaller id c s := by
  rw [h.occs]
  refine ⟨rfl, ?_⟩
  have h5 : c = 0 ∨ c = 1 ∨ c = 2 ∨ c = 3 ∨ c = 4 := by omega
  rcases h5 with rfl | rfl | rfl | rfl | rfl
  · rw [occsSmaller_zero]; rfl
  · rw [occsSmaller_succ, occsSmaller_zero, Nat.zero_add]; rfl
  · rw [occsSmaller_succ, occsSmaller_succ, occsSmaller_zero, Nat.zero_add]; rfl
  · rw [occsSmaller_succ, occsSmaller_succ, occsSmaller_succ, occsSmaller_zero, Nat.zero_add]; rfl
  · rw [occsSmaller_succ, occsSmaller_succ, occsSmaller_succ, occsSmaller_succ, occsSmaller_zero,
      Nat.zero_add]; rfl

theorem occsSmallerUnchecked_ok (h : RepInv B r s) (dbg : Bool)
    {c : Nat} (hc : c ≤ 3) :
    RSQ.occsSmallerUnchecked dbg r c = .ok (Spec.occsSmaller id c s) := by
  unfold RSQ.occsSmallerUnchecked
  obtain ⟨h1, h2⟩ := nOccs_getD h (c := c) (Nat.le_succ_of_le hc)
  rw [dbgAssert_true dbg (decide_eq_true hc),
    idx_getD 0 (h1 ▸ Nat.lt_succ_of_le (Nat.le_succ_of_le hc)), h2]; rfl

theorem occsSmaller_ok (h : RepInv B r s) (dbg : Bool) (c : Nat) :
    RSQ.occsSmaller dbg r c = .ok (if c ≤ 3 then some (Spec.occsSmaller id c s) else none) := by
  unfold RSQ.occsSmaller
  by_cases hc : c ≤ 3
  · rw [if_neg (Nat.not_lt.2 hc), if_pos hc, occsSmallerUnchecked_ok h dbg hc]; rfl
  · rw [if_pos (Nat.lt_of_not_le hc), if_neg hc]; rfl

theorem occsUnchecked_ok (h : RepInv B r s) (dbg : Bool)
    {c : Nat} (hc : c ≤ 3) :
    RSQ.occsUnchecked dbg r c = .ok (s.count c) := by
  unfold RSQ.occsUnchecked
  obtain ⟨h1, h2⟩ := nOccs_getD h (c := c) (Nat.le_succ_of_le hc)
  obtain ⟨_, h3⟩ := nOccs_getD h (c := c + 1) (Nat.succ_le_succ hc)
  have hc5 : c + 1 < r.nOccsSmaller.size := h1 ▸ Nat.succ_lt_succ (Nat.lt_succ_of_le hc)
  rw [dbgAssert_true dbg (decide_eq_true hc), idx_getD 0 hc5, idx_getD 0 (Nat.lt_of_succ_lt hc5), h2, h3,
    occsSmaller_succ]
  simp only [ok_bind]
  rw [if_neg (by omega), sub_ok (Nat.le_add_right _ _), Nat.add_sub_cancel_left]

theorem occs_ok (h : RepInv B r s) (dbg : Bool) (c : Nat) :
    RSQ.occs dbg r c = .ok (if c ≤ 3 then some (s.count c) else none) := by
  unfold RSQ.occs
  by_cases hc : c ≤ 3
  · rw [if_neg (Nat.not_lt.2 hc), if_pos hc, occsUnchecked_ok h dbg hc]; rfl
  · rw [if_pos (Nat.lt_of_not_le hc), if_neg hc]; rfl

end Qwt.RSQP
