import Qwt.Spec.Basic
import Qwt.Model.Utils
import Qwt.Proofs.Bits

/-! The list functions of `Spec` on their own (`bitsOf`, `select`, `rank`, `maxNat`, counts of booleans), how
    `popc` and `msb` read off `bitsOf` / `log2`, and two lemmas on sums of lists.  Facts about numbers
    alone are in `Bits`. -/
namespace Qwt

theorem count_true_add_false (l : List Bool) : l.count true + l.count false = l.length := by
  induction l with
  | nil => rfl
  | cons a l ih => cases a <;> simp <;> omega

theorem bitsOf_getElem? (w n i : Nat) :
    (Spec.bitsOf w n)[i]? = if i < n then some (w.testBit i) else none := by
  induction n generalizing w i with
  | zero => simp [Spec.bitsOf]
  | succ n ih =>
    cases i with
    | zero =>
      simp only [Spec.bitsOf, List.getElem?_cons_zero, Nat.zero_lt_succ, if_true,
        Nat.testBit_zero]
      congr 1
    | succ i =>
      simp only [Spec.bitsOf, List.getElem?_cons_succ, ih, Nat.testBit_succ,
        Nat.add_lt_add_iff_right]

end Qwt

namespace Qwt.Proofs.Word
open Qwt Qwt.Utils

theorem popc_eq_spec (w : Nat) : Qwt.popc w = Spec.popc w := by
  induction w using Nat.strongRecOn with
  | _ w ih =>
    unfold Qwt.popc Spec.popc
    by_cases h : w = 0
    · simp [h]
    · simp only [h, dite_false]
      rw [ih (w / 2) (by omega)]

theorem bitsOf_length (w n : Nat) : (Spec.bitsOf w n).length = n := by
  induction n generalizing w with
  | zero => rfl
  | succ n ih => simp [Spec.bitsOf, ih]

theorem bitsOf_append (k n : Nat) : ∀ (a w : Nat), a < 2 ^ k →
    Spec.bitsOf (a + 2 ^ k * w) (k + n) = Spec.bitsOf a k ++ Spec.bitsOf w n := by
  induction k with
  | zero => intro a w ha; have : a = 0 := by simpa using ha
            subst this; simp [Spec.bitsOf]
  | succ k ih =>
    intro a w ha
    have e : k + 1 + n = (k + n) + 1 := by omega
    rw [e, Spec.bitsOf, Spec.bitsOf]
    have ha2 : a / 2 < 2 ^ k := by rw [Nat.pow_succ] at ha; omega
    have hz : 2 ^ (k + 1) * w = 2 * (2 ^ k * w) := by
      rw [Nat.pow_succ, Nat.mul_comm (2 ^ k) 2, Nat.mul_assoc]
    rw [hz]
    have e1 : (a + 2 * (2 ^ k * w)) / 2 = a / 2 + 2 ^ k * w := by omega
    have e2 : (a + 2 * (2 ^ k * w)) % 2 = a % 2 := by omega
    rw [e1, e2, ih _ _ ha2]
    rfl

theorem popc_eq_count (n : Nat) : ∀ (w : Nat), w < 2 ^ n →
    Qwt.popc w = (Spec.bitsOf w n).count true := by
  induction n with
  | zero => intro w hw; have : w = 0 := by simpa using hw
            subst this; simp [popc_zero, Spec.bitsOf]
  | succ n ih =>
    intro w hw
    rw [popc_step, Spec.bitsOf, List.count_cons, ih (w / 2) (by rw [Nat.pow_succ] at hw; omega)]
    have : w % 2 = 0 ∨ w % 2 = 1 := by omega
    rcases this with h | h <;> simp [h] <;> omega

theorem foldl_add_popc (l : List Nat) : ∀ acc,
    l.foldl (fun acc w => acc + Qwt.popc w) acc = acc + (l.map Spec.popc).sum := by
  induction l with
  | nil => simp
  | cons a l ih => intro acc; rw [List.foldl_cons, ih, popc_eq_spec]; simp; omega

theorem msb_eq_log2 (W v : Nat) (hv : v < 2 ^ W) : Utils.msb W v = .ok (Nat.log2 v) := by
  unfold Utils.msb
  by_cases h : v = 0
  · subst h; simp [pure, Except.pure]
  · have hl : Nat.log2 v < W := (Nat.log2_lt h).2 hv
    simp [h, clz, sub]
    omega

theorem msb_ok (W v : Nat) (_hW : 0 < W) (hv : v < 2 ^ W) : Utils.msb W v = .ok (Nat.log2 v) :=
  msb_eq_log2 W v hv

theorem select_append [BEq α] (c : α) (l1 : List α) : ∀ (k : Nat) (l2 : List α),
    Spec.select c k (l1 ++ l2) =
      if k < l1.count c then Spec.select c k l1
      else (Spec.select c (k - l1.count c) l2).map (· + l1.length) := by
  induction l1 with
  | nil => intro k l2; simp
  | cons x l1 ih =>
    intro k l2
    have hm : ∀ (o : Option Nat) (n : Nat), Option.map (· + 1) (Option.map (· + n) o) =
        Option.map (· + (n + 1)) o := by
      intro o n; cases o <;> simp; omega
    by_cases hx : (x == c) = true
    · cases k with
      | zero => simp [Spec.select, hx, List.count_cons]
      | succ k =>
        simp only [List.cons_append, Spec.select, hx, if_true, ih, List.count_cons,
          List.length_cons]
        by_cases hk : k < List.count c l1
        · simp [hk]
        · simp only [hk, if_false, hm]
          have : ¬ (k + 1 < List.count c l1 + 1) := by omega
          simp only [this, if_false]
          have : k + 1 - (List.count c l1 + 1) = k - List.count c l1 := by omega
          rw [this]
    · simp only [List.cons_append, Spec.select, hx, ih, List.count_cons, List.length_cons]
      by_cases hk : k < List.count c l1
      · simp [hk]
      · simp [hk, hm]

theorem select_none [BEq α] (c : α) (l : List α) : ∀ k, l.count c ≤ k → Spec.select c k l = none := by
  induction l with
  | nil => intro k _; rfl
  | cons x l ih =>
    intro k hk
    rw [List.count_cons] at hk
    by_cases hx : (x == c) = true
    · simp only [hx, if_true] at hk
      cases k with
      | zero => omega
      | succ k => simp [Spec.select, hx, ih k (by omega)]
    · simp only [hx] at hk
      simp [Spec.select, hx, ih k (by simpa using hk)]

theorem select_some [BEq α] (c : α) (l : List α) : ∀ k, k < l.count c →
    ∃ p, Spec.select c k l = some p ∧ p < l.length := by
  induction l with
  | nil => intro k hk; simp at hk
  | cons x l ih =>
    intro k hk
    rw [List.count_cons] at hk
    by_cases hx : (x == c) = true
    · simp only [hx, if_true] at hk
      cases k with
      | zero => exact ⟨0, by simp [Spec.select, hx], by simp⟩
      | succ k =>
        obtain ⟨p, hp, hlt⟩ := ih k (by omega)
        exact ⟨p + 1, by simp [Spec.select, hx, hp], by simp; omega⟩
    · simp only [hx] at hk
      obtain ⟨p, hp, hlt⟩ := ih k (by simpa using hk)
      exact ⟨p + 1, by simp [Spec.select, hx, hp], by simp; omega⟩

theorem select_flatten_hit {L : Nat} : ∀ (ls : List (List Bool)) (t k : Nat) (l : List Bool),
    (∀ l ∈ ls, l.length = L) → ls[t]? = some l →
    ((ls.map (List.count true)).take t).sum ≤ k →
    k < ((ls.map (List.count true)).take t).sum + l.count true →
    Spec.select true k ls.flatten =
      (Spec.select true (k - ((ls.map (List.count true)).take t).sum) l).map (· + t * L)
  | [], _, _, _, _, h, _, _ => nomatch h
  | x :: xs, 0, k, l, _, h, _, hhi => by
    cases h
    rw [List.take_zero, List.sum_nil, Nat.zero_add] at hhi
    rw [List.flatten_cons, select_append, if_pos hhi, List.take_zero, List.sum_nil, Nat.sub_zero,
      Nat.zero_mul]
    cases Spec.select true k x <;> rfl
  | x :: xs, t + 1, k, l, hL, h, hlo, hhi => by
    obtain ⟨hx, hxs⟩ := List.forall_mem_cons.1 hL
    rw [List.map_cons, List.take_succ_cons, List.sum_cons] at hlo hhi ⊢
    rw [List.flatten_cons, select_append, if_neg (by omega), hx,
      select_flatten_hit xs t (k - x.count true) l hxs h (by omega) (by omega), Nat.sub_sub,
      Option.map_map]
    congr 1
    funext p
    rw [Function.comp_apply, Nat.succ_mul, Nat.add_assoc]

theorem sum_le_mul (c : Nat) : ∀ l : List Nat, (∀ x ∈ l, x ≤ c) → l.sum ≤ l.length * c
  | [], _ => Nat.zero_le _
  | x :: l, h => by
    obtain ⟨hx, hl⟩ := List.forall_mem_cons.1 h
    have := sum_le_mul c l hl
    rw [List.sum_cons, List.length_cons, Nat.succ_mul]
    omega

theorem sum_map_flag (q : α → Prop) [DecidablePred q] (f : α → Nat) :
    ∀ l : List α, (∀ x ∈ l, f x = if q x then 1 else 0) → (l.map f).sum = l.countP (q ·)
  | [], _ => rfl
  | x :: l, h => by
    obtain ⟨hx, hl⟩ := List.forall_mem_cons.1 h
    rw [List.map_cons, List.sum_cons, List.countP_cons, hx, sum_map_flag q f l hl, Nat.add_comm]
    simp only [decide_eq_true_eq]

end Qwt.Proofs.Word

namespace Qwt.Spec

theorem foldl_max_lt (s : List Nat) (a b : Nat) (ha : a < b) (hs : ∀ x ∈ s, x < b) :
    s.foldl max a < b := by
  induction s generalizing a with
  | nil => exact ha
  | cons y ys ih =>
    obtain ⟨hy, hys⟩ := List.forall_mem_cons.1 hs
    exact ih (max a y) (Nat.max_lt.2 ⟨ha, hy⟩) hys

theorem maxNat_lt {s : List Nat} {b : Nat} (hb : 0 < b) (hs : ∀ x ∈ s, x < b) : maxNat s < b :=
  foldl_max_lt s 0 b hb hs

theorem le_foldl_max (s : List Nat) (a : Nat) : a ≤ s.foldl max a ∧ ∀ x ∈ s, x ≤ s.foldl max a := by
  induction s generalizing a with
  | nil => exact ⟨Nat.le_refl a, nofun⟩
  | cons y ys ih =>
    obtain ⟨h1, h2⟩ := ih (max a y)
    refine ⟨Nat.le_trans (Nat.le_max_left a y) h1, fun x hx => ?_⟩
    rcases List.mem_cons.1 hx with rfl | hx
    · exact Nat.le_trans (Nat.le_max_right a x) h1
    · exact h2 x hx

theorem le_maxNat {s : List Nat} {x : Nat} (h : x ∈ s) : x ≤ maxNat s := (le_foldl_max s 0).2 x h

section rank
universe u
variable {α : Type u} [BEq α] (c : α) (s : List α)

theorem rank_zero : rank c 0 s = 0 := by simp [rank]

theorem rank_mono {i j : Nat} (h : i ≤ j) : rank c i s ≤ rank c j s := by
  unfold rank
  rw [← Nat.min_eq_left h, ← List.take_take]
  exact (List.take_sublist i _).count_le c

theorem rank_of_ge {i : Nat} (h : s.length ≤ i) : rank c i s = s.count c := by
  unfold rank; rw [List.take_of_length_le h]

theorem rank_le_count (i : Nat) : rank c i s ≤ s.count c := (List.take_sublist i s).count_le c

theorem rank_le (i : Nat) : rank c i s ≤ i :=
  Nat.le_trans List.count_le_length (List.length_take_le i s)

theorem rank_succ (i : Nat) : rank c (i + 1) s = rank c i s + s[i]?.toList.count c := by
  unfold rank; rw [List.take_add_one, List.count_append]

theorem rank_succ_of_eq [LawfulBEq α] {i : Nat} (h : s[i]? = some c) :
    rank c (i + 1) s = rank c i s + 1 := by
  rw [rank_succ, h]; simp

theorem rank_succ_of_ne [LawfulBEq α] {i : Nat} (h : s[i]? ≠ some c) :
    rank c (i + 1) s = rank c i s := by
  rw [rank_succ]
  cases hx : s[i]? with
  | none => rfl
  | some x =>
    have hne : x ≠ c := fun e => h (hx.trans (congrArg some e))
    simp [hne]

/-- the rank grows by at most one per position -/
theorem rank_sub_le {i j : Nat} (h : i ≤ j) : rank c j s ≤ rank c i s + (j - i) := by
  obtain ⟨d, rfl⟩ := Nat.exists_eq_add_of_le h
  rw [Nat.add_sub_cancel_left]
  induction d with
  | zero => exact Nat.le_refl _
  | succ d ih =>
    rw [← Nat.add_assoc, rank_succ]
    have : s[i + d]?.toList.count c ≤ 1 :=
      Nat.le_trans List.count_le_length (by cases s[i + d]? <;> simp)
    omega

theorem rank_cons_succ (x : α) (i : Nat) :
    rank c (i + 1) (x :: s) = rank c i s + (if x == c then 1 else 0) := by
  simp [rank, List.count_cons]

end rank

section select
universe u
variable {α : Type u} [BEq α] [LawfulBEq α] {c : α} {k q : Nat} {s : List α}

theorem select_eq_some_iff : select c k s = some q ↔ s[q]? = some c ∧ rank c q s = k := by
  induction s generalizing k q with
  | nil => simp [select]
  | cons x xs ih =>
    unfold select
    cases q with
    | zero =>
      by_cases hx : x == c
      · cases k <;> simp [rank_zero, eq_of_beq hx]
      · have : x ≠ c := fun e => hx (by simp [e])
        simp [hx, rank_zero, this]
    | succ q =>
      rw [rank_cons_succ, List.getElem?_cons_succ]
      by_cases hx : x == c
      · cases k <;> simp [hx, ih]
      · simp [hx, ih]

theorem of_select_eq_some (h : select c k s = some q) :
    q < s.length ∧ s[q]? = some c ∧ rank c q s = k :=
  have h' := select_eq_some_iff.mp h
  ⟨(List.getElem?_eq_some_iff.mp h'.1).1, h'⟩

theorem select_eq_none_iff : select c k s = none ↔ s.count c ≤ k := by
  refine ⟨fun h => Nat.le_of_not_lt (fun hk => ?_), Proofs.Word.select_none c s k⟩
  obtain ⟨p, hp, _⟩ := Proofs.Word.select_some c s k hk
  rw [hp] at h
  cases h

end select

end Qwt.Spec
