import Qwt.Proofs.Basic
import Qwt.Proofs.WordSwar
import Qwt.Proofs.WordTable

/-! `select_in_word` and `select_in_word_u128` against `Spec.select`.  On a word `val bs` of eight
    bytes: the byte sums are the running sums of the byte popcounts (`siw_val`), `place / 8` is the
    number `t` of byte sums `≤ k` (`siw_place`), and byte `t` is looked up in the table (`siwEnd_hit`). -/
namespace Qwt.Proofs.Word
open Qwt Qwt.Utils Qwt.Extracted

/-- the end of `selectInWord`, once `place / 8 = t` is known -/
def siwEnd (word byteSums k t : Nat) : M Nat :=
  if t * 8 == 64 then pure 64
  else
    sub k ((((byteSums <<< 8) % two64) >>> (t * 8)) &&& 0xFF) >>= fun byteRank =>
    (if byteRank <<< 8 < two64 then pure (byteRank <<< 8) else .error .overflow : M Nat) >>=
      fun br8 =>
    idx kSelectInByte (((word >>> (t * 8)) &&& 0xFF) ||| br8) >>= fun e =>
    pure (t * 8 + e)

/-- the part of `selectInWord` after the byte sums have been computed -/
def siwTail (word byteSums k : Nat) : M Nat :=
  mul64 k kOnesStep8 >>= fun kStep8 =>
  sub (kStep8 ||| kLambdasStep8) byteSums >>= fun geq =>
  siwEnd word byteSums k (popc (geq &&& kLambdasStep8))

theorem selectInWord_eq (word k : Nat) :
    selectInWord word k =
      (sub word ((word &&& wmul64 0xA kOnesStep4) >>> 1) >>= fun s =>
        let s2 := (s &&& wmul64 0x3 kOnesStep4) + ((s >>> 2) &&& wmul64 0x3 kOnesStep4)
        siwTail word
          (wmul64 (((s2 + (s2 >>> 4)) % two64) &&& wmul64 0xF kOnesStep8) kOnesStep8) k) := rfl

theorem siw_val {bs : List Nat} (hl : bs.length = 8) (h : ∀ b ∈ bs, b < 256) (k : Nat) :
    selectInWord (val bs) k = siwTail (val bs) (wmul64 (val (bs.map pc8)) kOnesStep8) k := by
  have h1 : ∀ p ∈ bs.map bstep1, p < 256 :=
    List.forall_mem_map.2 fun b hb => Nat.lt_of_le_of_lt (Nat.sub_le _ _) (h b hb)
  have h2 : ∀ q ∈ (bs.map bstep1).map bstep2, q % 16 ≤ 4 ∧ q / 16 ≤ 4 :=
    List.forall_mem_map.2 <| List.forall_mem_map.2 fun b hb => bstep2_nibbles b (h b hb)
  have h3 : ((bs.map bstep1).map bstep2).map bstep3 = bs.map pc8 := by
    rw [List.map_map, List.map_map]
    exact List.map_congr_left fun b hb => bstep3_eq_pc8 b (h b hb)
  have s1 := swar_step1 bs h
  have s2 := swar_step2 _ h1
  have s3 := swar_step3 _ h2
  rw [List.length_map, List.length_map, hl] at s3
  rw [List.length_map, hl] at s2
  rw [hl] at s1
  rw [selectInWord_eq, mask_aa, mask_33, mask_0f, sub_ok s1.1, ok_bind, s1.2]
  dsimp only
  rw [s2, mod_two64_and _ _ (by decide), s3, h3]

theorem and80 : ∀ x, x < 256 → x &&& 0x80 = if 128 ≤ x then 128 else 0 := by
  decide +kernel

theorem or80 : ∀ x, x < 128 → x ||| 0x80 = x + 128 := by
  decide +kernel

theorem and_lt_left (a m : Nat) {n : Nat} (h : a < n) : a &&& m < n :=
  Nat.lt_of_le_of_lt Nat.and_le_left h

/-- bit 7 of byte `j` of `((k * ones) | lambdas) - sums` is set iff sum `j` is `≤ k` -/
theorem siw_place {P : List Nat} {k : Nat} (hl : P.length = 8) (hP : ∀ p ∈ P, p ≤ 128)
    (hk : k < 128) (word : Nat) :
    siwTail word (val P) k = siwEnd word (val P) k (P.countP (· ≤ k)) := by
  have hmul : mul64 k kOnesStep8 = .ok (val (P.map fun _ => k)) := by
    have e : k * kOnesStep8 = val (P.map fun _ => k) := by
      rw [ones_eq, ← hl, ← val_replicate, ← List.map_const']
    have hlt := val_lt (P.map fun _ => k) (List.forall_mem_map.2 fun _ _ => by omega)
    rw [List.length_map, hl, ← two64_eq_pow256, ← e] at hlt
    rw [mul64_ok hlt, e]
  have hor : val (P.map fun _ => k) ||| kLambdasStep8 = val (P.map fun _ => k + 128) := by
    have h := val_or_replicate 0x80 (by decide) (P.map fun _ => k)
      (List.forall_mem_map.2 fun _ _ => by omega)
    rw [List.length_map, hl, List.map_map] at h
    rw [lambdas_eq, h]
    exact congrArg val (List.map_congr_left fun _ _ => or80 k hk)
  have hsub := val_sub_map (fun _ => k + 128) (fun p => p) P fun p hp => by
    have := hP p hp
    omega
  rw [List.map_id'] at hsub
  have hand := val_and_replicate 0x80 (by decide) (P.map fun p => k + 128 - p)
    (List.forall_mem_map.2 fun p _ => by omega)
  rw [List.length_map, hl, ← lambdas_eq, List.map_map] at hand
  have hflag : ∀ p ∈ P, pc8 ((k + 128 - p) &&& 0x80) = if p ≤ k then 1 else 0 := fun p hp => by
    have := hP p hp
    rw [and80 _ (by omega)]
    by_cases h : p ≤ k
    · rw [if_pos (by omega), if_pos h]
      rfl
    · rw [if_neg (by omega), if_neg h]
      rfl
  have hpop := popc_val (P.map ((· &&& 0x80) ∘ fun p => k + 128 - p))
    (List.forall_mem_map.2 fun p _ => and_lt_left (k + 128 - p) _ (by omega))
  rw [List.map_map] at hpop
  have hpop := hpop.trans (sum_map_flag (· ≤ k) _ P hflag)
  unfold siwTail
  rw [hmul, ok_bind, hor, sub_ok hsub.1, ok_bind, hsub.2, hand, hpop]

theorem siwEnd_miss (word byteSums k : Nat) : siwEnd word byteSums k 8 = .ok 64 := rfl

theorem siwEnd_hit (word byteSums k t bt prev : Nat) (ht : t < 8)
    (hb : (word >>> (t * 8)) &&& 0xFF = bt) (hbt : bt < 256)
    (hprev : (((byteSums <<< 8) % two64) >>> (t * 8)) &&& 0xFF = prev)
    (h1 : prev ≤ k) (h2 : k - prev < pc8 bt) :
    siwEnd word byteSums k t =
      .ok (t * 8 + (Spec.select true (k - prev) (Spec.bitsOf bt 8)).getD 8) := by
  unfold siwEnd
  have h3 := pc8_le bt
  have hne : ¬ ((t * 8 == 64) = true) := by
    rw [beq_iff_eq]
    omega
  have hlt : (k - prev) <<< 8 < two64 := by
    unfold two64
    omega
  have hor : bt ||| ((k - prev) <<< 8) = (k - prev) * 256 + bt := by
    have h := Nat.shiftLeft_add_eq_or_of_lt (show bt < 2 ^ 8 from hbt) (k - prev)
    rw [Nat.or_comm, ← h, Nat.shiftLeft_eq]
  rw [if_neg hne, hb, hprev, sub_ok h1, ok_bind, if_pos hlt, pure_bind', hor,
    idx_of_some (table_get (k - prev) bt (by omega) hbt), ok_bind]
  rfl

theorem siw_val_ok {bs : List Nat} (hl : bs.length = 8) (h : ∀ b ∈ bs, b < 256) {k : Nat}
    (hk : k < 128) :
    selectInWord (val bs) k = .ok ((Spec.select true k (Spec.bitsOf (val bs) 64)).getD 64) := by
  have hsum : (bs.map pc8).sum ≤ 64 := by
    have := sum_le_mul 8 (bs.map pc8) (List.forall_mem_map.2 fun b _ => pc8_le b)
    rwa [List.length_map, hl] at this
  -- `byteSums` holds the running sums of the byte popcounts
  have hmo := val_mul_ones (bs.map pc8) 0 (by omega)
  rw [Nat.zero_add, List.length_map, hl, ← ones_eq, ← two64_eq_pow256] at hmo
  have hlen : (sums 0 (bs.map pc8)).length = 8 := by rw [length_sums, List.length_map, hl]
  have hP : ∀ p ∈ sums 0 (bs.map pc8), p ≤ 128 := fun p hp => by
    have := le_of_mem_sums _ _ _ hp
    omega
  have hbits := bitsOf_val bs h
  rw [hl] at hbits
  have hcnt : (bs.map (Spec.bitsOf · 8)).map (List.count true) = bs.map pc8 := by
    rw [List.map_map]
    rfl
  rw [siw_val hl h, wmul64, hmo, siw_place hlen hP hk, hbits]
  -- `t`, the number of running sums `≤ k`, is the byte in which the count of ones passes `k`
  generalize ht : (sums 0 (bs.map pc8)).countP (· ≤ k) = t
  obtain ⟨hlo, hhi⟩ := countP_sums k (bs.map pc8) 0 t (Nat.zero_le k) ht
  have hprev := getElem?_sums (bs.map pc8) 0
  simp only [Nat.zero_add] at hlo hhi hprev
  have ht8 : t ≤ 8 := by
    rw [← ht, ← hlen]
    exact List.countP_le_length
  by_cases h8 : t = 8
  · subst h8
    rw [siwEnd_miss, select_none]
    · rfl
    · rw [List.count_flatten, hcnt]
      rwa [List.take_of_length_le (by rw [List.length_map, hl]; exact Nat.le_refl 8)] at hlo
  · have hlt : t < 8 := by omega
    obtain ⟨b, hb⟩ : ∃ b, bs[t]? = some b := ⟨_, List.getElem?_eq_getElem (hl ▸ hlt)⟩
    have hbt : b < 256 := h b (List.mem_of_getElem? hb)
    have hhi := hhi (pc8 b) (by rw [List.getElem?_map, hb]; rfl)
    rw [siwEnd_hit _ _ k t _ _ hlt (val_byte h hb) hbt
      (val_shl_byte (fun p hp => by have := hP p hp; omega) hlt
        (hprev t (by rw [List.length_map]; omega)))
      hlo (by omega)]
    rw [select_flatten_hit (L := 8) _ t k (Spec.bitsOf b 8)
      (List.forall_mem_map.2 fun b _ => bitsOf_length b 8)
      (by rw [List.getElem?_map, hb]; rfl) (by rw [hcnt]; exact hlo) (by rw [hcnt]; exact hhi), hcnt]
    obtain ⟨p, hp, -⟩ := select_some true (Spec.bitsOf b 8) (k - ((bs.map pc8).take t).sum)
      (by show _ < pc8 b; omega)
    rw [hp, Option.map_some, Option.getD_some, Option.getD_some, Nat.add_comm]

theorem selectInWord_ok (w k : Nat) (hw : w < 2 ^ 64) (hk : k < 128) :
    selectInWord w k = .ok ((Spec.select true k (Spec.bitsOf w 64)).getD 64) := by
  obtain ⟨bs, hl, h, rfl⟩ := exists_val 8 w hw
  exact siw_val_ok hl h hk

theorem selectInWordU128_eq (word k : Nat) :
    selectInWordU128 word k =
      if popc (word % two64) > k then selectInWord (word % two64) k
      else (sub k (popc (word % two64)) >>= fun k' =>
        selectInWord ((word >>> 64) % two64) k' >>= fun r => pure (64 + r)) := rfl

theorem selectInWordU128_ok (w k : Nat) (hw : w < 2 ^ 128) (hk : k < 128) :
    selectInWordU128 w k = .ok ((Spec.select true k (Spec.bitsOf w 128)).getD 128) := by
  have hlo : w % two64 < 2 ^ 64 := by unfold two64; omega
  have hhi : (w >>> 64) % two64 = w / 2 ^ 64 := by unfold two64; omega
  have hhi' : w / 2 ^ 64 < 2 ^ 64 := by omega
  have hsplit : w = w % two64 + 2 ^ 64 * (w / 2 ^ 64) := by unfold two64; omega
  have hbits : Spec.bitsOf w 128 = Spec.bitsOf (w % two64) 64 ++ Spec.bitsOf (w / 2 ^ 64) 64 := by
    have h := bitsOf_append 64 64 (w % two64) (w / 2 ^ 64) hlo
    rw [← hsplit] at h
    exact h
  have hcnt : popc (w % two64) = (Spec.bitsOf (w % two64) 64).count true :=
    popc_eq_count 64 _ hlo
  rw [selectInWordU128_eq, hbits, select_append, ← hcnt, bitsOf_length]
  by_cases hc : popc (w % two64) > k
  · rw [if_pos hc, if_pos hc, selectInWord_ok _ _ hlo hk]
    obtain ⟨p, hp, -⟩ := select_some true (Spec.bitsOf (w % two64) 64) k (by omega)
    rw [hp, Option.getD_some, Option.getD_some]
  · rw [if_neg hc, if_neg hc, sub_ok (by omega), ok_bind, hhi, selectInWord_ok _ _ hhi' (by omega),
      ok_bind]
    cases Spec.select true (k - popc (w % two64)) (Spec.bitsOf (w / 2 ^ 64) 64) with
    | none => rfl
    | some p =>
      rw [Option.map_some, Option.getD_some, Option.getD_some, Nat.add_comm]
      rfl

end Qwt.Proofs.Word
