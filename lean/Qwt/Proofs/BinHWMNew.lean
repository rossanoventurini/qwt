import Qwt.Proofs.BinWMNew
import Qwt.Proofs.BinHWMSim

/-!
The constructor `BinWT.new` in the Huffman-shaped variant (`compressed = true`): given the
code table produced by `craftWmCodes`, the level loop builds levels representing the
list-level Huffman matrix (under `BinLevelLaw`).
-/

namespace Qwt.BinWM
open Qwt Qwt.BinWT Qwt.RSW
open Qwt.Huff (PrefixCode)

/-- the sequence carried by the level loop: live zeros, live ones, then everything ended -/
def seqH (β : Nat → Nat → Bool) (len : Nat → Nat) : Nat → List Nat → List Nat
  | 0, S => S
  | k + 1, S =>
    (seqH β len k S).filter (fun x => decide (k + 1 < len x) && !β k x) ++
    (seqH β len k S).filter (fun x => decide (k + 1 < len x) && β k x) ++
    (seqH β len k S).filter (fun x => decide (len x ≤ k + 1))

theorem seqH_subset (β : Nat → Nat → Bool) (len : Nat → Nat) (S : List Nat) (k : Nat) :
    ∀ x ∈ seqH β len k S, x ∈ S := by
  induction k with
  | zero => intro x hx; exact hx
  | succ k ih =>
    intro x hx
    simp only [seqH, List.mem_append, List.mem_filter] at hx
    rcases hx with (h | h) | h <;> exact ih x h.1

theorem part_filter {α : Type} (p q : α → Bool) (l : List α) :
    part p (l.filter q) = l.filter (fun x => q x && !p x) ++ l.filter (fun x => q x && p x) := by
  unfold part
  rw [List.filter_filter, List.filter_filter]
  congr 2 <;> funext a <;> exact Bool.and_comm _ _

theorem filter_part {α : Type} (p q : α → Bool) (l : List α) :
    (part p l).filter q = part p (l.filter q) := by
  rw [part_filter]
  unfold part
  rw [List.filter_append, List.filter_filter, List.filter_filter]

theorem seqH_succ (β : Nat → Nat → Bool) (len : Nat → Nat) (k : Nat) (S : List Nat) :
    seqH β len (k + 1) S =
      part (β k) ((seqH β len k S).filter (fun x => decide (k + 1 < len x))) ++
        (seqH β len k S).filter (fun x => decide (len x ≤ k + 1)) := by
  rw [seqH, part_filter]

theorem seqH_length (β : Nat → Nat → Bool) (len : Nat → Nat) (S : List Nat) (k : Nat) :
    (seqH β len k S).length = S.length := by
  induction k with
  | zero => rfl
  | succ k ih =>
    rw [seqH_succ, List.length_append, part_length, ← ih]
    generalize seqH β len k S = l
    have e : (fun x => decide (len x ≤ k + 1)) =
        (fun x => decide ¬ (decide (k + 1 < len x)) = true) := by
      funext x; simp
    rw [List.length_eq_countP_add_countP (fun x => decide (k + 1 < len x)) (l := l),
      List.countP_eq_length_filter, List.countP_eq_length_filter, e]

/-- the live part of the carried sequence is the level of the list-level matrix -/
theorem seqH_live (β : Nat → Nat → Bool) (len : Nat → Nat) (S : List Nat)
    (hpos : ∀ x ∈ S, 0 < len x) (k : Nat) :
    (seqH β len k S).filter (fun x => decide (k < len x)) = lvlH β len k S := by
  induction k with
  | zero =>
    exact List.filter_eq_self.mpr (fun x hx => by simpa using hpos x hx)
  | succ k ih =>
    generalize hl : seqH β len k S = l at ih
    have e0 : (l.filter (fun x => decide (k + 1 < len x))).filter (fun x => decide (k + 1 < len x))
        = l.filter (fun x => decide (k + 1 < len x)) :=
      List.filter_eq_self.mpr (fun x hx => (List.mem_filter.mp hx).2)
    have e1 : (l.filter (fun x => decide (len x ≤ k + 1))).filter
        (fun x => decide (k + 1 < len x)) = [] :=
      List.filter_eq_nil_iff.mpr (fun x hx => by simpa using (List.mem_filter.mp hx).2)
    have e2 : (l.filter (fun x => decide (k < len x))).filter (fun x => decide (k + 1 < len x)) =
        l.filter (fun x => decide (k + 1 < len x)) := by
      rw [List.filter_filter]
      exact List.filter_congr (fun x _ => by by_cases h : k + 1 < len x <;> simp [h]; omega)
    rw [lvlH, ← ih, seqH_succ, hl, List.filter_append, e1, List.append_nil, filter_part, e0,
      filter_part, e2]

/-- a loop pushing a bit for some of the elements is the push loop over the filtered list -/
theorem foldlM_filter_push (q : Nat → Bool) (g : Nat → Bool)
    (body : BV.BitVectorMut → Nat → M BV.BitVectorMut) (l : List Nat)
    (hbody : ∀ b, ∀ s ∈ l, body b s = if q s then BV.push b (g s) else pure b)
    (init : BV.BitVectorMut) :
    l.foldlM body init = ((l.filter q).map g).foldlM (fun b x => BV.push b x) init := by
  induction l generalizing init with
  | nil => rfl
  | cons s ss ih =>
    have ih' := ih (fun b s hs => hbody b s (by simp [hs]))
    rw [List.foldlM_cons, hbody init s (by simp)]
    cases hq : q s
    · simp only [Bool.false_eq_true, if_false, pure_bind', List.filter_cons, hq]
      exact ih' init
    · simp only [if_true, List.filter_cons, hq, List.map_cons, List.foldlM_cons]
      cases BV.push init (g s) with
      | error e => rfl
      | ok b => exact ih' b

theorem code_lookup {codes : Array PrefixCode} {s : Nat} (hs : s < codes.size) (h64 : s < two64) :
    codes[Utils.asUsize s]? = some codes[s]! ∧ idx codes (Utils.asUsize s) = .ok codes[s]! := by
  have e : Utils.asUsize s = s := Nat.mod_eq_of_lt h64
  rw [e, getElem!_pos codes s hs]
  exact ⟨Array.getElem?_eq_getElem hs, idx_ok (h := hs)⟩

theorem model_bit_eq_cbit (codes : Array PrefixCode) (k x : Nat) :
    ((codes[x]!.content >>> (codes[x]!.len - (k + 1)) &&& 1) == 1) = cbit codes k x := by
  rw [Nat.and_one_is_mod]; rfl

theorem push_filter (p : Nat → Bool) (z : Array Nat) (a : Nat) (as : List Nat) :
    (if p a then z.push a else z) ++ (as.filter p).toArray = z ++ ((a :: as).filter p).toArray := by
  cases h : p a <;> simp [h]

theorem partH_fold (codes : Array PrefixCode) (k : Nat) (l : List Nat)
    (hl : ∀ s ∈ l, s < codes.size ∧ s < two64) (z o t : Array Nat) :
    l.foldlM (fun (b : Array (Array Nat)) a => (do
        let code ← idx codes (Utils.asUsize a)
        if code.len ≤ k + 1 then pure (b.modify 2 (·.push a))
        else
          let d := (code.content >>> (code.len - (k + 1))) &&& (2 - 1)
          pure (b.modify d (·.push a)) : M (Array (Array Nat)))) #[z, o, t] =
      .ok #[z ++ (l.filter (fun x => decide (k + 1 < clen codes x) && !cbit codes k x)).toArray,
            o ++ (l.filter (fun x => decide (k + 1 < clen codes x) && cbit codes k x)).toArray,
            t ++ (l.filter (fun x => decide (clen codes x ≤ k + 1))).toArray] := by
  induction l generalizing z o t with
  | nil => rfl
  | cons a as ih =>
    obtain ⟨ha1, ha2⟩ := hl a (by simp)
    rw [List.foldlM_cons, (code_lookup ha1 ha2).2, ok_bind,
      ← push_filter (fun x => decide (k + 1 < clen codes x) && !cbit codes k x),
      ← push_filter (fun x => decide (k + 1 < clen codes x) && cbit codes k x),
      ← push_filter (fun x => decide (clen codes x ≤ k + 1)),
      ← ih (fun s hs => hl s (by simp [hs]))]
    -- the element goes to the bucket whose filter accepts it
    by_cases hle : codes[a]!.len ≤ k + 1
    · have h1 : ¬ k + 1 < clen codes a := Nat.not_lt.mpr hle
      have h2 : clen codes a ≤ k + 1 := hle
      simp only [if_pos hle, pure_bind', h1, h2, decide_true, decide_false, Bool.false_and,
        Bool.false_eq_true, if_false, if_true]
      rfl
    · have h1 : k + 1 < clen codes a := Nat.not_le.mp hle
      have h2 : ¬ clen codes a ≤ k + 1 := hle
      have hd : (codes[a]!.content >>> (codes[a]!.len - (k + 1))) &&& (2 - 1)
          = if cbit codes k a then 1 else 0 := by
        rw [← model_bit_eq_cbit, Nat.and_one_is_mod]
        rcases Nat.mod_two_eq_zero_or_one (codes[a]!.content >>> (codes[a]!.len - (k + 1)))
          with h | h <;> rw [h] <;> rfl
      simp only [if_neg hle, hd, pure_bind', h1, h2, decide_true, decide_false, Bool.true_and,
        Bool.false_eq_true, if_false]
      cases cbit codes k a <;> rfl

theorem partitionWithCodes_ok (codes : Array PrefixCode) (k : Nat) (l : List Nat)
    (hl : ∀ s ∈ l, s < codes.size ∧ s < two64) :
    Huff.partitionWithCodes 2 l.toArray (k + 1) codes =
      .ok ((l.filter (fun x => decide (k + 1 < clen codes x) && !cbit codes k x)) ++
           (l.filter (fun x => decide (k + 1 < clen codes x) && cbit codes k x)) ++
           (l.filter (fun x => decide (clen codes x ≤ k + 1)))).toArray := by
  unfold Huff.partitionWithCodes
  have : Array.replicate (2 + 1) (#[] : Array Nat) = #[#[], #[], #[]] := rfl
  simp only [List.foldlM_toArray', this]
  rw [partH_fold codes k l hl, ok_bind]
  simp [pure, Except.pure]

theorem levelStepH_ok (c : Cfg) (hLaw : BinLevelLaw) (L k : Nat) (codes : Array PrefixCode)
    (S : List Nat) (hS : S.length < 2 ^ 43) (hpos : ∀ x ∈ S, 0 < clen codes x)
    (hin : ∀ s ∈ S, s < codes.size ∧ s < two64) (bvs : Array RSWide) (lens : Array Nat) :
    ∃ r, RSW.Represents r (bitsH (cbit codes) (clen codes) k S) ∧
      levelStep c true L codes
          { seq := (seqH (cbit codes) (clen codes) k S).toArray, shift := k + 1, bvs := bvs, lens := lens } =
        .ok { seq := (seqH (cbit codes) (clen codes) (k + 1) S).toArray, shift := k + 2,
              bvs := bvs.push r,
              lens := lens.push (lvlH (cbit codes) (clen codes) k S).length } := by
  have hlen : (bitsH (cbit codes) (clen codes) k S).length < 2 ^ 43 := by
    rw [bitsH, List.length_map]
    exact Nat.lt_of_le_of_lt (lvlH_length_le _ _ _ _) hS
  obtain ⟨r, hmk, hrep⟩ := hLaw _ hlen
  obtain ⟨bvm, hb, hnew, hnb⟩ := mkLevel_run hmk hrep
  rw [bitsH, ← seqH_live _ _ _ hpos] at hb
  rw [bitsH, List.length_map] at hnb
  refine ⟨r, hrep, ?_⟩
  have hin' : ∀ s ∈ seqH (cbit codes) (clen codes) k S, s < codes.size ∧ s < two64 :=
    fun s hs => hin s (seqH_subset (cbit codes) (clen codes) S k s hs)
  unfold levelStep
  simp only [List.foldlM_toArray', if_true]
  rw [foldlM_filter_push (fun x => decide (k < clen codes x)) (cbit codes k) _ _ ?_ {}]
  · simp only [hb, ok_bind, hnew, partitionWithCodes_ok codes k _ hin', hnb]
    rfl
  · intro b s hs
    obtain ⟨h1, h2⟩ := hin' s hs
    rw [(code_lookup h1 h2).1]
    simp only
    by_cases hk : k < clen codes s
    · have : codes[s]!.len ≥ k + 1 := hk
      simp only [this, hk, if_true, decide_true, model_bit_eq_cbit]
    · have : ¬ codes[s]!.len ≥ k + 1 := hk
      simp [this, hk]

end Qwt.BinWM
