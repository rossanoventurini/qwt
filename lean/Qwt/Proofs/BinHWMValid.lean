import Qwt.Proofs.CraftDigits
import Qwt.Proofs.BinHWMSim

/-!
From the validity predicate `WMValid 2 codes occ` of the code table (C02, what
`craftWmCodes` is proved to deliver) to the condition `HOK` used by the list-level Huffman
matrix: prefix-freeness on bits and "continuing elements precede ending ones" at every level
(the latter from the reverse-lexicographic matrix order, by sortedness of every level under
the bit-reversed prefix).
-/

namespace Qwt.BinWM
open Qwt
open Qwt.Huff (PrefixCode)
open Qwt.Props.C02 (WMValid digits revLex bitsOf)

theorem bitsOf_two : bitsOf 2 = 1 := rfl

theorem digits_length (cd : PrefixCode) : (digits 2 cd).length = cd.len := by
  rw [Proofs.Craft.digits_length, bitsOf_two, Nat.div_one]

theorem bitAt_toNat (L k x : Nat) : (bitAt L k x).toNat = x / 2 ^ (L - 1 - k) % 2 := by
  rw [bitAt, Nat.shiftRight_eq_div_pow, Nat.sub_sub, Nat.add_comm 1 k]
  rcases Nat.mod_two_eq_zero_or_one (x / 2 ^ (L - (k + 1))) with h | h <;> rw [h] <;> rfl

theorem digits_get (codes : Array PrefixCode) (x t : Nat) :
    (digits 2 codes[x]!)[t]? = if t < clen codes x then some (cbit codes t x).toNat else none := by
  rw [Proofs.Craft.digits_get, bitsOf_two, Nat.div_one, cbit, bitAt_toNat]
  rfl

/-- the bit-reversed value of the first `k` bits of the code of `x` -/
def rkey (codes : Array PrefixCode) : Nat → Nat → Nat
  | 0, _ => 0
  | k + 1, x => rkey codes k x + 2 ^ k * (cbit codes k x).toNat

theorem rkey_lt (codes : Array PrefixCode) (k x : Nat) : rkey codes k x < 2 ^ k := by
  induction k with
  | zero => simp [rkey]
  | succ k ih =>
    rw [rkey, Nat.pow_succ]
    cases cbit codes k x <;> simp <;> omega

theorem revLex_take (codes : Array PrefixCode) (x k : Nat) (hk : k ≤ clen codes x) :
    revLex 2 ((digits 2 codes[x]!).take k) = rkey codes k x := by
  induction k with
  | zero => rfl
  | succ k ih =>
    rw [Proofs.Craft.revLex_take_succ _ _ _ _ ((digits_get codes x k).trans (if_pos hk)),
      ih (Nat.le_of_succ_le hk), rkey]

theorem part_sorted (codes : Array PrefixCode) (k : Nat) (l : List Nat)
    (hl : l.Pairwise (fun a b => rkey codes k a ≤ rkey codes k b)) :
    (part (cbit codes k) l).Pairwise (fun a b => rkey codes (k + 1) a ≤ rkey codes (k + 1) b) := by
  unfold part
  rw [List.pairwise_append]
  refine ⟨?_, ?_, ?_⟩
  · apply (hl.filter _).imp_of_mem
    intro a b ha hb hab
    have ha' := (List.mem_filter.mp ha).2
    have hb' := (List.mem_filter.mp hb).2
    simp only [Bool.not_eq_true'] at ha' hb'
    simp [rkey, ha', hb', hab]
  · apply (hl.filter _).imp_of_mem
    intro a b ha hb hab
    have ha' := (List.mem_filter.mp ha).2
    have hb' := (List.mem_filter.mp hb).2
    simp [rkey, ha', hb', hab]
  · intro a ha b hb
    have ha' := (List.mem_filter.mp ha).2
    have hb' := (List.mem_filter.mp hb).2
    simp only [Bool.not_eq_true'] at ha'
    have := rkey_lt codes k a
    simp [rkey, ha', hb']
    omega

theorem lvlH_sorted (codes : Array PrefixCode) (S : List Nat) (k : Nat) :
    (lvlH (cbit codes) (clen codes) k S).Pairwise (fun a b => rkey codes k a ≤ rkey codes k b) := by
  induction k with
  | zero => exact List.pairwise_of_forall (fun _ _ => Nat.le_refl _)
  | succ k ih => rw [lvlH]; exact (part_sorted codes k _ ih).filter _

theorem lvlH_live (β : Nat → Nat → Bool) (len : Nat → Nat) (S : List Nat)
    (hpos : ∀ x ∈ S, 0 < len x) (k : Nat) : ∀ x ∈ lvlH β len k S, k < len x := by
  cases k with
  | zero => exact hpos
  | succ k =>
    intro x hx
    rw [lvlH, List.mem_filter] at hx
    simpa using hx.2

theorem hok_of_valid {codes : Array PrefixCode} {occ S : List Nat} (hv : WMValid 2 codes occ)
    (hocc : ∀ s, s ∈ occ ↔ s ∈ S) : HOK (cbit codes) (clen codes) S := by
  have hpos : ∀ x ∈ S, 0 < clen codes x := by
    intro x hx
    have := (hv.occ_len x ((hocc x).mpr hx)).2
    unfold clen; omega
  refine ⟨hpos, ?_, ?_⟩
  · intro x hx y hy hle hbits
    apply Classical.byContradiction
    intro hne
    apply hv.prefix_free x ((hocc x).mpr hx) y ((hocc y).mpr hy) hne
    have : digits 2 codes[x]! = (digits 2 codes[y]!).take (clen codes x) := by
      apply List.ext_getElem?
      intro i
      rw [List.getElem?_take, digits_get, digits_get]
      by_cases hi : i < clen codes x
      · rw [if_pos hi, if_pos hi, if_pos (Nat.lt_of_lt_of_le hi hle), hbits i hi]
      · rw [if_neg hi, if_neg hi]
    rw [this]
    exact List.take_prefix _ _
  · intro k
    have hsorted := part_sorted codes k _ (lvlH_sorted codes S k)
    apply hsorted.imp_of_mem
    intro a b ha hb hab hbl
    apply Classical.byContradiction
    intro hal
    rw [mem_part] at ha hb
    have haS := lvlH_subset _ _ _ _ a ha
    have hbS := lvlH_subset _ _ _ _ b hb
    have halive := lvlH_live _ _ S hpos k a ha
    have hlen_a : clen codes a = k + 1 := Nat.le_antisymm (Nat.le_of_not_lt hal) halive
    have := hv.matrix_order b ((hocc b).mpr hbS) a ((hocc a).mpr haS) k
      (by rw [digits_length]; exact hlen_a) (by rw [digits_length]; exact hbl)
    have e : digits 2 codes[a]! = (digits 2 codes[a]!).take (k + 1) :=
      (List.take_of_length_le (by rw [digits_length]; exact Nat.le_of_eq hlen_a)).symm
    rw [revLex_take codes b (k + 1) (Nat.le_of_lt hbl), e,
      revLex_take codes a (k + 1) (Nat.le_of_eq hlen_a.symm)] at this
    exact absurd hab (Nat.not_le.mpr this)

end Qwt.BinWM
