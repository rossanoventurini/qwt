import Qwt.Model.Codec

/-!
Property C11, generic part: a schema-directed bincode decoder for the serde data model `Val`
and the proof that it inverts `Codec.encode` on every well-typed value.

* `Ty`            — type language (the "schema" serde derives from the Rust type);
* `HasTy v t`     — typing judgment including the machine ranges
                    (`n < 256^bytes`, `-2^63 ≤ i < 2^63`, sequence length `< 2^64`);
* `decode t bs`   — total decoder, structural recursion on `t`, inner recursion on the element
                    count for sequences (`decodeN`);
* `decode_encode` — `HasTy v t → decode t (encode v ++ rest) = some (v, rest)`.
-/
namespace Qwt.Codec

/-- the serde "schema" of a serialisable Rust type -/
inductive Ty where
  | num (bytes : Nat)
  | i64
  | seq (t : Ty)
  | tup (ts : List Ty)
  | opt (t : Ty)
  | unit
  | struct (fields : List (String × Ty))
  deriving Repr, Inhabited

mutual
  /-- `v` is a value of type `t` (with all numbers inside their machine width) -/
  def HasTy : Val → Ty → Prop
    | .num b n, .num b' => b = b' ∧ n < 256 ^ b
    | .i64 i, .i64 => -9223372036854775808 ≤ i ∧ i < 9223372036854775808
    | .seq vs, .seq t => HasTyAll vs t ∧ lengthVals vs < 18446744073709551616
    | .tup vs, .tup ts => HasTyList vs ts
    | .opt none, .opt _ => True
    | .opt (some v), .opt t => HasTy v t
    | .unit, .unit => True
    | .struct fs, .struct fts => HasTyFields fs fts
    | _, _ => False
  /-- every element has type `t` (homogeneous sequence) -/
  def HasTyAll : List Val → Ty → Prop
    | [], _ => True
    | v :: vs, t => HasTy v t ∧ HasTyAll vs t
  /-- pointwise typing (tuple / fixed array) -/
  def HasTyList : List Val → List Ty → Prop
    | [], [] => True
    | v :: vs, t :: ts => HasTy v t ∧ HasTyList vs ts
    | _, _ => False
  /-- pointwise typing of struct fields; the field names must agree -/
  def HasTyFields : List (String × Val) → List (String × Ty) → Prop
    | [], [] => True
    | (k, v) :: fs, (k', t) :: fts => k = k' ∧ HasTy v t ∧ HasTyFields fs fts
    | _, _ => False
end

/-- read `k` little-endian bytes (each `< 256`) -/
def takeLE : Nat → List Nat → Option (Nat × List Nat)
  | 0, bs => some (0, bs)
  | _ + 1, [] => none
  | k + 1, b :: bs =>
    if b < 256 then
      match takeLE k bs with
      | none => none
      | some (n, r) => some (b + 256 * n, r)
    else none

/-- two's complement reading of a `u64` -/
def toI64 (u : Nat) : Int :=
  if u < 9223372036854775808 then (u : Int) else (u : Int) - 18446744073709551616

/-- `n` elements with the element decoder `f` -/
def decodeN (f : List Nat → Option (Val × List Nat)) : Nat → List Nat → Option (List Val × List Nat)
  | 0, bs => some ([], bs)
  | n + 1, bs =>
    match f bs with
    | none => none
    | some (v, bs') =>
      match decodeN f n bs' with
      | none => none
      | some (vs, bs'') => some (v :: vs, bs'')

mutual
  /-- schema-directed bincode decoder: the decoded value and the unread rest -/
  def decode : Ty → List Nat → Option (Val × List Nat)
    | .num b, bs =>
      match takeLE b bs with
      | none => none
      | some (n, r) => some (.num b n, r)
    | .i64, bs =>
      match takeLE 8 bs with
      | none => none
      | some (n, r) => some (.i64 (toI64 n), r)
    | .seq t, bs =>
      match takeLE 8 bs with
      | none => none
      | some (n, r) =>
        match decodeN (decode t) n r with
        | none => none
        | some (vs, r') => some (.seq vs, r')
    | .tup ts, bs =>
      match decodeList ts bs with
      | none => none
      | some (vs, r) => some (.tup vs, r)
    | .opt t, bs =>
      match bs with
      | 0 :: r => some (.opt none, r)
      | 1 :: r =>
        (match decode t r with
         | none => none
         | some (v, r') => some (.opt (some v), r'))
      | _ => none
    | .unit, bs => some (.unit, bs)
    | .struct fts, bs =>
      match decodeFields fts bs with
      | none => none
      | some (fs, r) => some (.struct fs, r)
  def decodeList : List Ty → List Nat → Option (List Val × List Nat)
    | [], bs => some ([], bs)
    | t :: ts, bs =>
      match decode t bs with
      | none => none
      | some (v, r) =>
        match decodeList ts r with
        | none => none
        | some (vs, r') => some (v :: vs, r')
  def decodeFields : List (String × Ty) → List Nat → Option (List (String × Val) × List Nat)
    | [], bs => some ([], bs)
    | (k, t) :: fts, bs =>
      match decode t bs with
      | none => none
      | some (v, r) =>
        match decodeFields fts r with
        | none => none
        | some (fs, r') => some ((k, v) :: fs, r')
end

theorem length_leBytes (k n : Nat) : (leBytes k n).length = k := by
  induction k generalizing n with
  | zero => rfl
  | succ k ih => simp [leBytes, ih]

theorem leBytes_lt (k n : Nat) : ∀ b ∈ leBytes k n, b < 256 := by
  induction k generalizing n with
  | zero => intro b hb; simp [leBytes] at hb
  | succ k ih =>
    intro b hb
    simp only [leBytes, List.mem_cons] at hb
    rcases hb with rfl | hb
    · exact Nat.mod_lt _ (by decide)
    · exact ih _ b hb

theorem takeLE_leBytes_mod (k n : Nat) (rest : List Nat) :
    takeLE k (leBytes k n ++ rest) = some (n % 256 ^ k, rest) := by
  induction k generalizing n with
  | zero => simp [leBytes, takeLE, Nat.mod_one]
  | succ k ih =>
    have hm : n % 256 < 256 := Nat.mod_lt _ (by decide)
    simp only [leBytes, List.cons_append, takeLE, hm, if_true, ih]
    congr 2
    rw [Nat.pow_succ, Nat.mul_comm (256 ^ k) 256, Nat.mod_mul]

theorem takeLE_leBytes (k n : Nat) (rest : List Nat) (h : n < 256 ^ k) :
    takeLE k (leBytes k n ++ rest) = some (n, rest) := by
  rw [takeLE_leBytes_mod, Nat.mod_eq_of_lt h]

theorem toI64_roundtrip (i : Int) (h1 : -9223372036854775808 ≤ i) (h2 : i < 9223372036854775808) :
    toI64 (i % 18446744073709551616).toNat = i := by
  unfold toI64
  split <;> omega

theorem i64_toNat_lt (i : Int) : (i % 18446744073709551616).toNat < 256 ^ 8 := by
  omega

theorem decodeN_zero (f) (bs : List Nat) : decodeN f 0 bs = some ([], bs) := rfl

mutual
  /-- **C11, generic form**: decoding the encoding of a well-typed value yields the value and
      leaves exactly the bytes that followed it. -/
  theorem decode_encode : ∀ (v : Val) (t : Ty) (rest : List Nat), HasTy v t →
      decode t (encode v ++ rest) = some (v, rest)
    | .num b n, t, rest, h => by
      -- here and below `cases t` leaves the one type of the value's shape: `HasTy` is `False`
      -- of the others
      cases t <;> simp only [HasTy] at h
      obtain ⟨rfl, h⟩ := h
      simp only [encode, decode, takeLE_leBytes _ _ _ h]
    | .i64 i, t, rest, h => by
      cases t <;> simp only [HasTy] at h
      simp only [encode, decode, takeLE_leBytes _ _ _ (i64_toNat_lt i),
        toI64_roundtrip i h.1 h.2]
    | .seq vs, t, rest, h => by
      cases t <;> simp only [HasTy] at h
      simp only [encode, decode, List.append_assoc, takeLE_leBytes 8 _ _ h.2,
        decodeN_encodeList vs _ rest h.1]
    | .tup vs, t, rest, h => by
      cases t <;> simp only [HasTy] at h
      simp only [encode, decode, decodeList_encodeList vs _ rest h]
    | .opt none, t, rest, h => by
      cases t <;> simp only [HasTy] at h
      simp only [encode, decode, List.cons_append, List.nil_append]
    | .opt (some v), t, rest, h => by
      cases t <;> simp only [HasTy] at h
      simp only [encode, decode, List.cons_append, decode_encode v _ rest h]
    | .unit, t, rest, h => by
      cases t <;> simp only [HasTy] at h
      simp only [encode, decode, List.nil_append]
    | .struct fs, t, rest, h => by
      cases t <;> simp only [HasTy] at h
      simp only [encode, decode, decodeFields_encodeFields fs _ rest h]
  theorem decodeN_encodeList : ∀ (vs : List Val) (t : Ty) (rest : List Nat), HasTyAll vs t →
      decodeN (decode t) (lengthVals vs) (encodeList vs ++ rest) = some (vs, rest)
    | [], t, rest, _ => by
      simp only [encodeList, lengthVals, List.nil_append, decodeN_zero]
    | v :: vs, t, rest, h => by
      simp only [HasTyAll] at h
      have e : lengthVals (v :: vs) = lengthVals vs + 1 := by
        simp only [lengthVals]; omega
      rw [e]
      simp only [encodeList, List.append_assoc, decodeN, decode_encode v t _ h.1,
        decodeN_encodeList vs t rest h.2]
  theorem decodeList_encodeList : ∀ (vs : List Val) (ts : List Ty) (rest : List Nat),
      HasTyList vs ts → decodeList ts (encodeList vs ++ rest) = some (vs, rest)
    | [], [], rest, _ => by
      simp only [encodeList, decodeList, List.nil_append]
    | v :: vs, t :: ts, rest, h => by
      simp only [HasTyList] at h
      simp only [encodeList, List.append_assoc, decodeList, decode_encode v t _ h.1,
        decodeList_encodeList vs ts rest h.2]
    | [], _ :: _, _, h => by simp [HasTyList] at h
    | _ :: _, [], _, h => by simp [HasTyList] at h
  theorem decodeFields_encodeFields : ∀ (fs : List (String × Val)) (fts : List (String × Ty))
      (rest : List Nat), HasTyFields fs fts →
      decodeFields fts (encodeFields fs ++ rest) = some (fs, rest)
    | [], [], rest, _ => by
      simp only [encodeFields, decodeFields, List.nil_append]
    | (k, v) :: fs, (k', t) :: fts, rest, h => by
      simp only [HasTyFields] at h
      obtain ⟨rfl, hv, hf⟩ := h
      simp only [encodeFields, List.append_assoc, decodeFields, decode_encode v t _ hv,
        decodeFields_encodeFields fs fts rest hf]
    | [], _ :: _, _, h => by simp [HasTyFields] at h
    | _ :: _, [], _, h => by simp [HasTyFields] at h
end

theorem decode_encode_nil (v : Val) (t : Ty) (h : HasTy v t) :
    decode t (encode v) = some (v, []) := by
  simpa using decode_encode v t [] h

/-- `encode` is injective on the values of one type (no two states share a serialisation) -/
theorem encode_injective (v w : Val) (t : Ty) (hv : HasTy v t) (hw : HasTy w t)
    (h : encode v = encode w) : v = w := by
  have e1 := decode_encode_nil v t hv
  have e2 := decode_encode_nil w t hw
  rw [h, e2] at e1
  injection e1 with e1
  injection e1 with e1 _
  exact e1.symm

theorem lengthVals_eq (vs : List Val) : lengthVals vs = vs.length := by
  induction vs with
  | nil => rfl
  | cons v vs ih => simp only [lengthVals, ih, List.length_cons]; omega

theorem encodeList_append (xs ys : List Val) :
    encodeList (xs ++ ys) = encodeList xs ++ encodeList ys := by
  induction xs with
  | nil => simp [encodeList]
  | cons x xs ih => simp [encodeList, ih]

mutual
  /-- serialised size in bytes -/
  def byteSize : Val → Nat
    | .num b _ => b
    | .i64 _ => 8
    | .seq vs => 8 + byteSizeList vs
    | .tup vs => byteSizeList vs
    | .opt none => 1
    | .opt (some v) => 1 + byteSize v
    | .unit => 0
    | .struct fs => byteSizeFields fs
  def byteSizeList : List Val → Nat
    | [] => 0
    | v :: vs => byteSize v + byteSizeList vs
  def byteSizeFields : List (String × Val) → Nat
    | [] => 0
    | (_, v) :: fs => byteSize v + byteSizeFields fs
end

mutual
  theorem length_encode : ∀ v : Val, (encode v).length = byteSize v
    | .num b n => by simp only [encode, byteSize, length_leBytes]
    | .i64 i => by simp only [encode, byteSize, length_leBytes]
    | .seq vs => by
      simp only [encode, byteSize, List.length_append, length_leBytes, length_encodeList vs]
    | .tup vs => by simp only [encode, byteSize, length_encodeList vs]
    | .opt none => by simp only [encode, byteSize, List.length_singleton]
    | .opt (some v) => by
      simp only [encode, byteSize, List.length_cons, length_encode v]; omega
    | .unit => by simp only [encode, byteSize, List.length_nil]
    | .struct fs => by simp only [encode, byteSize, length_encodeFields fs]
  theorem length_encodeList : ∀ vs : List Val, (encodeList vs).length = byteSizeList vs
    | [] => by simp only [encodeList, byteSizeList, List.length_nil]
    | v :: vs => by
      simp only [encodeList, byteSizeList, List.length_append, length_encode v,
        length_encodeList vs]
  theorem length_encodeFields : ∀ fs : List (String × Val),
      (encodeFields fs).length = byteSizeFields fs
    | [] => by simp only [encodeFields, byteSizeFields, List.length_nil]
    | (_, v) :: fs => by
      simp only [encodeFields, byteSizeFields, List.length_append, length_encode v,
        length_encodeFields fs]
end

mutual
  theorem encode_lt : ∀ (v : Val) (b : Nat), b ∈ encode v → b < 256
    | .num k n, b, h => by simp only [encode] at h; exact leBytes_lt _ _ b h
    | .i64 i, b, h => by simp only [encode] at h; exact leBytes_lt _ _ b h
    | .seq vs, b, h => by
      simp only [encode, List.mem_append] at h
      rcases h with h | h
      · exact leBytes_lt _ _ b h
      · exact encodeList_lt vs b h
    | .tup vs, b, h => by simp only [encode] at h; exact encodeList_lt vs b h
    | .opt none, b, h => by simp only [encode, List.mem_singleton] at h; omega
    | .opt (some v), b, h => by
      simp only [encode, List.mem_cons] at h
      rcases h with h | h
      · omega
      · exact encode_lt v b h
    | .unit, b, h => by simp [encode] at h
    | .struct fs, b, h => by simp only [encode] at h; exact encodeFields_lt fs b h
  theorem encodeList_lt : ∀ (vs : List Val) (b : Nat), b ∈ encodeList vs → b < 256
    | [], b, h => by simp [encodeList] at h
    | v :: vs, b, h => by
      simp only [encodeList, List.mem_append] at h
      rcases h with h | h
      · exact encode_lt v b h
      · exact encodeList_lt vs b h
  theorem encodeFields_lt : ∀ (fs : List (String × Val)) (b : Nat), b ∈ encodeFields fs → b < 256
    | [], b, h => by simp [encodeFields] at h
    | (_, v) :: fs, b, h => by
      simp only [encodeFields, List.mem_append] at h
      rcases h with h | h
      · exact encode_lt v b h
      · exact encodeFields_lt fs b h
end

theorem byteSizeList_map_const (f : α → Val) (c : Nat) (l : List α)
    (h : ∀ x ∈ l, byteSize (f x) = c) : byteSizeList (l.map f) = l.length * c := by
  induction l with
  | nil => simp [byteSizeList]
  | cons x xs ih =>
    simp only [List.map_cons, byteSizeList, List.length_cons]
    rw [h x (by simp), ih (fun y hy => h y (by simp [hy]))]
    rw [Nat.succ_mul]; omega

end Qwt.Codec
