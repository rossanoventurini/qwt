import Qwt.Proofs.QWT
import Qwt.Proofs.PfsApprox

/-!
The quad wavelet tree with prefetch support (`c.pfs = true`).

The sampling structure of a level is built from the vector its push loop has produced, which
satisfies the C13 invariant, so `PrefetchSupport::new` succeeds on it and describes the digits of the
level (`PfsP.new_of_pushes`): the premise `PfsTotalH` of the constructor theorems of
`Qwt/Proofs/QWT.lean` holds for every configuration, and what they build (`PfsBuilt`) satisfies
`PfsRep` level by level (`PfsLevels`).  With it estimation phase 1 of `rank_prefetch` never faults.
-/

theorem Qwt.HQWM.pfsTotalH (c : Qwt.Cfg) : Qwt.Props.C02.PfsTotalH c :=
  fun _ digits hd qvb hq => (Qwt.PfsP.new_of_pushes digits hd qvb hq).imp fun _ h => h.1

namespace Qwt.QWTree
open Qwt Qwt.WM Qwt.Spec Qwt.RSQ Qwt.PfsP

/-- the sampling structures of `f` levels starting at `level` describe the wavelet-matrix
    levels of `s` (same indexing as `RepLevels`) -/
def PfsLevels (pfs : Array PFS.PrefetchSupport) : Nat → Nat → List Nat → Prop
  | _, 0, _ => True
  | level, f + 1, s =>
    (∃ p, pfs[level]? = some p ∧ PfsRep (s.map (dig (2 * f))) p) ∧
      PfsLevels pfs (level + 1) f (stablePart (dig (2 * f)) 4 s)

/-- `PrefetchSupport::new` is total on the vectors that satisfy the C13 invariant -/
def PfsTotal' (c : Cfg) : Prop :=
  c.pfs = true → ∀ qv, QV.Inv qv → QV.len qv < 2 ^ 43 →
    ∃ p, PFS.new qv Extracted.pfsSampleShift = .ok p

theorem pfsLevels_mono {pfs pfs' : Array PFS.PrefetchSupport} :
    ∀ (f level : Nat) (s : List Nat),
      (∀ j, level ≤ j → j < level + f → pfs'[j]? = pfs[j]?) →
      PfsLevels pfs level f s → PfsLevels pfs' level f s := by
  intro f
  induction f with
  | zero => intro _ _ _ _; trivial
  | succ f ih =>
    intro level s hsame h
    obtain ⟨⟨p, hp, hP⟩, hrest⟩ := h
    refine ⟨⟨p, ?_, hP⟩, ih (level + 1) _ (fun j h1 h2 => hsame j (Nat.le_of_succ_le h1)
      (Nat.add_right_comm level 1 f ▸ h2)) hrest⟩
    rw [hsame level (Nat.le_refl _) (Nat.lt_add_of_pos_right f.succ_pos)]; exact hp

theorem pfsLevels_of_built {pfs : Array PFS.PrefetchSupport} :
    ∀ (f level : Nat) (s : List Nat), PfsBuilt pfs level f s → PfsLevels pfs level f s := by
  intro f
  induction f with
  | zero => intro _ _ _; trivial
  | succ f ih =>
    intro level s h
    obtain ⟨⟨p, hp, qvb, hq, hnew⟩, hrest⟩ := h
    refine ⟨⟨p, hp, ?_⟩, ih _ _ hrest⟩
    obtain ⟨p', hp', hrep⟩ := PfsP.new_of_pushes _
      (fun d hd => by obtain ⟨x, _, rfl⟩ := List.mem_map.mp hd; exact dig_lt _ _) qvb hq
    rw [hnew] at hp'
    cases hp'
    exact hrep

/-- the invariant of a tree built with prefetch support -/
structure WMP (c : Cfg) (S : List Nat) (t : QWT) : Prop where
  wm : WM c S t
  pfs : c.pfs = true → S ≠ [] → ∃ pfs, t.pfs = some pfs ∧ PfsLevels pfs 0 t.nLevels S
  pfs_nil : S = [] → t.pfs = none

theorem new_wmp (c : Cfg) (hW : 0 < c.W) (S : List Nat) (hS : ∀ x ∈ S, x < 2 ^ c.W)
    (hlen : S.length < 2 ^ 43) (hLaw : LevelLaw c.dbg c.B) :
    ∃ t, new c S.toArray = .ok t ∧ WMP c S t := by
  obtain ⟨t, ht, hwm, hpfs, hnil⟩ := new_wm_pfs c hW S hS hlen hLaw (HQWM.pfsTotalH c)
  refine ⟨t, ht, hwm, fun hp hne => ?_, hnil⟩
  obtain ⟨pfs, e, hb⟩ := hpfs hp hne
  exact ⟨pfs, e, pfsLevels_of_built _ _ _ hb⟩

/-- `approx + offset` stays inside the next level -/
theorem approx_off_le (key : Nat → Nat) (d p : Nat) (s : List Nat) :
    approxSpec (s.map key) d p + Spec.occsSmaller id d (s.map key) ≤ s.length :=
  Nat.le_trans (Nat.add_le_add_right (approxSpec_le_rank (s.map key) d p) _)
    (off_add_rank_le key d (covered (s.map key).length (p / rate + 1)) s)

theorem phase1_go_ok (c : Cfg) (t : QWT) (sym : Nat) (pfs : Array PFS.PrefetchSupport) :
    ∀ (f level : Nat) (S' : List Nat) (s e : Nat),
      RepLevels c.B t.qvs level (f + 1) S' → PfsLevels pfs level (f + 1) S' → 2 * f < c.W →
      s ≤ e → e ≤ S'.length → 0 < S'.length →
      ∃ s' e', pfsPhase1.go c t sym pfs f level (2 * f) s e = .ok (s', e') ∧ s' ≤ e' := by
  intro f
  induction f with
  | zero => intro level S' s e _ _ _ hse _ _; exact ⟨s, e, rfl, hse⟩
  | succ f ih =>
    intro level S' s e h hp hW hse he hpos
    obtain ⟨⟨r, hr, hR⟩, hrest⟩ := h
    obtain ⟨⟨p, hpp, hP⟩, hprest⟩ := hp
    have ⟨⟨r', hr', _⟩, _⟩ := hrest
    have hd := dig_lt (2 * (f + 1)) sym
    have hlen : (S'.map (dig (2 * (f + 1)))).length = S'.length := List.length_map _
    have hsh : 2 * (f + 1) - 2 = 2 * f := Nat.add_sub_cancel (2 * f) 2
    rw [pfsPhase1.go, twoBits_ok c sym _ hW, ok_bind, hsh, pfsPhase1_level hr hR hr' hpp hP hd
      (hlen ▸ block_in_range hpos (Nat.le_trans hse he)) (hlen ▸ block_in_range hpos he)]
    exact ih (level + 1) _ _ _ hrest hprest
      (Nat.lt_of_le_of_lt (Nat.mul_le_mul_left 2 (Nat.le_succ f)) hW)
      (Nat.add_le_add_right (approxSpec_mono _ _ hse) _)
      (by rw [length_part]; exact approx_off_le _ _ e S') (by rw [length_part]; exact hpos)

theorem pfsPhase1_ok (c : Cfg) (t : QWT) (sym i : Nat) (s : List Nat) (pfs : Array PFS.PrefetchSupport)
    (hpfs : t.pfs = some pfs) (hL : t.nLevels ≠ 0) (hrep : RepLevels c.B t.qvs 0 t.nLevels s)
    (hprep : PfsLevels pfs 0 t.nLevels s)
    (hW : 2 * (t.nLevels - 1) < c.W) (hi : i ≤ s.length) (hpos : 0 < s.length) :
    pfsPhase1 c t sym i = .ok () := by
  obtain ⟨f, hf⟩ := Nat.exists_eq_succ_of_ne_zero hL
  rw [hf] at hrep hprep hW
  rw [Nat.succ_sub_one] at hW
  have ⟨⟨r, hr, _⟩, _⟩ := hrep
  obtain ⟨s', e', hgo, hle⟩ := phase1_go_ok c t sym pfs f 0 s 0 i hrep hprep hW (Nat.zero_le _) hi hpos
  unfold pfsPhase1
  cases hc : c.pfs
  · rfl
  · simp only [Bool.not_true, Bool.false_eq_true, if_false, hpfs, hf, sub_ok (Nat.le_add_left 1 f),
      Nat.succ_sub_one, ok_bind, idx_of_some hr, hgo, sub_ok hle]
    rfl

namespace WMP

variable {c : Cfg} {S : List Nat} {t : QWT}

theorem pfsPhase1_ok (h : WMP c S t) (hW : 0 < c.W) (hS : ∀ x ∈ S, x < 2 ^ c.W)
    (sym i : Nat) (hi : i ≤ S.length) : pfsPhase1 c t sym i = .ok () := by
  by_cases hne : S = []
  · unfold pfsPhase1; rw [h.pfs_nil hne]; cases c.pfs <;> rfl
  · cases hc : c.pfs
    · unfold pfsPhase1; rw [hc]; rfl
    · obtain ⟨pfs, hpfs, hlev⟩ := h.pfs hc hne
      exact QWTree.pfsPhase1_ok c t sym i S pfs hpfs (h.wm.nLevels_ne hne) (h.wm.levels hne) hlev
        (h.wm.shift_lt hW hS hne) hi (List.length_pos_iff.mpr hne)

end WMP

end Qwt.QWTree
