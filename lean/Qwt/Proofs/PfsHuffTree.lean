import Qwt.Proofs.HQWMInv
import Qwt.Proofs.PfsHuff
import Qwt.Proofs.PfsTree
import Qwt.Proofs.NewInv

/-!
Estimation phase 1 of `rank_prefetch` on the Huffman-shaped quad wavelet tree never faults: the tree
built by `Huff.new` carries one sampling structure per level, `pfs[k]` satisfying
`PfsRep (digsQ k S)` (`PfsLevelsQ`), and with the invariant `HWM` (`Qwt/Proofs/HQWMInv.lean`) this instantiates `Huff.WalkHyp` with `T k = blkStartQ k + cntP k i`.
-/
namespace Qwt.HQWM
open Qwt Qwt.Huff
open Qwt.PfsP (PfsRep)
open Qwt.BinWM (lt_two64)
open Qwt.Props.C02 (WMValid PfsTotalH)

/-- the sampling structures of a tree: one per level, describing the digit list of the level -/
def PfsLevelsQ (codes : Array PrefixCode) (S : List Nat) (t : HQWT) : Prop :=
  ∃ pfs, t.pfs = some pfs ∧ pfs.size = t.nLevels ∧
    ∀ j (h : j < pfs.size), PfsRep (digsQ (qdig codes) (qlen codes) j S) pfs[j]

theorem new_pfsQ (c : Cfg) (hW : c.W ≤ 64) (hLaw : LevelLaw c.dbg c.B)
    (S : List Nat) (hne : S ≠ [])
    (hb : ∀ x ∈ S, x < 2 ^ c.W) (hS : S.length < 2 ^ 43) (lens : List (Nat × Nat))
    (codes : Array PrefixCode)
    (hcraft : Huff.craftWmCodes 4 lens (Utils.asUsize (Spec.maxNat S)) = .ok codes)
    (occ : List Nat) (hv : WMValid 4 codes occ) (hocc : ∀ s, s ∈ occ ↔ s ∈ S)
    {t : HQWT} (ht : Huff.new c S.toArray lens = .ok t) (hp : c.pfs = true) :
    PfsLevelsQ codes S t := by
  have hok := qok_of_valid hv hocc
  have hev : ∀ x : Nat, 2 ∣ codes[x]!.len := fun x => (hv.len_le x).2.1
  have hin : ∀ x ∈ S, x < codes.size ∧ codes[x]!.len ≠ 0 :=
    fun x hx => hv.occ_len x ((hocc x).mpr hx)
  have hin' : ∀ s ∈ S, s < codes.size ∧ s < two64 :=
    fun s hs => ⟨(hin s hs).1, lt_two64 hW (hb s hs)⟩
  obtain ⟨qvs, lens', pfs, h1, _, _, _, _, _, hsome⟩ :=
    levels_loopQ c hLaw (pfsTotalH c) codes S hS hok.pos hin' hev (maxLenOf codes / 2)
  have hemp : S.toArray.isEmpty = false := by
    cases S with
    | nil => exact absurd rfl hne
    | cons _ _ => rfl
  have hfold : S.toArray.foldl max 0 = Spec.maxNat S := by simp [Spec.maxNat]
  unfold maxLenOf at h1
  obtain ⟨codes', st, hc', hst, rfl⟩ := Huff.new_inv hemp ht
  rw [hfold] at hc'
  cases hcraft.symm.trans hc'
  cases h1.symm.trans hst
  obtain ⟨g1, g2⟩ := hsome hp
  refine ⟨pfs, by simp [hp], g1, fun j h => ?_⟩
  -- `pfs[j]` is `PrefetchSupport::new` of the vector the digits of level `j` were pushed on
  obtain ⟨qvb, hq, hnew⟩ := g2 j h
  obtain ⟨p, hp', hrep⟩ := PfsP.new_of_pushes _
    (fun d hd => by obtain ⟨x, _, rfl⟩ := List.mem_map.mp hd; exact qdig_lt codes j x) qvb hq
  rw [hnew] at hp'
  cases hp'
  exact hrep

section inv
variable {c : Cfg} {S : List Nat} {codes : Array PrefixCode} {t : HQWT}

theorem tbAt_eq (codes : Array PrefixCode) (sym k : Nat) :
    tbAt codes[sym]! k = qdig codes k sym := by
  unfold tbAt
  rw [and3, Nat.mod_mod_of_dvd _ (by decide : 4 ∣ 256)]
  rfl

/-- the HQWT invariant and the sampling structures instantiate `WalkHyp`, with the true
    position `T k = blkStartQ k + cntP k i` -/
theorem walkHyp (h : HWM c S codes t) {pfs : Array PFS.PrefetchSupport}
    (hsz : pfs.size = t.nLevels)
    (hrep : ∀ j (hj : j < pfs.size), PfsRep (digsQ (qdig codes) (qlen codes) j S) pfs[j])
    {sym : Nat} (hs : sym ∈ S) (i : Nat) :
    WalkHyp c t codes[sym]! pfs (fun k => digsQ (qdig codes) (qlen codes) k S)
      (fun k => blkStartQ (qdig codes) (qlen codes) sym S k
        + cntP (qdig codes) (qlen codes) sym S k i) where
  levels_le := Nat.le_trans (Nat.div_le_div_right (h.code_bound sym).1) PfsP.rate_ge_16
  qvs := by
    intro k hk
    have hks : k < t.qvs.size := by
      rw [h.levels.size_eq]; exact Nat.lt_of_lt_of_le hk (h.levels.len_le sym hs)
    exact ⟨t.qvs[k], Array.getElem?_eq_getElem hks, h.levels.repr k hks⟩
  pfs := by
    intro k hk
    have hks : k < pfs.size := by
      rw [hsz]
      exact Nat.lt_of_lt_of_le (Nat.lt_of_succ_lt hk) (h.levels.len_le sym hs)
    exact ⟨pfs[k], Array.getElem?_eq_getElem hks, hrep k hks⟩
  nonempty := by
    intro k hk
    have hm := mem_lvlQ h.qok hs k (Nat.lt_of_succ_lt hk)
    rw [digsQ, List.length_map]
    exact List.length_pos_of_mem hm
  inside := by
    intro k hk
    exact blkStartQ_cnt_le h.qok hs k (Nat.lt_of_succ_lt hk) i
  step := by
    intro k hk
    have hw := walk_stepQ h.qok hs k (Nat.lt_of_succ_lt hk) i
    rw [cntR_eq_cntP h.qok hs hk] at hw
    unfold nextPos at hw
    rw [tbAt_eq, hw]
    exact Nat.le_refl _

theorem inv_phase1 (h : HWM c S codes t) (hp : c.pfs = true → PfsLevelsQ codes S t)
    {sym : Nat} (hs : sym ∈ S) (i : Nat) (hi : i ≤ S.length) :
    pfsPhase1 c t codes[sym]! i = .ok () := by
  cases hc : c.pfs
  · unfold pfsPhase1
    rw [hc]
    rfl
  · obtain ⟨pfs, hpfs, hsz, hrep⟩ := hp hc
    have hev := (h.code_bound sym).2.1
    have h2q := two_qlen hev
    have hL1 : 0 < qlen codes sym :=
      Nat.pos_of_ne_zero fun e => (h.mem_in sym hs).2 (by rw [← h2q, e])
    have hcnt : cntP (qdig codes) (qlen codes) sym S 0 i = i := by
      rw [← cntR_eq_cntP h.qok hs hL1, cntR_zero _ _ _ _ _ hi]
    exact pfsPhase1_of_walk hpfs (walkHyp h hsz hrep hs i) (h2q ▸ Nat.mul_le_mul_left 2 hL1) i
      (by simp only [blkStartQ, Nat.zero_add, hcnt]; exact Nat.le_refl _)

end inv

end Qwt.HQWM
