import Qwt.Props.C06
import Qwt.Proofs.CodecTree
import Qwt.Proofs.PfsBuild

/-! Every `RSWide` / `RSNarrow` / `PrefetchSupport` value produced by its constructor (within the
length limits) is well-formed for the serialisation codec (`Codec.rswWF`, `Codec.rsnWF`,
`Codec.pfsWF`), so the round-trip theorems of C11 apply to it.

* `RSW.Inv` pins every stored word, so `rswWF_of_inv` needs nothing else.
* `RSN.Inv` does not pin the sub-counter words of the sentinel blocks (indices `2q+1` with
  `nLines ≤ q ≤ sentN`): `rsnWF_of_inv` takes their bound as the hypothesis `htail`, and
  `rsnWF_of_new` discharges it from the construction (`finalBrp_all`). -/
namespace Qwt.Closure2
open Qwt Qwt.BV Qwt.RSBin Qwt.Extracted

theorem all_of_pairs {a : Array Nat} {P : Nat → Prop}
    (h0 : ∀ q, 2 * q < a.size → P (a.getD (2 * q) 0))
    (h1 : ∀ q, 2 * q + 1 < a.size → P (a.getD (2 * q + 1) 0)) : ∀ x ∈ a.toList, P x :=
  all_of_getD 0 (fun i hi => by
    rw [← Nat.div_add_mod i 2] at hi ⊢
    rcases Nat.mod_two_eq_zero_or_one i with h | h
    · rw [h] at hi ⊢
      exact h0 _ hi
    · rw [h] at hi ⊢
      exact h1 _ hi)

theorem R_le_len (s : List Bool) (i : Nat) : R s i ≤ s.length := by
  have h1 := Spec.rank_mono true s (i := i) (j := i + s.length) (by omega)
  have h3 := Spec.rank_of_ge true s (i := i + s.length) (by omega)
  have h4 := List.count_le_length (a := true) (l := s)
  unfold R; omega

theorem bvWF_of_holds {b : BitVector} {s : List Bool} (h : Holds b s) (hn : s.length < 2 ^ 64) :
    Codec.bvWF b := by
  have hsz := h.size
  refine ⟨by omega, by omega, all_of_getD 0 (fun i hi => h.lt i hi), by rw [h.nBits]; exact hn, ?_⟩
  rw [h.nOnes]; exact Nat.lt_of_le_of_lt List.count_le_length hn

/-- A hint array (`HintInv`: `D m` counts up to group `m`, one hint per `P` counted, `n` groups)
    with its sentinel `sent` appended. -/
theorem hint_samples_wf {D : Nat → Nat} {P n : Nat} {smp : Array Nat} {hint : Nat}
    (hv : HintInv D P n smp hint) (sent : Nat)
    (hsz : D n / P + 2 < 2 ^ 64) (hn : n < 2 ^ 64) (hs : sent < 2 ^ 64) :
    (smp.push sent).size < 2 ^ 64 ∧ ∀ x ∈ (smp.push sent).toList, x < 2 ^ 64 := by
  have hsize := hv.size
  refine ⟨by rw [Array.size_push, hsize, hv.hint_eq]; exact hsz, all_of_getD 0 ?_⟩
  intro i hi
  rw [Array.size_push] at hi
  by_cases hlt : i < smp.size
  · rw [getD_push_lt _ _ _ hlt]
    by_cases h0 : i = 0
    · subst h0; rw [hv.zero]; decide
    · rw [hsize] at hlt
      obtain ⟨m, hm, e, _, _⟩ := hv.pos i (Nat.pos_of_ne_zero h0) (Nat.le_of_lt_succ hlt)
      rw [e]
      exact Nat.lt_of_le_of_lt (Nat.div_le_self m 8) (Nat.lt_trans hm hn)
  · cases Nat.le_antisymm (Nat.le_of_lt_succ hi) (Nat.le_of_not_lt hlt)
    rw [getD_push_eq]; exact hs

theorem samplesWF_of_getD {a : Array (Array Nat)} (hsz : a.size = 2)
    (h : ∀ bit : Bool, (a.getD (if bit then 1 else 0) #[]).size < 2 ^ 64 ∧
      ∀ x ∈ (a.getD (if bit then 1 else 0) #[]).toList, x < 2 ^ 64) :
    Codec.samplesWF 2 (2 ^ 64) a :=
  ⟨hsz, all_of_getD #[] (fun j hj =>
    match j, hsz ▸ hj with
    | 0, _ => h false
    | 1, _ => h true)⟩

theorem rswWF_of_inv {r : RSW.RSWide} {s : List Bool} (h : RSW.Inv r s) : Codec.rswWF r := by
  have hlen := h.len
  have hl64 : s.length < 2 ^ 64 := Nat.lt_trans hlen (by decide)
  have hnl := h.holds.nLines_eq
  have hnsb : RSW.nsb r.bv ≤ nLines r.bv := by unfold RSW.nsb; omega
  refine ⟨bvWF_of_holds h.holds hl64, ?_, all_of_getD 0 ?_, samplesWF_of_getD h.ssize ?_, ?_⟩
  · rw [h.smSize]; omega
  · intro i hi
    rw [h.smSize] at hi
    by_cases hq : i < RSW.nsb r.bv
    · rw [h.md i hq]
      exact RSW.packN_cq_lt s hlen i 7 (Nat.le_refl 7)
    · cases Nat.le_antisymm (Nat.le_of_lt_succ hi) (Nat.le_of_not_lt hq)
      rw [h.last]
      have e : (2:Nat) ^ 128 = 2 ^ 44 * 2 ^ 84 := by decide
      rw [e]
      exact Nat.mul_lt_mul_of_pos_right (Nat.lt_trans (RSW.count_lt s hlen) (by decide)) (by decide)
  · intro bit
    obtain ⟨smp, hint, e, hh⟩ := h.samples bit
    rw [e]
    -- no assumption on the period: a quotient is at most its numerator
    have hC := C_le bit s (512 * nLines r.bv)
    have hd : C bit s (512 * nLines r.bv) / RSW.per bit ≤ 512 * nLines r.bv :=
      Nat.le_trans (Nat.div_le_self _ _) hC
    exact hint_samples_wf hh _ (by omega) (by omega) (by omega)
  · rw [h.nZeros]
    exact Nat.lt_of_le_of_lt List.count_le_length hl64

theorem rswWF_of_holds {b : BitVector} {s : List Bool} (hh : Holds b s) (hl : s.length < 2 ^ 43)
    {r : RSW.RSWide} (e : RSW.new b = .ok r) : Codec.rswWF r :=
  rswWF_of_inv (of_exists_ok (RSW.new_inv hh hl) e).2

theorem rswWF_of_new {b : BitVector} (hb : BV.Inv b) (hl : (BV.abs b).length < 2 ^ 43)
    {r : RSW.RSWide} (e : RSW.new b = .ok r) : Codec.rswWF r :=
  rswWF_of_holds (Props.C06.holds_of_inv hb) hl e

theorem rswWF_mkLevel (bits : List Bool) (hl : bits.length < 2 ^ 43) {r : RSW.RSWide}
    (e : RSW.mkLevel bits = .ok r) : Codec.rswWF r := by
  have h64 : bits.length < two64 := Nat.lt_trans hl (by decide)
  obtain ⟨b, hb, hh⟩ := Props.C06.holds_fromBools bits h64
  unfold RSW.mkLevel at e
  -- `BV.fromBools bits` is this loop, by definition
  have : (bits.foldlM (fun (b : BitVectorMut) x => BV.push b x) {} : M BitVector) = .ok b := hb
  rw [this, ok_bind] at e
  exact rswWF_of_holds hh hl e

theorem R_lt {s : List Bool} (hn : s.length < 2 ^ 64) (i : Nat) : R s i < 2 ^ 64 :=
  Nat.lt_of_le_of_lt (R_le_len s i) hn

theorem subOf_lt (s : List Bool) (q : Nat) : RSN.subOf s q < 2 ^ 64 :=
  Nat.lt_trans (RSN.subOf_fields s q).1 (by decide)

theorem rsnWF_of_inv {r : RSN.RSNarrow} {s : List Bool} (h : RSN.Inv r s) (hn : s.length < 2 ^ 64)
    (htail : ∀ q, nLines r.bv ≤ q → q ≤ RSN.sentN r.bv →
      r.blockRankPairs.getD (2 * q + 1) 0 < 2 ^ 64) : Codec.rsnWF r := by
  have hnl := h.holds.nLines_eq
  have hsn : RSN.sentN r.bv ≤ nLines r.bv + 1 := by unfold RSN.sentN; split <;> omega
  have hsz := h.brpSize
  refine ⟨bvWF_of_holds h.holds hn, by omega, all_of_pairs ?_ ?_, samplesWF_of_getD h.ssize ?_⟩
  · intro q hq
    rw [h.abs q (by omega)]
    exact R_lt hn _
  · intro q hq
    by_cases hl : q < nLines r.bv
    · rw [h.sub q hl]
      exact subOf_lt s q
    · exact htail q (by omega) (by omega)
  · intro bit
    obtain ⟨smp, hint, e, hh⟩ := h.samples bit
    rw [e]
    -- the only assumption on the period: `2 ≤ per` (the length may be anything below `2^64`,
    -- so the padded length alone is not known to fit in 64 bits)
    have hp : 2 ≤ RSN.per bit := by cases bit <;> decide
    have hC := C_le bit s (64 * (8 * nLines r.bv))
    have hd : C bit s (64 * (8 * nLines r.bv)) / RSN.per bit ≤ 64 * (8 * nLines r.bv) / 2 :=
      Nat.le_trans (Nat.div_le_div_left hp (by decide)) (Nat.div_le_div_right hC)
    exact hint_samples_wf hh _ (by omega) (by omega) (by omega)

theorem finalBrp_all {b : BitVector} {s : List Bool} (h : Holds b s) (hn : s.length < 2 ^ 64) :
    2 ≤ (RSN.finalBrp b (RSN.buildAll b)).size ∧
      ∀ x ∈ (RSN.finalBrp b (RSN.buildAll b)).toList, x < 2 ^ 64 := by
  have hv := RSN.BInv.fold h (8 * nLines b) (Nat.le_refl _)
  have hst : (List.range (8 * nLines b)).foldl
      (fun st k => RSN.buildWord st (k / 8) (k % 8) (b.data.getD k 0)) {} = RSN.buildAll b := rfl
  rw [hst] at hv
  generalize RSN.buildAll b = st at hv
  have e8 : 8 * nLines b / 8 = nLines b := Nat.mul_div_cancel_left _ (by decide)
  have e0 : 8 * nLines b % 8 = 0 := Nat.mul_mod_right 8 _
  have hcs : st.curSubrank = 0 := by
    rw [hv.curSubrank, e8, ← Nat.mul_assoc]; exact Nat.sub_self _
  have hsr : st.subranks = 0 := by rw [hv.subranks, e0]; rfl
  have hbs := hv.brpSize
  rw [e8] at hbs
  have hbrp : ∀ x ∈ st.brp.toList, x < 2 ^ 64 := all_of_pairs
    (fun q hq => by rw [hv.brpAbs q (by omega)]; exact R_lt hn _)
    (fun q hq => by rw [hv.brpSub q (by omega)]; exact subOf_lt s q)
  have hnr : st.nextRank < 2 ^ 64 := by rw [hv.nextRank]; exact R_lt hn _
  unfold RSN.finalBrp
  simp only [hcs, hsr, RSN.fold_zero]
  split
  · refine ⟨by simp only [Array.size_push]; omega, ?_⟩
    intro x hx
    simp only [Array.toList_push, List.mem_append, List.mem_singleton] at hx
    rcases hx with ((hx | rfl) | rfl) | rfl
    · exact hbrp x hx
    · decide
    · exact hnr
    · decide
  · refine ⟨by simp only [Array.size_push]; omega, ?_⟩
    intro x hx
    simp only [Array.toList_push, List.mem_append, List.mem_singleton] at hx
    rcases hx with hx | rfl
    · exact hbrp x hx
    · decide

theorem rsnWF_of_holds {b : BitVector} {s : List Bool} (hh : Holds b s) (hn : s.length < 2 ^ 64)
    {r : RSN.RSNarrow} (e : RSN.new b = .ok r) : Codec.rsnWF r := by
  have hinv := (of_exists_ok (RSN.new_inv hh) e).2
  obtain ⟨hsz, hall⟩ := finalBrp_all hh hn
  have hbrp : r.blockRankPairs = RSN.finalBrp b (RSN.buildAll b) := by
    cases (RSN.new_eq b (by omega)).symm.trans e; rfl
  refine rsnWF_of_inv hinv hn ?_
  intro q _ _
  rw [hbrp]
  exact Codec.getD_lt_of_all hall (by decide) _

theorem rsnWF_of_new {b : BitVector} (hb : BV.Inv b) (hn : b.nBits < 2 ^ 64)
    {r : RSN.RSNarrow} (e : RSN.new b = .ok r) : Codec.rsnWF r :=
  rsnWF_of_holds (Props.C06.holds_of_inv hb) (by rw [BV.abs_length]; exact hn) e

theorem pfsWF_of_new {qv : QV.QVector} (hq : QV.Inv qv) (hl : QV.len qv < 2 ^ 43)
    {p : PFS.PrefetchSupport} (e : PFS.new qv Extracted.pfsSampleShift = .ok p) : Codec.pfsWF p := by
  have hlen := QV.len_ok qv
  have hn : (QV.abs qv).length + 1 < two64 := by
    have : (2:Nat) ^ 43 + 1 < two64 := by decide
    omega
  obtain ⟨bv, r, hp, hr⟩ := PfsP.new_eq qv hq hn
  cases hp.symm.trans e
  refine ⟨⟨show (4 : Nat) < 2 ^ 64 by decide, all_of_getD default fun k hk => ?_⟩,
    show Extracted.pfsSampleShift < 2 ^ 64 by decide⟩
  have hk : k < 4 := hk
  obtain ⟨e1, _, hinv, hlk, _⟩ := hr k hk
  have hrk : (PfsP.mk4 r).getD k default = r k := by
    rcases PfsP.lt4 hk with rfl | rfl | rfl | rfl <;> rfl
  rw [hrk]
  refine rsnWF_of_new hinv ?_ e1
  rw [← BV.abs_length, hlk]
  have := PfsP.nbOf_le (QV.abs qv).length
  omega

end Qwt.Closure2
