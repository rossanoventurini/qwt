import Qwt.Proofs.QWT
import Qwt.Proofs.HQWMPart

/-!
The constructor `Huff.new` of the Huffman-shaped quad wavelet matrix: given the code table
produced by `craftWmCodes 4`, the level loop builds levels representing the list-level Huffman
quad matrix (under `LevelLaw`).
-/

namespace Qwt.HQWM
open Qwt Qwt.Huff
open Qwt.BinWM (code_lookup)
open Qwt.Props.C02 (PfsTotalH)

/-- the sequence carried by the level loop: the live elements by digit, then everything ended -/
def seqQ (δ : Nat → Nat → Nat) (len : Nat → Nat) : Nat → List Nat → List Nat
  | 0, S => S
  | k + 1, S =>
    (seqQ δ len k S).filter (fun x => decide (k + 1 < len x) && (δ k x == 0)) ++
    (seqQ δ len k S).filter (fun x => decide (k + 1 < len x) && (δ k x == 1)) ++
    (seqQ δ len k S).filter (fun x => decide (k + 1 < len x) && (δ k x == 2)) ++
    (seqQ δ len k S).filter (fun x => decide (k + 1 < len x) && (δ k x == 3)) ++
    (seqQ δ len k S).filter (fun x => decide (len x ≤ k + 1))

theorem seqQ_subset (δ : Nat → Nat → Nat) (len : Nat → Nat) (S : List Nat) (k : Nat) :
    ∀ x ∈ seqQ δ len k S, x ∈ S := by
  induction k with
  | zero => intro x hx; exact hx
  | succ k ih =>
    intro x hx
    simp only [seqQ, List.mem_append, List.mem_filter] at hx
    rcases hx with (((h | h) | h) | h) | h <;> exact ih x h.1

theorem seqQ_succ (δ : Nat → Nat → Nat) (len : Nat → Nat) (k : Nat) (S : List Nat) :
    seqQ δ len (k + 1) S =
      Spec.stablePart (δ k) 4 ((seqQ δ len k S).filter (fun x => decide (k + 1 < len x))) ++
        (seqQ δ len k S).filter (fun x => decide (len x ≤ k + 1)) := by
  have e : ∀ d, ((seqQ δ len k S).filter (fun x => decide (k + 1 < len x))).filter
        (fun x => δ k x == d) =
      (seqQ δ len k S).filter (fun x => decide (k + 1 < len x) && (δ k x == d)) := by
    intro d
    rw [List.filter_filter]
    congr 1
    funext x
    exact Bool.and_comm _ _
  rw [seqQ, Proofs.Word.stablePart4, e, e, e, e]

/-- the carried sequence is a permutation of `S` (counting form) -/
theorem seqQ_countP (δ : Nat → Nat → Nat) (len : Nat → Nat) (hδ : ∀ k x, δ k x < 4)
    (P : Nat → Bool) (S : List Nat) (k : Nat) : (seqQ δ len k S).countP P = S.countP P := by
  induction k with
  | zero => rfl
  | succ k ih =>
    rw [seqQ_succ, List.countP_append, WM.countP_stablePart_all _ _ _ _ (fun x _ => hδ k x), ← ih,
      List.countP_eq_countP_filter_add (seqQ δ len k S) P (fun x => decide (k + 1 < len x))]
    congr 3
    funext x
    simp only [← decide_not, Nat.not_lt]

theorem seqQ_length (δ : Nat → Nat → Nat) (len : Nat → Nat) (hδ : ∀ k x, δ k x < 4) (S : List Nat)
    (k : Nat) : (seqQ δ len k S).length = S.length := by
  rw [← List.countP_true, seqQ_countP δ len hδ, List.countP_true]

theorem seqQ_live (δ : Nat → Nat → Nat) (len : Nat → Nat) (S : List Nat)
    (hpos : ∀ x ∈ S, 0 < len x) (k : Nat) :
    (seqQ δ len k S).filter (fun x => decide (k < len x)) = lvlQ δ len k S := by
  induction k with
  | zero =>
    apply List.filter_eq_self.mpr
    intro x hx; simpa using hpos x hx
  | succ k ih =>
    have e1 : ((seqQ δ len k S).filter (fun x => decide (len x ≤ k + 1))).filter
        (fun x => decide (k + 1 < len x)) = [] := by
      rw [List.filter_filter]
      apply List.filter_eq_nil_iff.mpr
      intro x _; simp
    have e2 : ((seqQ δ len k S).filter (fun x => decide (k + 1 < len x))).filter
          (fun x => decide (k + 1 < len x)) =
        ((seqQ δ len k S).filter (fun x => decide (k < len x))).filter
          (fun x => decide (k + 1 < len x)) := by
      rw [List.filter_filter, List.filter_filter]
      apply List.filter_congr
      intro x _
      by_cases h : k + 1 < len x
      · simp [h, Nat.lt_of_succ_lt h]
      · simp [h]
    rw [lvlQ, ← ih, seqQ_succ, List.filter_append, e1, List.append_nil, WM.filter_stablePart,
      WM.filter_stablePart, e2]

theorem foldlM_filter_pushQ (q : Nat → Bool) (g : Nat → Nat)
    (body : QV.QVectorBuilder → Nat → M QV.QVectorBuilder) (l : List Nat)
    (hbody : ∀ b, ∀ s ∈ l, body b s = if q s then QV.push b (g s) else pure b)
    (init : QV.QVectorBuilder) :
    l.foldlM body init = ((l.filter q).map g).foldlM (fun b x => QV.push b x) init := by
  induction l generalizing init with
  | nil => rfl
  | cons s ss ih =>
    have ih' := ih (fun b s hs => hbody b s (by simp [hs]))
    rw [List.foldlM_cons, hbody init s (by simp)]
    cases hq : q s
    · simp only [Bool.false_eq_true, if_false, pure_bind', List.filter_cons, hq]
      exact ih' init
    · simp only [if_true, List.filter_cons, hq, List.map_cons, List.foldlM_cons]
      cases QV.push init (g s) with
      | error e => rfl
      | ok b => exact ih' b

theorem fromQV_qv {dbg : Bool} {B : Nat} {qv : QV.QVector} {r : RSQ.RSQVector}
    (h : RSQ.fromQV dbg B qv = .ok r) : r.qv = qv := by
  unfold RSQ.fromQV at h
  obtain ⟨rs, _, h⟩ := bind_ok_inv h
  obtain ⟨cnt, _, h⟩ := bind_ok_inv h
  cases h
  rfl

/-- the body of the digit-pushing loop of `levelStep` -/
def pushBody (codes : Array PrefixCode) (shift : Nat) (b : QV.QVectorBuilder) (s : Nat) :
    M QV.QVectorBuilder :=
  match codes[Utils.asUsize s]? with
  | none => throw Fault.unwrapNone
  | some code =>
    if code.len ≥ shift then QV.push b ((code.content >>> (code.len - shift)) &&& 3) else pure b

theorem levelStep_eq (c : Cfg) (codes : Array PrefixCode) (st : LevelSt) :
    levelStep c codes st = (do
      let qvb ← st.seq.foldlM (pushBody codes st.shift) {}
      let qv := QV.build qvb
      let pfs ← if c.pfs then do
          let p ← PFS.new qv Extracted.pfsSampleShift
          pure (st.pfs.push p)
        else pure st.pfs
      let rs ← RSQ.fromQV c.dbg c.B qv
      let seq ← partitionWithCodes 4 st.seq st.shift codes
      return { seq, shift := st.shift + 2, qvs := st.qvs.push rs,
               lens := st.lens.push (QV.len qv), pfs }) := rfl

theorem levelStepQ_ok (cfg : Cfg) (hLaw : LevelLaw cfg.dbg cfg.B) (hP : PfsTotalH cfg) (k : Nat)
    (codes : Array PrefixCode) (S : List Nat) (hS : S.length < 2 ^ 43)
    (hpos : ∀ x ∈ S, 0 < qlen codes x) (hin : ∀ s ∈ S, s < codes.size ∧ s < two64)
    (hev : ∀ s : Nat, 2 ∣ codes[s]!.len)
    (qvs : Array RSQ.RSQVector) (lens : Array Nat) (pfs : Array PFS.PrefetchSupport) :
    ∃ r pf, RSQ.Represents cfg.B r (digsQ (qdig codes) (qlen codes) k S) ∧
      (cfg.pfs = false → pf = pfs) ∧
      (cfg.pfs = true → ∃ qvb pp,
        (digsQ (qdig codes) (qlen codes) k S).foldlM
            (fun (b : QV.QVectorBuilder) d => QV.push b d) {} = .ok qvb ∧
          PFS.new (QV.build qvb) Extracted.pfsSampleShift = .ok pp ∧ pf = pfs.push pp) ∧
      levelStep cfg codes
          { seq := (seqQ (qdig codes) (qlen codes) k S).toArray, shift := 2 * (k + 1),
            qvs := qvs, lens := lens, pfs := pfs } =
        .ok { seq := (seqQ (qdig codes) (qlen codes) (k + 1) S).toArray, shift := 2 * (k + 1) + 2,
              qvs := qvs.push r,
              lens := lens.push (lvlQ (qdig codes) (qlen codes) k S).length, pfs := pf } := by
  have hdl : ∀ d ∈ digsQ (qdig codes) (qlen codes) k S, d < 4 := by
    intro d hd
    obtain ⟨x, _, rfl⟩ := List.mem_map.mp hd
    exact qdig_lt codes k x
  have hlen : (digsQ (qdig codes) (qlen codes) k S).length < 2 ^ Extracted.rsqLenLimitLog := by
    rw [digsQ, List.length_map]
    exact Nat.lt_of_le_of_lt (lvlQ_length_le _ _ _ _) (by simpa [Extracted.rsqLenLimitLog] using hS)
  obtain ⟨r, hmk, hrep⟩ := hLaw _ hdl hlen
  obtain ⟨qvb, hq, hfrom⟩ := QWTree.mkLevel_inv hmk
  have hsub := seqQ_subset (qdig codes) (qlen codes) S k
  have hin' : ∀ s ∈ seqQ (qdig codes) (qlen codes) k S, s < codes.size ∧ s < two64 :=
    fun s hs => hin s (hsub s hs)
  have hqlen : QV.len (QV.build qvb) = (lvlQ (qdig codes) (qlen codes) k S).length := by
    have h1 := fromQV_qv hfrom
    have h2 := hrep.len_eq
    rw [digsQ, List.length_map] at h2
    rw [← h2, RSQ.len, h1]
  have hfold : (seqQ (qdig codes) (qlen codes) k S).foldlM (pushBody codes (2 * (k + 1))) {}
      = .ok qvb := by
    rw [foldlM_filter_pushQ (fun x => decide (k < qlen codes x)) (qdig codes k) _ _ ?_ {}]
    · rw [seqQ_live _ _ _ hpos]
      exact hq
    · intro b s hs
      obtain ⟨h1, h2⟩ := hin' s hs
      unfold pushBody
      rw [(code_lookup h1 h2).1]
      simp only
      by_cases hk : k < qlen codes s
      · simp only [(lt_qlen_iff codes s k).mp hk, hk, if_true, decide_true, and3]
        rfl
      · simp [mt (lt_qlen_iff codes s k).mpr hk, hk]
  have hpart := partitionWithCodesQ_ok codes k _ hin' hev
  by_cases hp : cfg.pfs = true
  · obtain ⟨pp, hpp⟩ := hP hp _ hdl qvb hq
    refine ⟨r, pfs.push pp, hrep, (fun hf => by rw [hf] at hp; cases hp),
      fun _ => ⟨qvb, pp, hq, hpp, rfl⟩, ?_⟩
    rw [levelStep_eq]
    simp only [List.foldlM_toArray', hfold, ok_bind, hp, if_true, hpp, hfrom, hpart, hqlen,
      pure_bind']
    rfl
  · refine ⟨r, pfs, hrep, fun _ => rfl, fun h => absurd h hp, ?_⟩
    rw [levelStep_eq]
    simp only [List.foldlM_toArray', hfold, ok_bind, hp, if_false, hfrom, hpart, hqlen,
      pure_bind', Bool.false_eq_true]
    rfl

/-- a property of all entries survives a push when it holds of the new entry at the new index -/
theorem forall_getElem_push {α : Type} {P : Nat → α → Prop} {a : Array α} {x : α}
    (h : ∀ j (hj : j < a.size), P j a[j]) (hx : P a.size x) :
    ∀ j (hj : j < (a.push x).size), P j (a.push x)[j] := by
  intro j hj
  rw [Array.getElem_push]
  split
  · exact h j _
  · next hlt =>
    obtain rfl : j = a.size := by rw [Array.size_push] at hj; omega
    exact hx

theorem levels_loopQ (cfg : Cfg) (hLaw : LevelLaw cfg.dbg cfg.B) (hP : PfsTotalH cfg)
    (codes : Array PrefixCode) (S : List Nat) (hS : S.length < 2 ^ 43)
    (hpos : ∀ x ∈ S, 0 < qlen codes x) (hin : ∀ s ∈ S, s < codes.size ∧ s < two64)
    (hev : ∀ s : Nat, 2 ∣ codes[s]!.len) (k : Nat) :
    ∃ qvs lens pfs,
      (List.range k).foldlM (fun st _ => levelStep cfg codes st)
          ({ seq := S.toArray, shift := 2 } : LevelSt) =
        .ok { seq := (seqQ (qdig codes) (qlen codes) k S).toArray, shift := 2 * (k + 1),
              qvs := qvs, lens := lens, pfs := pfs } ∧
      qvs.size = k ∧ lens.size = k ∧
      (∀ j (h : j < qvs.size), RSQ.Represents cfg.B qvs[j] (digsQ (qdig codes) (qlen codes) j S)) ∧
      (∀ j (h : j < lens.size), lens[j] = (lvlQ (qdig codes) (qlen codes) j S).length) ∧
      (cfg.pfs = false → pfs = #[]) ∧
      (cfg.pfs = true → pfs.size = k ∧ ∀ j (h : j < pfs.size), ∃ qvb,
        (digsQ (qdig codes) (qlen codes) j S).foldlM
            (fun (b : QV.QVectorBuilder) d => QV.push b d) {} = .ok qvb ∧
          PFS.new (QV.build qvb) Extracted.pfsSampleShift = .ok pfs[j]) := by
  induction k with
  | zero =>
    exact ⟨#[], #[], #[], rfl, rfl, rfl, fun j h => absurd h (Nat.not_lt_zero j),
      fun j h => absurd h (Nat.not_lt_zero j), fun _ => rfl,
      fun _ => ⟨rfl, fun j h => absurd h (Nat.not_lt_zero j)⟩⟩
  | succ k ih =>
    obtain ⟨qvs, lens, pfs, hfold, hqs, hls, hrs, hlens, hnone, hsome⟩ := ih
    obtain ⟨r, pf, hrep, hpf, hpt, hstep⟩ :=
      levelStepQ_ok cfg hLaw hP k codes S hS hpos hin hev qvs lens pfs
    refine ⟨qvs.push r, lens.push (lvlQ (qdig codes) (qlen codes) k S).length, pf, ?_,
      by rw [Array.size_push, hqs],
      by rw [Array.size_push, hls],
      forall_getElem_push
        (P := fun j r => RSQ.Represents cfg.B r (digsQ (qdig codes) (qlen codes) j S)) hrs
        (by rw [hqs]; exact hrep),
      forall_getElem_push (P := fun j n => n = (lvlQ (qdig codes) (qlen codes) j S).length) hlens
        (by rw [hls]),
      fun hf => (hpf hf).trans (hnone hf), ?_⟩
    · rw [List.range_succ, List.foldlM_append, hfold, ok_bind]
      simp only [List.foldlM_cons, List.foldlM_nil, hstep]
      rfl
    · intro ht
      obtain ⟨qvb, pp, hq, hpp, rfl⟩ := hpt ht
      obtain ⟨hs, hall⟩ := hsome ht
      exact ⟨by rw [Array.size_push, hs],
        forall_getElem_push
          (P := fun j p => ∃ qvb, (digsQ (qdig codes) (qlen codes) j S).foldlM
            (fun (b : QV.QVectorBuilder) d => QV.push b d) {} = .ok qvb ∧
              PFS.new (QV.build qvb) Extracted.pfsSampleShift = .ok p)
          hall (by rw [hs]; exact ⟨qvb, hq, hpp⟩)⟩

end Qwt.HQWM
