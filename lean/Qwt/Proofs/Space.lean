import Qwt.Model.Space

/-! Arithmetic of the space model (C14, C16).  Everything here is about `Space.*`, i.e. about
the buffer sizes the model's construction requests and the transcription of the crate's
hand-written `space_usage_byte` sums; the run-time comparison `space` ties both numbers to
the real crate (exact equality per generated case). -/
namespace Qwt.Space
open Qwt

theorem foldl_add_eq (l : List α) (f : α → Nat) (a : Nat) :
    l.foldl (fun acc x => acc + f x) a = a + (l.map f).sum := by
  induction l generalizing a with
  | nil => simp
  | cons x xs ih => simp [List.foldl, ih, Nat.add_assoc]

theorem foldl_plus_eq (l : List Nat) (a : Nat) : l.foldl (· + ·) a = a + l.sum := by
  induction l generalizing a with
  | nil => simp
  | cons x xs ih => simp [List.foldl, ih, Nat.add_assoc]

theorem array_foldl_add_eq (arr : Array α) (f : α → Nat) (a : Nat) :
    arr.foldl (fun acc x => acc + f x) a = a + (arr.toList.map f).sum := by
  rw [← Array.foldl_toList]; exact foldl_add_eq _ _ _

theorem eta_size : (fun x : Array Nat => x.size) = Array.size := rfl

theorem sum_box (l : List (Array Nat)) (k : Nat) :
    (l.map (fun s => boxUsage s.size k)).sum = 16 * l.length + k * (l.map Array.size).sum := by
  induction l with
  | nil => simp
  | cons x xs ih =>
    simp only [List.map_cons, List.sum_cons, List.length_cons, ih]
    simp only [boxUsage]
    rw [Nat.mul_add, Nat.mul_add, Nat.mul_comm x.size k]
    omega

theorem qv_usage (q : QV.QVector) : (qv q).usage = (qv q).heap + (qv q).self_ := by
  simp only [qv, boxUsage]; omega

theorem samples_usage (a : Array (Array Nat)) (k : Nat) :
    a.foldl (fun s x => s + boxUsage x.size k) 0 = 16 * a.size + k * a.foldl (fun s x => s + x.size) 0 := by
  rw [array_foldl_add_eq, array_foldl_add_eq, Nat.zero_add, Nat.zero_add, sum_box, Array.length_toList]

theorem rsSupport_usage (rs : RSQ.RSSupportPlain) (h4 : rs.selectSamples.size = 4) :
    (rsSupport rs).usage = (rsSupport rs).heap + (rsSupport rs).self_ := by
  simp only [rsSupport, samples_usage]
  simp only [boxUsage, h4]
  omega

theorem rsq_usage (r : RSQ.RSQVector) (h4 : r.rs.selectSamples.size = 4) :
    (rsq r).usage = (rsq r).heap + (rsq r).self_ := by
  have a : (qv r.qv).usage = (qv r.qv).heap + 24 := qv_usage r.qv
  have b : (rsSupport r.rs).usage = (rsSupport r.rs).heap + 80 := rsSupport_usage r.rs h4
  simp only [rsq]
  omega

theorem bv_usage (b : BV.BitVector) : (bv b).usage = (bv b).heap + (bv b).self_ := by
  simp only [bv, boxUsage]; omega

theorem rsn_usage (r : RSN.RSNarrow) (h2 : r.selectSamples.size = 2) :
    (rsn r).usage = (rsn r).heap + (rsn r).self_ := by
  have hb : (bv r.bv).usage = (bv r.bv).heap + 32 := bv_usage r.bv
  simp only [rsn, samples_usage]
  simp only [boxUsage, h2]
  omega

/-- `RSWide` does not count its `n_zeros` field: 8 bytes short -/
theorem rsw_usage (r : RSW.RSWide) (h2 : r.selectSamples.size = 2) :
    (rsw r).usage + 8 = (rsw r).heap + (rsw r).self_ := by
  have hb : (bv r.bv).usage = (bv r.bv).heap + 32 := bv_usage r.bv
  simp only [rsw, samples_usage]
  simp only [boxUsage, h2]
  omega

theorem inv_usage (i : DA.Inventories) : (inv i).usage = (inv i).heap + (inv i).self_ := by
  simp only [inv, boxUsage]; omega

theorem sum_usage {α : Type} (f : α → Sp) (c d : Nat) (l : List α)
    (h : ∀ r ∈ l, (f r).usage + d = (f r).heap + c) :
    ((l.map f).map (·.usage)).sum + d * l.length = ((l.map f).map (·.heap)).sum + c * l.length := by
  induction l with
  | nil => rfl
  | cons x xs ih =>
    have hx := h x (by simp)
    have ih' := ih (fun y hy => h y (by simp [hy]))
    simp only [List.map_cons, List.sum_cons, List.length_cons, Nat.mul_add, Nat.mul_one]
    omega

theorem rsq_heap (r : RSQ.RSQVector) :
    (rsq r).heap = 64 * (r.qv.data.size / 4) + 64 * (r.rs.superblocks.size / 4)
      + 4 * (r.rs.selectSamples.toList.map Array.size).sum := by
  simp only [rsq, qv, rsSupport, array_foldl_add_eq, Nat.zero_add, Nat.add_assoc]

theorem rsw_heap (r : RSW.RSWide) :
    (rsw r).heap = 64 * (r.bv.data.size / 8) + 16 * r.superblockMetadata.size
      + 8 * (r.selectSamples.toList.map Array.size).sum := by
  simp only [rsw, bv, array_foldl_add_eq, Nat.zero_add]

theorem rsn_heap (r : RSN.RSNarrow) :
    (rsn r).heap = 64 * (r.bv.data.size / 8) + 8 * r.blockRankPairs.size
      + 8 * (r.selectSamples.toList.map Array.size).sum := by
  simp only [rsn, bv, array_foldl_add_eq, Nat.zero_add]

theorem pfs_heap (p : PFS.PrefetchSupport) :
    (pfs p).heap = 80 * p.samples.size + ((p.samples.toList.map rsn).map (·.heap)).sum := by
  simp only [pfs, foldl_plus_eq, Nat.zero_add]

theorem pfsOpt_heap (L : Nat) (a : Array PFS.PrefetchSupport) :
    (pfsOpt L (some a)).heap = 32 * L + ((a.toList.map pfs).map (·.heap)).sum := by
  simp only [pfsOpt, foldl_plus_eq, Nat.zero_add]

theorem qwt_heap (t : QWTree.QWT) :
    (qwt t).heap = 144 * t.qvs.size + ((t.qvs.toList.map rsq).map (·.heap)).sum
      + (pfsOpt t.nLevels t.pfs).heap := by
  simp only [qwt, foldl_plus_eq, Nat.zero_add]

theorem wt_heap (t : BinWT.WT) :
    (wt false t).heap = 88 * t.bvs.size + 8 * t.lens.size + ((t.bvs.toList.map rsw).map (·.heap)).sum := by
  simp only [wt, foldl_plus_eq, Nat.zero_add]

theorem pfs_usage (p : PFS.PrefetchSupport) :
    (pfs p).usage = ((p.samples.toList.map rsn).map (·.usage)).sum := by
  simp only [pfs, foldl_plus_eq, Nat.zero_add]

theorem pfsOpt_usage (L : Nat) (a : Array PFS.PrefetchSupport) :
    (pfsOpt L (some a)).usage = ((a.toList.map pfs).map (·.usage)).sum := by
  simp only [pfsOpt, foldl_plus_eq, Nat.zero_add]

theorem qwt_usage (t : QWTree.QWT) :
    (qwt t).usage = 16 + ((t.qvs.toList.map rsq).map (·.usage)).sum + (pfsOpt t.nLevels t.pfs).usage := by
  simp only [qwt, foldl_plus_eq, Nat.zero_add]

theorem wt_usage (t : BinWT.WT) :
    (wt false t).usage = 16 + t.lens.size * 8 + ((t.bvs.toList.map rsw).map (·.usage)).sum := by
  simp only [wt, foldl_plus_eq, Nat.zero_add, Bool.false_eq_true, if_false, Nat.add_zero]

theorem hqwtW_heap (w : Nat) (t : Huff.HQWT) :
    (hqwtW w t).heap = 144 * t.qvs.size + ((t.qvs.toList.map rsq).map (·.heap)).sum
      + (pfsOpt t.nLevels t.pfs).heap + tablesHeap w t.codesEncode t.codesDecode + 8 * t.lens.size := by
  simp only [hqwtW, foldl_plus_eq, Nat.zero_add]

theorem hqwtW_usage (w : Nat) (t : Huff.HQWT) :
    (hqwtW w t).usage = 16 + 2048 + t.codesDecode.foldl (fun a v => a + v.size * 5) 0 + 8 * t.lens.size
      + ((t.qvs.toList.map rsq).map (·.usage)).sum + (pfsOpt t.nLevels t.pfs).usage := by
  simp only [hqwtW, foldl_plus_eq, Nat.zero_add, Nat.mul_comm t.lens.size 8]

theorem wtW_heap (w : Nat) (t : BinWT.WT) (e : Array Huff.PrefixCode) (d : Array (Array (Nat × Nat)))
    (he : t.codesEncode = some e) (hd : t.codesDecode = some d) :
    (wtW w true t).heap = 88 * t.bvs.size + 8 * t.lens.size + ((t.bvs.toList.map rsw).map (·.heap)).sum
      + tablesHeap w e d := by
  simp only [wtW, he, hd, foldl_plus_eq, Nat.zero_add]

theorem wtW_usage (w : Nat) (t : BinWT.WT) (d : Array (Array (Nat × Nat))) (hd : t.codesDecode = some d) :
    (wtW w true t).usage = 16 + (2048 + d.size * 5) + t.lens.size * 8
      + ((t.bvs.toList.map rsw).map (·.usage)).sum := by
  simp only [wtW, hd, foldl_plus_eq, Nat.zero_add, if_true]

/-! ### space of one level as a function of its length (C14), in bits scaled by 100
(`800·bytes = 100·bits`, `1600 = 200·8`, `512 = 64·8`)

The bounds are stated on the three buffer sizes, so that every form of the size facts (the
structures below, and those of `Qwt/Proofs/SpaceSizes.lean` with the extracted sampling
periods) is an instance. -/

/-- sizes of the buffers of a rank/select quad vector over `n` symbols with block size `B` -/
structure RSQSize (B n : Nat) (r : RSQ.RSQVector) : Prop where
  lines : r.qv.data.size = 4 * ((n + 255) / 256)
  sbs : r.rs.superblocks.size = 4 * (n / (8 * B) + 1)
  samples : (r.rs.selectSamples.toList.map Array.size).sum ≤ n / 8192 + 8

theorem rsq_heap_le {B n m : Nat} {r : RSQ.RSQVector} (hl : r.qv.data.size = 4 * ((n + 255) / 256))
    (hs : r.rs.superblocks.size = 4 * (n / (8 * B) + 1))
    (hm : (r.rs.selectSamples.toList.map Array.size).sum ≤ m) :
    (rsq r).heap ≤ 64 * ((n + 255) / 256) + 64 * (n / (8 * B) + 1) + 4 * m := by
  rw [rsq_heap, hl, hs, Nat.mul_div_cancel_left _ (by decide), Nat.mul_div_cancel_left _ (by decide)]
  exact Nat.add_le_add_left (Nat.mul_le_mul_left 4 hm) _

/-- bits per level, block size 256: `2n·(1 + 1/8 + 1/100)` plus a constant, for every sampling
    period `≥ 4096` -/
theorem level_bits_256 {n : Nat} {r : RSQ.RSQVector} (hl : r.qv.data.size = 4 * ((n + 255) / 256))
    (hs : r.rs.superblocks.size = 4 * (n / (8 * 256) + 1))
    (hm : (r.rs.selectSamples.toList.map Array.size).sum ≤ n / 4096 + 8) :
    800 * ((rsq r).heap + (rsq r).self_) ≤ 227 * n + 260000 := by
  have := rsq_heap_le hl hs hm
  rw [show (rsq r).self_ = 144 from rfl]
  omega

/-- bits per level, block size 512: `2n·(1 + 1/16 + 1/100)` plus a constant (`428`: one `n` to
    spare below the `429` of C14) -/
theorem level_bits_512 {n : Nat} {r : RSQ.RSQVector} (hl : r.qv.data.size = 4 * ((n + 255) / 256))
    (hs : r.rs.superblocks.size = 4 * (n / (8 * 512) + 1))
    (hm : (r.rs.selectSamples.toList.map Array.size).sum ≤ n / 4096 + 8) :
    1600 * ((rsq r).heap + (rsq r).self_) ≤ 428 * n + 520000 := by
  have := rsq_heap_le hl hs hm
  rw [show (rsq r).self_ = 144 from rfl]
  omega

/-- sizes of the buffers of `RSWide` over `n` bits.  `samples` is one entry too tight on a padded
    last line (`Props.C14.rsw_sizes_false`); `SpaceSizes.RSWSize'` is what `RSWide::new` establishes -/
structure RSWSize (n : Nat) (r : RSW.RSWide) : Prop where
  lines : r.bv.data.size = 8 * ((n + 511) / 512)
  sm : r.superblockMetadata.size = (n + 4095) / 4096 + 1
  samples : (r.selectSamples.toList.map Array.size).sum ≤ n / 8192 + n / 8192 + 4

/-- bits per level of the binary tree: `n·(1 + 1/32 + 1/64)` plus a constant, for every hint
    period `≥ 4096` -/
theorem rsw_bits {n : Nat} {r : RSW.RSWide} (hl : r.bv.data.size = 8 * ((n + 511) / 512))
    (hs : r.superblockMetadata.size = (n + 4095) / 4096 + 1)
    (hm : (r.selectSamples.toList.map Array.size).sum ≤ n / 4096 + 5) :
    512 * ((rsw r).heap + (rsw r).self_) ≤ 67 * n + 384000 := by
  rw [rsw_heap, hl, hs, Nat.mul_div_cancel_left _ (by decide), show (rsw r).self_ = 88 from rfl]
  omega

end Qwt.Space
