import Qwt.Model.Huff
import Qwt.Proofs.PfsApprox

/-!
Estimation phase 1 of `rank_prefetch` on the Huffman-shaped quad wavelet tree
(`src/quadwt/huffqwt.rs`, model `Qwt.Huff.pfsPhase1`).

The levels of the Huffman tree have different lengths, so the simple bound of the plain tree
(`estimate ≤ n`) is not available.  The invariant:

  `estimate at level k ≤ true position at level k + k`

(`approx_rank(tb, p) ≤ rank(tb, p) + 1`: one element is lost per level), together with
`true position ≤ level length` and the arithmetic fact `p ≤ ℓ + rate - 2 → ⌊p/rate⌋ + 1 ≤ nb ℓ`
(`PfsP.est_in_range`; `rate = 2 ^ pfsSampleShift`).

The tree invariant is taken as an explicit hypothesis (`D k`: digit list of level `k`,
`T k`: the true position of the walk at level `k`), in a form that the HQWT level invariant
(`HQWM.walkHyp`: `T k = blkStartQ k + cntP k i`) instantiates.
-/
namespace Qwt.Huff
open Qwt Qwt.PfsP

/-- the two-bit fragment phase 1/2 of `rank_prefetch` extract at level `k` -/
def tbAt (code : PrefixCode) (k : Nat) : Nat :=
  ((code.content >>> (code.len - 2 * (k + 1))) % 256) &&& 3

theorem tbAt_lt (code : PrefixCode) (k : Nat) : tbAt code k < 4 := by
  unfold tbAt
  rw [Nat.and_two_pow_sub_one_eq_mod _ 2]
  exact Nat.mod_lt _ (by decide)

/-- the hypotheses on the tree, for the walk of one code: `D k` is the digit list of level `k`,
    `T k` the true position of the walk at level `k` (`step` asks for `≤` only: the estimates are
    compared with `T` from below) -/
structure WalkHyp (c : Cfg) (t : HQWT) (code : PrefixCode) (pfs : Array PFS.PrefetchSupport)
    (D : Nat → List Nat) (T : Nat → Nat) : Prop where
  levels_le : code.len / 2 ≤ rate
  qvs : ∀ k, k < code.len / 2 → ∃ r, t.qvs[k]? = some r ∧ RSQ.Represents c.B r (D k)
  pfs : ∀ k, k + 1 < code.len / 2 → ∃ p, pfs[k]? = some p ∧ PfsRep (D k) p
  nonempty : ∀ k, k + 1 < code.len / 2 → 0 < (D k).length
  inside : ∀ k, k + 1 < code.len / 2 → T k ≤ (D k).length
  step : ∀ k, k + 1 < code.len / 2 →
    Spec.rank (tbAt code k) (T k) (D k) + Spec.occsSmaller id (tbAt code k) (D k) ≤ T (k + 1)

theorem shift_step {m k len : Nat} (hm : m + 2 * (k + 1) = len) (h2 : 2 ≤ m) :
    k + 1 < len / 2 ∧ m - 2 + 2 * (k + 1 + 1) = len := by
  have hm' : m - 2 + 2 * (k + 1 + 1) = len := by
    rw [Nat.mul_succ, ← Nat.add_assoc, Nat.add_right_comm, Nat.sub_add_cancel h2]; exact hm
  refine ⟨(Nat.le_div_iff_mul_le Nat.two_pos).mpr ?_, hm'⟩
  rw [Nat.mul_comm, ← hm']; exact Nat.le_add_left _ _

/-- the loop of phase 1: at level `k` the shift is `m = code.len - 2 (k + 1)`, the estimates are at most
    `k` beyond the true position -/
theorem phase1_go_ok {c : Cfg} {t : HQWT} {code : PrefixCode} {pfs : Array PFS.PrefetchSupport}
    {D : Nat → List Nat} {T : Nat → Nat} (h : WalkHyp c t code pfs D T) :
    ∀ (f k m s e : Nat), m + 2 * (k + 1) = code.len → s ≤ e → e ≤ T k + k →
      ∃ s' e', pfsPhase1.go c t code pfs f k (m : Int) s e = .ok (s', e') ∧ s' ≤ e' := by
  intro f
  induction f with
  | zero => intro k m s e _ hse _; exact ⟨s, e, rfl, hse⟩
  | succ f ih =>
    intro k m s e hm hse he
    rw [pfsPhase1.go]
    by_cases h2 : 2 ≤ m
    · obtain ⟨hk, hm'⟩ := shift_step hm h2
      obtain ⟨r, hr, hR⟩ := h.qvs k (Nat.lt_of_succ_lt hk)
      obtain ⟨r', hr', _⟩ := h.qvs (k + 1) hk
      obtain ⟨p, hp, hP⟩ := h.pfs k hk
      have hkk : k + 2 ≤ rate := Nat.le_trans hk h.levels_le
      have he_in := est_in_range (h.nonempty k hk) (h.inside k hk) he hkk
      have hs_in := est_in_range (h.nonempty k hk) (h.inside k hk) (Nat.le_trans hse he) hkk
      have etb : ((code.content >>> m) % 256) &&& 3 = tbAt code k := by
        rw [Nat.eq_sub_of_add_eq hm]; rfl
      rw [if_pos (show (m : Int) ≥ 2 from Int.ofNat_le.mpr h2), Int.toNat_natCast]
      dsimp only
      rw [etb, pfsPhase1_level hr hR hr' hp hP (tbAt_lt code k) hs_in he_in]
      -- one more element of drift: `approx e ≤ rank (T k) + (k + 1)`, and `rank (T k) + offset ≤ T (k + 1)`
      have b1 := Nat.add_le_add_right (approxSpec_le_track (D k) (tbAt code k) he)
        (Spec.occsSmaller id (tbAt code k) (D k))
      rw [Nat.add_right_comm] at b1
      have := ih (k + 1) (m - 2) _ _ hm'
        (Nat.add_le_add_right (approxSpec_mono (D k) (tbAt code k) hse) _)
        (Nat.le_trans b1 (Nat.add_le_add_right (h.step k hk) _))
      rw [Int.ofNat_sub h2] at this
      exact this
    · rw [if_neg (fun h : (m : Int) ≥ 2 => h2 (Int.ofNat_le.mp h))]
      exact ⟨s, e, rfl, hse⟩

/-- given the level invariant `WalkHyp`, estimation phase 1 of `rank_prefetch` on the
    Huffman-shaped tree does not fault -/
theorem pfsPhase1_of_walk {c : Cfg} {t : HQWT} {code : PrefixCode}
    {pfs : Array PFS.PrefetchSupport} {D : Nat → List Nat} {T : Nat → Nat}
    (hpfs : t.pfs = some pfs) (h : WalkHyp c t code pfs D T) (hlen : 2 ≤ code.len) (i : Nat)
    (hi : i ≤ T 0) : pfsPhase1 c t code i = .ok () := by
  obtain ⟨r, hr, _⟩ := h.qvs 0 (Nat.div_pos hlen (by decide))
  obtain ⟨s', e', hgo, hle⟩ := phase1_go_ok h (code.len / 2 + 1) 0 (code.len - 2) 0 i
    (Nat.sub_add_cancel hlen) (Nat.zero_le _) hi
  -- the model starts the loop at the integer `code.len - 2`
  have hgo' : pfsPhase1.go c t code pfs (code.len / 2 + 1) 0 (Int.ofNat code.len - 2) 0 i =
      .ok (s', e') := Int.ofNat_sub hlen ▸ hgo
  unfold pfsPhase1
  cases hc : c.pfs
  · rfl
  · simp only [Bool.not_true, Bool.false_eq_true, if_false, hpfs, idx_of_some hr, ok_bind, hgo',
      sub_ok hle]
    rfl

end Qwt.Huff
