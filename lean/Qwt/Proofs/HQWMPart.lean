import Qwt.Proofs.WordPart
import Qwt.Proofs.HQWMSim

/-!
`Huff.partitionWithCodes D` (`stable_partition_of_{2,4}_with_codes`) is the stable partition by
bucket — the digit of the code at the shift, bucket `D` once the code has ended — for every
number of buckets; the quad case with its five buckets named.
-/
namespace Qwt.HQWM
open Qwt Qwt.Huff
open Qwt.BinWM (code_lookup)

theorem lt_qlen_iff (codes : Array PrefixCode) (a k : Nat) :
    k < qlen codes a ↔ codes[a]!.len ≥ 2 * (k + 1) := by
  unfold qlen; omega

theorem len_le_iff {codes : Array PrefixCode} {a : Nat} (hev : 2 ∣ codes[a]!.len) (k : Nat) :
    codes[a]!.len ≤ 2 * (k + 1) ↔ qlen codes a ≤ k + 1 := by
  unfold qlen; omega

/-- the bucket `partitionWithCodes D` puts `a` in: its digit at the shift, `D` once its code has
    ended -/
def bucketOf (D : Nat) (codes : Array PrefixCode) (shift a : Nat) : Nat :=
  if codes[a]!.len ≤ shift then D
  else (codes[a]!.content >>> (codes[a]!.len - shift)) &&& (D - 1)

/-- the body of the loop of `partitionWithCodes` -/
def partStep (D shift : Nat) (codes : Array PrefixCode) (b : Array (Array Nat)) (a : Nat) :
    M (Array (Array Nat)) := do
  let code ← idx codes (Utils.asUsize a)
  if code.len ≤ shift then pure (b.modify D (·.push a))
  else
    let d := (code.content >>> (code.len - shift)) &&& (D - 1)
    pure (b.modify d (·.push a))

theorem part_fold (D shift : Nat) (codes : Array PrefixCode) (l : List Nat)
    (hl : ∀ s ∈ l, s < codes.size ∧ s < two64) (bs : Array (Array Nat)) :
    l.foldlM (partStep D shift codes) bs =
      .ok (bs.mapIdx fun j b =>
        b ++ (l.filter (fun a => bucketOf D codes shift a == j)).toArray) := by
  induction l generalizing bs with
  | nil =>
    refine congrArg Except.ok (Array.ext (by simp) (fun j h1 h2 => by simp))
  | cons a as ih =>
    obtain ⟨ha1, ha2⟩ := hl a (by simp)
    have hstep : partStep D shift codes bs a =
        .ok (bs.modify (bucketOf D codes shift a) (·.push a)) := by
      unfold partStep bucketOf
      rw [(code_lookup ha1 ha2).2, ok_bind]
      split <;> rfl
    rw [List.foldlM_cons, hstep, ok_bind, ih (fun s hs => hl s (by simp [hs]))]
    refine congrArg Except.ok (Array.ext (by simp) (fun j h1 h2 => ?_))
    rw [Array.getElem_mapIdx, Array.getElem_mapIdx, Array.getElem_modify, List.filter_cons]
    by_cases hj : bucketOf D codes shift a = j
    · simp [hj]
    · simp [hj]

theorem foldl_append_toArray (G : Nat → List Nat) (L : List Nat) (acc : Array Nat) :
    (L.map fun j => (G j).toArray).foldl (· ++ ·) acc = acc ++ (L.flatMap G).toArray := by
  induction L generalizing acc with
  | nil => simp
  | cons j L ih => simp [ih, Array.append_assoc]

/-- `stable_partition_of_D_with_codes` is the stable partition by bucket -/
theorem partitionWithCodes_eq (D shift : Nat) (codes : Array PrefixCode) (l : List Nat)
    (hl : ∀ s ∈ l, s < codes.size ∧ s < two64) :
    Huff.partitionWithCodes D l.toArray shift codes =
      .ok (Spec.stablePart (bucketOf D codes shift) (D + 1) l).toArray := by
  show (do let b ← l.toArray.foldlM (partStep D shift codes) (Array.replicate (D + 1) #[])
           pure (b.foldl (· ++ ·) #[])) = _
  rw [List.foldlM_toArray' _ _ _ rfl, part_fold D shift codes l hl, ok_bind]
  refine congrArg Except.ok ?_
  have e : ((Array.replicate (D + 1) (#[] : Array Nat)).mapIdx fun j b =>
        b ++ (l.filter (fun a => bucketOf D codes shift a == j)).toArray).toList =
      (List.range (D + 1)).map fun j =>
        (l.filter (fun a => bucketOf D codes shift a == j)).toArray := by
    apply List.ext_getElem
    · simp
    · intro j h1 h2; simp
  rw [← Array.foldl_toList, e, foldl_append_toArray, Spec.stablePart]
  simp

theorem bucketOf_four {codes : Array PrefixCode} {x : Nat} (hev : 2 ∣ codes[x]!.len) (k : Nat) :
    bucketOf 4 codes (2 * (k + 1)) x = if qlen codes x ≤ k + 1 then 4 else qdig codes k x := by
  unfold bucketOf
  by_cases h : codes[x]!.len ≤ 2 * (k + 1)
  · rw [if_pos h, if_pos ((len_le_iff hev k).mp h)]
  · rw [if_neg h, if_neg (fun h' => h ((len_le_iff hev k).mpr h')), show (4 - 1 : Nat) = 3 from rfl,
      and3]
    rfl

theorem partitionWithCodesQ_ok (codes : Array PrefixCode) (k : Nat) (l : List Nat)
    (hl : ∀ s ∈ l, s < codes.size ∧ s < two64) (hev : ∀ s : Nat, 2 ∣ codes[s]!.len) :
    Huff.partitionWithCodes 4 l.toArray (2 * (k + 1)) codes =
      .ok ((l.filter (fun x => decide (k + 1 < qlen codes x) && (qdig codes k x == 0))) ++
           (l.filter (fun x => decide (k + 1 < qlen codes x) && (qdig codes k x == 1))) ++
           (l.filter (fun x => decide (k + 1 < qlen codes x) && (qdig codes k x == 2))) ++
           (l.filter (fun x => decide (k + 1 < qlen codes x) && (qdig codes k x == 3))) ++
           (l.filter (fun x => decide (qlen codes x ≤ k + 1)))).toArray := by
  have hd : ∀ d, d < 4 → l.filter (fun x => bucketOf 4 codes (2 * (k + 1)) x == d) =
      l.filter (fun x => decide (k + 1 < qlen codes x) && (qdig codes k x == d)) := by
    intro d hd
    apply List.filter_congr
    intro x _
    rw [bucketOf_four (hev x)]
    by_cases h : qlen codes x ≤ k + 1
    · simp [h, Nat.not_lt.mpr h, Nat.ne_of_gt hd]
    · simp [h, Nat.lt_of_not_le h]
  have he : l.filter (fun x => bucketOf 4 codes (2 * (k + 1)) x == 4) =
      l.filter (fun x => decide (qlen codes x ≤ k + 1)) := by
    apply List.filter_congr
    intro x _
    rw [bucketOf_four (hev x)]
    by_cases h : qlen codes x ≤ k + 1
    · simp [h]
    · simp [h, Nat.ne_of_lt (qdig_lt codes k x)]
  rw [partitionWithCodes_eq 4 _ codes l hl, WM.stablePart_succ, Proofs.Word.stablePart4,
    hd 0 (by decide), hd 1 (by decide), hd 2 (by decide), hd 3 (by decide), he]

end Qwt.HQWM
