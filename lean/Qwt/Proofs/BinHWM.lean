import Qwt.Proofs.BinWMSelect

/-!
Pure list-level Huffman-shaped binary wavelet matrix (property C03, `compressed = true`):
an element with a code of `len x` bits takes part in levels `0 … len x − 1` only.  Level `k`
stores the bits `β k` of the *live* elements (`k < len x`); the next level is the stable
partition of the live elements with the ended ones removed.  The validity condition `HOK`
(what `WMValid` gives): every element has a non-empty code, the table is prefix-free, and in
every partitioned level the continuing elements precede the ending ones.

The plain matrix is the case where all codes have one length (`lvlH_const`, `hok_const`);
there a key outside `S` can be looked up as well: `Findable`.  In order: the block of a key and
the rank walk (`blkH`, `walkPos_eq`), the upward pass of `select` (`selUp_spec`), following an
element down to the level where its code ends (`track_get`, `track_end`).
-/

namespace Qwt.BinWM
open Qwt

variable {α : Type}

/-- the live elements of level `k` -/
def lvlH (β : Nat → α → Bool) (len : α → Nat) : Nat → List α → List α
  | 0, S => S
  | k + 1, S => (part (β k) (lvlH β len k S)).filter (fun x => decide (k + 1 < len x))

/-- the bit list of level `k` -/
def bitsH (β : Nat → α → Bool) (len : α → Nat) (k : Nat) (S : List α) : List Bool :=
  (lvlH β len k S).map (β k)

/-- validity of the code assignment for the sequence `S` -/
structure HOK (β : Nat → α → Bool) (len : α → Nat) (S : List α) : Prop where
  pos : ∀ x ∈ S, 0 < len x
  /-- prefix-free -/
  pf : ∀ x ∈ S, ∀ y ∈ S, len x ≤ len y → (∀ j, j < len x → β j x = β j y) → x = y
  /-- matrix order: after the partition of level `k` the continuing elements come first -/
  pre : ∀ k, (part (β k) (lvlH β len k S)).Pairwise
    (fun a b => k + 1 < len b → k + 1 < len a)

/-- a key the walks can follow down to level `len c`: an element of `S` or, as in a matrix
    whose codes all have one length, a key at most as long as every code -/
def Findable (len : α → Nat) (S : List α) (c : α) : Prop :=
  c ∈ S ∨ (S ≠ [] ∧ ∀ x ∈ S, len c ≤ len x)

/-- `x` has at least `k` bits and agrees with `c` on them -/
def agR (β : Nat → α → Bool) (len : α → Nat) (c : α) (k : Nat) (x : α) : Bool :=
  agree β c k x && decide (k ≤ len x)

theorem lvlH_subset (β : Nat → α → Bool) (len : α → Nat) (S : List α) (k : Nat) :
    ∀ x ∈ lvlH β len k S, x ∈ S := by
  induction k with
  | zero => intro x hx; exact hx
  | succ k ih =>
    intro x hx
    rw [lvlH, List.mem_filter, mem_part] at hx
    exact ih x hx.1

theorem lvlH_length_le (β : Nat → α → Bool) (len : α → Nat) (k : Nat) (S : List α) :
    (lvlH β len k S).length ≤ S.length := by
  induction k with
  | zero => exact Nat.le_refl _
  | succ k ih =>
    rw [lvlH]
    exact Nat.le_trans (List.length_filter_le _ _) (by rw [part_length]; exact ih)

theorem agR_zero (β : Nat → α → Bool) (len : α → Nat) (c : α) : agR β len c 0 = fun _ => true := by
  funext x; simp [agR, agree_zero]

section key
variable {β : Nat → α → Bool} {len : α → Nat} {S : List α} (h : HOK β len S)
  {c : α} (hc : Findable len S c)
include h hc

/-- no code is a proper prefix of the code of a findable `c` -/
theorem live_of_agR {k : Nat} (hk : k < len c) {x : α} (hx : x ∈ S)
    (hag : agR β len c k x = true) : k < len x := by
  simp only [agR, Bool.and_eq_true, decide_eq_true_eq] at hag
  apply Classical.byContradiction
  intro hl
  rcases hc with hc | ⟨_, hc⟩
  · have hle : len x ≤ k := Nat.le_of_not_lt hl
    have := h.pf x hx c hc (Nat.le_trans hle (Nat.le_of_lt hk))
      (fun j hj => agree_bit β c x (Nat.lt_of_lt_of_le hj hle) hag.1)
    exact hl (by rw [this]; exact hk)
  · exact hl (Nat.lt_of_lt_of_le hk (hc x hx))

theorem agR_succ {k : Nat} (hk : k < len c) {x : α} (hx : x ∈ S) :
    (agR β len c k x && (β k x == β k c)) = agR β len c (k + 1) x := by
  rw [agR, agR, agree_succ]
  cases hag : agree β c k x
  · rfl
  · have hlive : k ≤ len x → k < len x :=
      fun h' => live_of_agR h hc hk hx (by simp [agR, hag, h'])
    by_cases hl : k < len x
    · simp [Nat.le_of_lt hl, Nat.succ_le_of_lt hl]
    · have h1 : ¬ k ≤ len x := fun h' => hl (hlive h')
      have h2 : ¬ k + 1 ≤ len x := hl
      simp [h1, h2]

/-- the block invariant: for `k < len c` the elements with `k` bits of `c` form a contiguous
    block of level `k`, in original order, starting where the walk from position 0 arrives -/
theorem blkH (k : Nat) (hk : k < len c) :
    ∃ A C, lvlH β len k S = A ++ S.filter (agR β len c k) ++ C ∧
      A.length = walkPos (β · c) (bitsH β len · S) 0 k := by
  induction k with
  | zero =>
    refine ⟨[], [], ?_, rfl⟩
    rw [agR_zero, List.filter_eq_self.mpr (fun _ _ => rfl), List.nil_append, List.append_nil, lvlH]
  | succ k ih =>
    obtain ⟨A, C, h1, h2⟩ := ih (Nat.lt_of_succ_lt hk)
    obtain ⟨A', C', h3, h4⟩ := part_block (β k) (β k c) A (S.filter (agR β len c k)) C
    rw [← h1, List.filter_filter,
      List.filter_congr (fun x hx => by
        rw [Bool.and_comm, agR_succ h hc (Nat.lt_of_succ_lt hk) hx])] at h3
    -- what precedes the block continues: by the matrix order when `c`, which continues, is
    -- in the block; because nothing ends before `c` does otherwise
    have hA' : A'.filter (fun x => decide (k + 1 < len x)) = A' := by
      apply List.filter_eq_self.mpr
      intro a ha
      rcases hc with hc | ⟨_, hc⟩
      · have hpre := h.pre k
        rw [h3, List.append_assoc, List.pairwise_append] at hpre
        have hcB : c ∈ S.filter (agR β len c (k + 1)) :=
          List.mem_filter.mpr ⟨hc, by simpa [agR, agree_self] using Nat.le_of_lt hk⟩
        simpa using hpre.2.2 a ha c (List.mem_append.mpr (Or.inl hcB)) hk
      · have haS : a ∈ S := lvlH_subset β len S k a (mem_part.mp (by rw [h3]; simp [ha]))
        simpa using Nat.lt_of_lt_of_le hk (hc a haS)
    have hB : (S.filter (agR β len c (k + 1))).filter (fun x => decide (k + 1 < len x)) =
        S.filter (agR β len c (k + 1)) :=
      List.filter_eq_self.mpr (fun x hx => by
        simpa using live_of_agR h hc hk (List.mem_filter.mp hx).1 (List.mem_filter.mp hx).2)
    refine ⟨A', C'.filter (fun x => decide (k + 1 < len x)), ?_, ?_⟩
    · rw [lvlH, h3, List.filter_append, List.filter_append, hA', hB]
    · rw [h4, walkPos, bitsH, h1, h2]

end key

theorem mem_lvlH {β : Nat → α → Bool} {len : α → Nat} {S : List α} (h : HOK β len S)
    {c : α} (hc : c ∈ S) (k : Nat) (hk : k < len c) : c ∈ lvlH β len k S := by
  obtain ⟨A, C, h1, _⟩ := blkH h (Or.inl hc) k hk
  rw [h1]
  simp only [List.mem_append, List.mem_filter]
  refine Or.inl (Or.inr ⟨hc, ?_⟩)
  simpa [agR, agree_self] using Nat.le_of_lt hk

theorem bitsH_ne_nil {β : Nat → α → Bool} {len : α → Nat} {S : List α} (h : HOK β len S)
    {c : α} (hc : Findable len S c) (k : Nat) (hk : k < len c) : bitsH β len k S ≠ [] := by
  have : ∃ x ∈ S, k < len x := by
    rcases hc with hc | ⟨hne, hc⟩
    · exact ⟨c, hc, hk⟩
    · obtain ⟨x, hx⟩ := List.exists_mem_of_ne_nil S hne
      exact ⟨x, hx, Nat.lt_of_lt_of_le hk (hc x hx)⟩
  obtain ⟨x, hx, hkx⟩ := this
  intro hnil
  have := mem_lvlH h hx k hkx
  rw [bitsH, List.map_eq_nil_iff] at hnil
  rw [hnil] at this; cases this

theorem agR_full {β : Nat → α → Bool} {len : α → Nat} {S : List α} (h : HOK β len S)
    {c : α} (hc : c ∈ S) [BEq α] [LawfulBEq α] {x : α} (hx : x ∈ S) :
    agR β len c (len c) x = (x == c) := by
  by_cases hxc : x = c
  · subst hxc; simp [agR, agree_self]
  · have : (x == c) = false := by simpa using hxc
    rw [this]
    unfold agR
    cases hag : agree β c (len c) x
    · rfl
    · by_cases hl : len c ≤ len x
      · exfalso
        apply hxc
        exact (h.pf c hc x hx hl (fun j hj => (agree_bit β c x hj hag).symm)).symm
      · simp [hl]

/-- number of elements of `S[0..i)` with `k` bits of `c` -/
def cntR (β : Nat → α → Bool) (len : α → Nat) (c : α) (S : List α) (k i : Nat) : Nat :=
  (S.take i).countP (agR β len c k)

theorem cntR_le (β : Nat → α → Bool) (len : α → Nat) (c : α) (S : List α) (k i : Nat) :
    cntR β len c S k i ≤ (S.filter (agR β len c k)).length := by
  unfold cntR
  rw [← List.countP_eq_length_filter]
  exact (List.take_sublist i S).countP_le

theorem cntR_zero (β : Nat → α → Bool) (len : α → Nat) (c : α) (S : List α) (i : Nat)
    (hi : i ≤ S.length) : cntR β len c S 0 i = i := by
  simp [cntR, agR_zero, hi]

/-- the rank walk: from position `i` one arrives as far beyond the start of the block of `c` as
    there are elements with `k` bits of `c` among the first `i` -/
theorem walkPos_eq {β : Nat → α → Bool} {len : α → Nat} {S : List α} (h : HOK β len S)
    {c : α} (hc : Findable len S c) (k : Nat) (hk : k ≤ len c) (i : Nat) (hi : i ≤ S.length) :
    walkPos (β · c) (bitsH β len · S) i k =
      walkPos (β · c) (bitsH β len · S) 0 k + cntR β len c S k i := by
  induction k with
  | zero => rw [walkPos, walkPos, cntR_zero _ _ _ _ _ hi, Nat.zero_add]
  | succ k ih =>
    obtain ⟨A, C, h1, h2⟩ := blkH h hc k hk
    rw [walkPos, ih (Nat.le_of_succ_le hk), walkPos, bitsH, h1, ← h2,
      mapPos_block _ _ _ _ _ _ (cntR_le β len c S k i)]
    congr 1
    unfold cntR
    rw [filter_take, List.countP_filter]
    exact List.countP_congr (fun x hx => by
      rw [Bool.and_comm, agR_succ h hc hk (List.mem_of_mem_take hx)])

theorem walkPos_le {β : Nat → α → Bool} {len : α → Nat} {S : List α} (h : HOK β len S)
    {c : α} (hc : Findable len S c) (k : Nat) (hk : k < len c) (i : Nat) (hi : i ≤ S.length) :
    walkPos (β · c) (bitsH β len · S) i k ≤ (bitsH β len k S).length := by
  obtain ⟨A, C, h1, h2⟩ := blkH h hc k hk
  rw [walkPos_eq h hc k (Nat.le_of_lt hk) i hi, bitsH, List.length_map, h1, ← h2]
  have := cntR_le β len c S k i
  simp only [List.length_append]
  omega

theorem filter_agR_bit {β : Nat → α → Bool} {len : α → Nat} {S : List α} (h : HOK β len S)
    {c : α} (hc : Findable len S c) {k : Nat} (hk : k < len c) :
    (S.filter (agR β len c k)).filter (fun x => β k x == β k c) = S.filter (agR β len c (k + 1)) := by
  rw [List.filter_filter]
  exact List.filter_congr (fun x hx => by rw [Bool.and_comm, agR_succ h hc hk hx])

/-- At level 0 `selUp` returns its offset whatever it is, `Spec.select` only below `S.length`: hence
    `h0`.  Above, an offset beyond the block is sent beyond the block of the level before
    (`sel_out_block`), so it stays an overshoot down to level 1, where it is `none` on both sides. -/
theorem selUp_spec {β : Nat → α → Bool} {len : α → Nat} {S : List α} (h : HOK β len S)
    {c : α} (hc : Findable len S c) (k res : Nat) (hk : k ≤ len c) (h0 : k = 0 → res < S.length) :
    selUp (β · c) (bitsH β len · S) k res = Spec.select true res (S.map (agR β len c k)) := by
  induction k generalizing res with
  | zero =>
    have hres := h0 rfl
    rw [selUp, agR_zero]
    symm
    rw [select_eq_some_iff]
    refine ⟨?_, ?_⟩
    · rw [List.getElem?_map, List.getElem?_eq_getElem hres]; rfl
    · rw [rank_map]
      simp; omega
  | succ k ih =>
    have hk' : k < len c := hk
    obtain ⟨A, C, h1, h2⟩ := blkH h hc k hk'
    rw [selUp, bitsH, h1, ← h2]
    by_cases hres : res < (S.filter (agR β len c (k + 1))).length
    · obtain ⟨j, hj1, hj2⟩ := sel_in_block (β k) (β k c) A (S.filter (agR β len c k)) C res
        (by rw [filter_agR_bit h hc hk']; exact hres)
      rw [hj1]
      simp only [Nat.add_sub_cancel_left]
      have hjl : j < (S.filter (agR β len c k)).length := by
        have := (select_some hj2).1; simpa using this
      have hjS : j < S.length := Nat.lt_of_lt_of_le hjl (List.length_filter_le _ _)
      rw [ih j (Nat.le_of_lt hk') (fun _ => hjS),
        ← select_comp (agR β len c k) (β k) (β k c) S res j hj2]
      exact congrArg _ (List.map_congr_left (fun x hx => agR_succ h hc hk' hx))
    · have hres : (S.filter (agR β len c (k + 1))).length ≤ res := Nat.le_of_not_lt hres
      rw [select_none (s := S.map (agR β len c (k + 1))) (by rw [count_map_true]; exact hres)]
      split
      · rfl
      · rename_i q hq
        obtain ⟨hq1, hq2⟩ := sel_out_block (β k) (β k c) A _ C res q
          (by rw [filter_agR_bit h hc hk']; exact hres) hq
        cases k with
        | zero =>
          -- at level 0 the block is all of `S`: nothing lies beyond it
          exfalso
          rw [← h1, lvlH] at hq2
          rw [agR_zero, List.filter_eq_self.mpr (fun _ _ => rfl)] at hq1
          omega
        | succ k =>
          rw [ih _ (Nat.le_of_lt hk') (by intro h; cases h)]
          exact select_none (by rw [count_map_true]; omega)

theorem HOK.pre_decide {β : Nat → α → Bool} {len : α → Nat} {S : List α} (h : HOK β len S) (k : Nat) :
    (part (β k) (lvlH β len k S)).Pairwise
      (fun a b => decide (k + 1 < len b) = true → decide (k + 1 < len a) = true) := by
  apply (h.pre k).imp
  intro a b hab; simpa using hab

theorem track_get {β : Nat → α → Bool} {len : α → Nat} {S : List α} (h : HOK β len S)
    (x : α) (j : Nat) (hj : S[j]? = some x) (k : Nat) (hk : k < len x) :
    (lvlH β len k S)[walkPos (β · x) (bitsH β len · S) j k]? = some x := by
  induction k with
  | zero => exact hj
  | succ k ih =>
    have := part_getElem (β k) _ _ x (ih (Nat.lt_of_succ_lt hk))
    rw [lvlH, walkPos, bitsH]
    exact (pre_get _ _ (h.pre_decide k) _ x this).1 (by simpa using hk)

theorem track_end {β : Nat → α → Bool} {len : α → Nat} {S : List α} (h : HOK β len S)
    (x : α) (j : Nat) (hj : S[j]? = some x) :
    (lvlH β len (len x) S).length ≤ walkPos (β · x) (bitsH β len · S) j (len x) := by
  cases hk : len x with
  | zero => exact absurd (h.pos x (List.mem_of_getElem? hj)) (hk ▸ Nat.lt_irrefl 0)
  | succ k =>
    have := part_getElem (β k) _ _ x (track_get h x j hj k (hk ▸ Nat.lt_succ_self k))
    rw [lvlH, walkPos, bitsH]
    exact (pre_get _ _ (h.pre_decide k) _ x this).2 (by simpa using Nat.le_of_eq hk)

theorem bitsH_track {β : Nat → α → Bool} {len : α → Nat} {S : List α} (h : HOK β len S)
    (x : α) (j : Nat) (hj : S[j]? = some x) (k : Nat) (hk : k < len x) :
    (bitsH β len k S)[walkPos (β · x) (bitsH β len · S) j k]? = some (β k x) := by
  rw [bitsH, List.getElem?_map, track_get h x j hj k hk]; rfl

/-! ## all codes of one length: the plain matrix -/

theorem lvlH_const (β : Nat → α → Bool) {L k : Nat} (hk : k < L) (S : List α) :
    lvlH β (fun _ => L) k S = lvl β k S := by
  induction k with
  | zero => rfl
  | succ k ih =>
    rw [lvlH, lvl, ih (Nat.lt_of_succ_lt hk)]
    exact List.filter_eq_self.mpr (fun _ _ => by simpa using hk)

theorem bitsH_const (β : Nat → α → Bool) {L k : Nat} (hk : k < L) (S : List α) :
    bitsH β (fun _ => L) k S = bitsAt β k S := by
  rw [bitsH, lvlH_const β hk, bitsAt]

theorem hok_const {β : Nat → α → Bool} {L : Nat} (hL : 0 < L) {S : List α}
    (hinj : ∀ x ∈ S, ∀ y ∈ S, (∀ j, j < L → β j x = β j y) → x = y) :
    HOK β (fun _ => L) S :=
  ⟨fun _ _ => hL, fun x hx y hy _ hb => hinj x hx y hy hb,
    fun _ => List.pairwise_of_forall (fun _ _ hl => hl)⟩

end Qwt.BinWM
