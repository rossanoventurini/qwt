import Qwt.Proofs.Basic
import Qwt.Proofs.WordBits

/-!
Counting lemmas shared by the `DArray` proofs (C07).

`cnt f n` is the number of `i < n` with `f i`.  The `k`-th element of
`(List.range n).filter f` is the unique `p < n` with `f p` and `cnt f p = k`
(`filter_range_getElem?`); `Spec.select` is the `k`-th element of such a filter
(`select_eq_filter`); the population count of a word is `cnt` of its `testBit`
(`popc_eq_cnt`).
-/
namespace Qwt.DAProofs
open Qwt

def cnt (f : Nat → Bool) : Nat → Nat
  | 0 => 0
  | n + 1 => cnt f n + (if f n then 1 else 0)

@[simp] theorem cnt_zero (f : Nat → Bool) : cnt f 0 = 0 := rfl

theorem cnt_succ (f : Nat → Bool) (n : Nat) :
    cnt f (n + 1) = cnt f n + (if f n then 1 else 0) := rfl

theorem cnt_le_succ (f : Nat → Bool) (n : Nat) : cnt f n ≤ cnt f (n + 1) := by
  rw [cnt_succ]; omega

theorem cnt_mono (f : Nat → Bool) {a b : Nat} (h : a ≤ b) : cnt f a ≤ cnt f b := by
  induction h with
  | refl => exact Nat.le_refl _
  | step _ ih => exact Nat.le_trans ih (cnt_le_succ f _)

theorem cnt_succ_of_true {f : Nat → Bool} {n : Nat} (h : f n = true) :
    cnt f (n + 1) = cnt f n + 1 := by
  rw [cnt_succ, h]; rfl

theorem cnt_lt_of_lt_of_true {f : Nat → Bool} {a b : Nat} (hab : a < b) (h : f a = true) :
    cnt f a < cnt f b := by
  have h1 := cnt_succ_of_true h
  have h2 := cnt_mono f (show a + 1 ≤ b from hab)
  omega

theorem cnt_le (f : Nat → Bool) (n : Nat) : cnt f n ≤ n := by
  induction n with
  | zero => exact Nat.le_refl _
  | succ n ih => rw [cnt_succ]; split <;> omega

theorem cnt_congr {f g : Nat → Bool} {n : Nat} (h : ∀ i, i < n → f i = g i) :
    cnt f n = cnt g n := by
  induction n with
  | zero => rfl
  | succ n ih =>
    rw [cnt_succ, cnt_succ, ih (fun i hi => h i (by omega)), h n (by omega)]

theorem cnt_add (f : Nat → Bool) (a b : Nat) :
    cnt f (a + b) = cnt f a + cnt (fun i => f (a + i)) b := by
  induction b with
  | zero => rfl
  | succ b ih => rw [← Nat.add_assoc, cnt_succ, cnt_succ, ih]; omega

theorem cnt_succ' (f : Nat → Bool) (n : Nat) :
    cnt f (n + 1) = (if f 0 then 1 else 0) + cnt (fun i => f (i + 1)) n := by
  have h := cnt_add f 1 n
  rw [Nat.add_comm 1 n] at h
  rw [h]
  have : cnt f 1 = (if f 0 then 1 else 0) := by simp [cnt_succ]
  rw [this]
  congr 1
  exact cnt_congr (fun i _ => by rw [Nat.add_comm])

theorem cnt_false {f : Nat → Bool} {n : Nat} (h : ∀ i, i < n → f i = false) : cnt f n = 0 := by
  induction n with
  | zero => rfl
  | succ n ih => rw [cnt_succ, ih (fun i hi => h i (by omega)), h n (by omega)]; rfl

theorem lt_iff_cnt_lt {f : Nat → Bool} {p : Nat} (hp : f p = true) (n : Nat) :
    p < n ↔ cnt f p < cnt f n := by
  refine ⟨fun h => cnt_lt_of_lt_of_true h hp, fun h => Nat.lt_of_not_le fun hle => ?_⟩
  have := cnt_mono f hle
  omega

theorem le_of_cnt_le {f : Nat → Bool} {p : Nat} (hp : f p = true) {n : Nat}
    (h : cnt f n ≤ cnt f p) : n ≤ p :=
  Nat.le_of_not_lt fun hlt => Nat.not_le_of_lt ((lt_iff_cnt_lt hp n).mp hlt) h

theorem cnt_inj {f : Nat → Bool} {p q : Nat} (hp : f p = true) (hq : f q = true)
    (h : cnt f p = cnt f q) : p = q :=
  Nat.le_antisymm (le_of_cnt_le hq (Nat.le_of_eq h)) (le_of_cnt_le hp (Nat.le_of_eq h.symm))

theorem length_filter_range (f : Nat → Bool) (n : Nat) :
    ((List.range n).filter f).length = cnt f n := by
  induction n with
  | zero => rfl
  | succ n ih =>
    rw [List.range_succ, List.filter_append, List.length_append, ih, cnt_succ]
    by_cases h : f n = true <;> simp [h]

theorem filter_range_getElem? (f : Nat → Bool) (n k p : Nat) :
    ((List.range n).filter f)[k]? = some p ↔ p < n ∧ f p = true ∧ cnt f p = k := by
  induction n with
  | zero => simp
  | succ n ih =>
    rw [List.range_succ, List.filter_append, List.getElem?_append, length_filter_range]
    by_cases hk : k < cnt f n
    · rw [if_pos hk, ih]
      exact ⟨fun ⟨h1, h2, h3⟩ => ⟨Nat.lt_succ_of_lt h1, h2, h3⟩,
        fun ⟨_, h2, h3⟩ => ⟨(lt_iff_cnt_lt h2 n).mpr (h3 ▸ hk), h2, h3⟩⟩
    · -- what is left is `[n]` or `[]`: only `p = n` with `k = cnt f n` is read there
      rw [if_neg hk]
      constructor
      · intro h
        have hlen := (List.getElem?_eq_some_iff.mp h).1
        have := List.length_filter_le f [n]
        obtain ⟨hp, hfp⟩ := List.mem_filter.mp (List.mem_of_getElem? h)
        obtain rfl := List.mem_singleton.mp hp
        exact ⟨Nat.lt_succ_self _, hfp, by rw [List.length_singleton] at this; omega⟩
      · rintro ⟨h1, h2, h3⟩
        obtain rfl : p = n := Nat.le_antisymm (Nat.le_of_lt_succ h1) (le_of_cnt_le h2 (by omega))
        rw [List.filter_cons_of_pos h2, h3, Nat.sub_self]
        rfl

theorem filter_range_getElem?_none (f : Nat → Bool) (n k : Nat) :
    ((List.range n).filter f)[k]? = none ↔ cnt f n ≤ k := by
  rw [List.getElem?_eq_none_iff, length_filter_range]

theorem filter_range_lt (f : Nat → Bool) (n : Nat) {i j p q : Nat} (hij : i < j)
    (hp : ((List.range n).filter f)[i]? = some p) (hq : ((List.range n).filter f)[j]? = some q) :
    p < q := by
  rw [filter_range_getElem?] at hp hq
  exact (lt_iff_cnt_lt hp.2.1 q).mpr (by rw [hp.2.2, hq.2.2]; exact hij)

/-- the `k`-th hit, read with a default as the inventories are specified -/
theorem filter_range_getD (f : Nat → Bool) (n : Nat) {k : Nat} (hk : k < cnt f n) :
    ((List.range n).filter f).getD k 0 < n ∧ f (((List.range n).filter f).getD k 0) = true ∧
      cnt f (((List.range n).filter f).getD k 0) = k := by
  rw [← length_filter_range] at hk
  rw [← filter_range_getElem?, getD_of_lt hk, List.getElem?_eq_getElem hk]

theorem filter_range_getD_le (f : Nat → Bool) (n : Nat) {i j : Nat} (hij : i ≤ j)
    (hj : j < cnt f n) :
    ((List.range n).filter f).getD i 0 ≤ ((List.range n).filter f).getD j 0 := by
  have hi := filter_range_getD f n (Nat.lt_of_le_of_lt hij hj)
  have hj := filter_range_getD f n hj
  exact le_of_cnt_le hj.2.1 (by omega)

theorem select_eq_filter (c : Bool) (k : Nat) (l : List Bool) :
    Spec.select c k l = ((List.range l.length).filter (fun i => l[i]? == some c))[k]? := by
  induction l generalizing k with
  | nil => simp [Spec.select]
  | cons x xs ih =>
    have hmap : ((List.range xs.length).map Nat.succ).filter (fun i => (x :: xs)[i]? == some c)
        = ((List.range xs.length).filter (fun i => xs[i]? == some c)).map Nat.succ := by
      rw [List.filter_map]
      congr 1
    rw [List.length_cons, List.range_succ_eq_map, List.filter_cons, hmap]
    by_cases hx : (x == c) = true
    · have hx' : ((x :: xs)[0]? == some c) = true := by simpa using hx
      rw [if_pos hx']
      cases k with
      | zero => simp [Spec.select, hx]
      | succ k =>
        simp only [Spec.select, hx, if_true, List.getElem?_cons_succ, List.getElem?_map, ih]
    · have hx' : ¬ ((x :: xs)[0]? == some c) = true := by simpa using hx
      rw [if_neg hx']
      simp only [Spec.select, hx, List.getElem?_map, ih]
      rfl

theorem select_eq_some_iff (c : Bool) (k p : Nat) (l : List Bool) :
    Spec.select c k l = some p ↔
      p < l.length ∧ l[p]? = some c ∧ cnt (fun i => l[i]? == some c) p = k := by
  rw [select_eq_filter, filter_range_getElem?]
  simp

theorem popc_eq_cnt (n w : Nat) (h : w < 2 ^ n) : Qwt.popc w = cnt w.testBit n := by
  induction n generalizing w with
  | zero =>
    have : w = 0 := by simpa using h
    subst this
    exact popc_zero
  | succ n ih =>
    have hc : cnt (fun i => w.testBit (i + 1)) n = cnt (w / 2).testBit n :=
      cnt_congr (fun i _ => Nat.testBit_succ w i)
    rw [cnt_succ', hc, ← ih (w / 2) (by rw [Nat.pow_succ] at h; omega), popc_step,
      Nat.testBit_zero]
    congr 1
    have : w % 2 = 0 ∨ w % 2 = 1 := by omega
    rcases this with h0 | h0 <;> simp [h0]

theorem select_bitsOf {w n q r : Nat} (hq : q < n) (hb : w.testBit q = true)
    (hc : cnt w.testBit q = r) : Spec.select true r (Spec.bitsOf w n) = some q := by
  rw [select_eq_some_iff, Proofs.Word.bitsOf_length]
  refine ⟨hq, ?_, ?_⟩
  · rw [bitsOf_getElem?, if_pos hq, hb]
  · rw [← hc]
    apply cnt_congr
    intro i hi
    rw [bitsOf_getElem?, if_pos (by omega)]
    cases w.testBit i <;> rfl

end Qwt.DAProofs
