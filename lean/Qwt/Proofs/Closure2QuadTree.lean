import Qwt.Proofs.Closure2BinTree
import Qwt.Proofs.Closure2RSQ
import Qwt.Proofs.PfsTree
import Qwt.Proofs.NewInv

/-!
Serialisation well-formedness (`Codec.qwtWF`, `Codec.hqwtWF`) of the quad wavelet trees built by
`QWTree.new` and `Huff.new`.

The level loops are inverted generically: whatever `levelStep` returns, the vector of the pushed
level was built by a push loop over a list of two-bit digits no longer than the carried
sequence, so it satisfies `QV.Inv`, and the level and the sampling structure built from it are
well-formed by the leaf theorems (`rsqWF_of_inv`, `pfsWF_of_new`).
-/
namespace Qwt.Closure2
open Qwt Qwt.Codec

namespace QuadTree

theorem level_inv {σ : Type} (body : QV.QVectorBuilder → σ → M QV.QVectorBuilder)
    (hbody : ∀ b s b', body b s = .ok b' → b' = b ∨ ∃ d, QV.push b d = .ok b')
    (seq : Array σ) (hlen : seq.size < 2 ^ 43) (qvb : QV.QVectorBuilder)
    (hfold : seq.foldlM body {} = .ok qvb) :
    QV.Inv (QV.build qvb) ∧ QV.len (QV.build qvb) ≤ seq.size := by
  rw [← Array.foldlM_toList] at hfold
  obtain ⟨digits, hl, hq⟩ := foldlM_pushes QV.push body hbody seq.toList {} qvb hfold
  simp only [Array.length_toList] at hl
  obtain ⟨hinv, habs⟩ := of_exists_ok (RSQP.pushes_ok digits {} QV.empty_inv.1 (by
    have h64 : two64 = 2 ^ 64 := by decide
    show 0 + 2 * _ < two64
    omega)) hq
  refine ⟨hinv, ?_⟩
  show QV.len qvb ≤ _
  rw [QV.len_ok, habs, QV.empty_inv.2, List.nil_append, List.length_map]
  exact hl

/-- the state of either level loop after `k` rounds on an input of length `n`: the carried
    sequence `seq`, the levels `qvs`, the sampling structures `pfs` (none when the tree has none) -/
structure Levels (n k : Nat) (seq : Array Nat) (qvs : Array RSQ.RSQVector)
    (pfs : Array PFS.PrefetchSupport) : Prop where
  size_le : seq.size ≤ n
  qsize : qvs.size = k
  qwf : ∀ r ∈ qvs.toList, rsqWF r
  psize : pfs.size ≤ k
  pwf : ∀ p ∈ pfs.toList, pfsWF p

theorem Levels.init (S : List Nat) : Levels S.length 0 S.toArray #[] #[] :=
  ⟨Nat.le_refl _, rfl, fun _ h => (nomatch h), Nat.le_refl _, fun _ h => (nomatch h)⟩

theorem Levels.step {n k : Nat} {seq seq' : Array Nat} {qvs : Array RSQ.RSQVector}
    {pfs pfs' : Array PFS.PrefetchSupport} (I : Levels n k seq qvs pfs) (hn : n < 2 ^ 43)
    {qv : QV.QVector} (hq : QV.Inv qv) (hl : QV.len qv ≤ seq.size)
    {dbg : Bool} {B : Nat} {r : RSQ.RSQVector} (hr : RSQ.fromQV dbg B qv = .ok r) {b : Bool}
    (hp : b = false ∧ pfs' = pfs ∨
      b = true ∧ ∃ p, PFS.new qv Extracted.pfsSampleShift = .ok p ∧ pfs' = pfs.push p)
    (hs : seq'.size ≤ seq.size) : Levels n (k + 1) seq' (qvs.push r) pfs' := by
  have hl43 : QV.len qv < 2 ^ 43 := Nat.lt_of_le_of_lt (Nat.le_trans hl I.size_le) hn
  have hrwf : rsqWF r := rsqWF_of_inv dbg hq (by rw [← QV.len_ok]; exact hl43) hr
  refine ⟨Nat.le_trans hs I.size_le, by rw [Array.size_push, I.qsize], forall_mem_push I.qwf hrwf, ?_, ?_⟩
  · rcases hp with ⟨_, rfl⟩ | ⟨_, p, _, rfl⟩
    · exact Nat.le_succ_of_le I.psize
    · rw [Array.size_push]; exact Nat.succ_le_succ I.psize
  · rcases hp with ⟨_, rfl⟩ | ⟨_, p, hp, rfl⟩
    · exact I.pwf
    · exact forall_mem_push I.pwf (pfsWF_of_new hq hl43 hp)

theorem Levels.pfsOpt {n k : Nat} {seq : Array Nat} {qvs : Array RSQ.RSQVector}
    {pfs : Array PFS.PrefetchSupport} (I : Levels n k seq qvs pfs) (hk : k < 2 ^ 64) (b : Bool) :
    pfsOptWF (if b = true then some pfs else none) := by
  cases b
  · trivial
  · exact ⟨Nat.lt_of_le_of_lt I.psize hk, I.pwf⟩

theorem qwt_levelStep (c : Cfg) {n k : Nat} (hn : n < 2 ^ 43) {st st' : QWTree.LevelSt}
    (I : Levels n k st.seq st.qvs st.pfs) (h : QWTree.levelStep c st = .ok st') :
    Levels n (k + 1) st'.seq st'.qvs st'.pfs := by
  obtain ⟨qvb, rs, seq, pfs, hfold, hrs, hseq, hpf, rfl⟩ := QWTree.levelStep_inv h
  obtain ⟨hq, hl⟩ := level_inv _ (fun b s b' hb => by
    obtain ⟨tb, _, hp⟩ := bind_ok_inv hb
    exact Or.inr ⟨tb, hp⟩) st.seq (Nat.lt_of_le_of_lt I.size_le hn) qvb hfold
  exact I.step hn hq hl hrs hpf (Nat.le_of_eq (Proofs.Word.stablePartitionOf4_size hseq))

end QuadTree

open QuadTree

theorem qwtWF_of_new (c : Cfg) (wbytes : Nat) (hWb : c.W = 8 * wbytes) (hW : 0 < c.W)
    (hW128 : c.W ≤ 128) (S : List Nat) (hS : ∀ x ∈ S, x < 2 ^ c.W) (hlen : S.length < 2 ^ 43)
    {t : QWTree.QWT} (ht : QWTree.new c S.toArray = .ok t) : Codec.qwtWF wbytes t := by
  by_cases hemp : S = []
  · subst hemp
    obtain ⟨d, hd, rfl⟩ := QWTree.new_inv_empty rfl ht
    refine ⟨Nat.pow_pos (by decide), Nat.pow_pos (by decide), Nat.pow_pos (by decide),
      ⟨Nat.one_lt_two_pow (by decide), fun r hr => ?_⟩, trivial⟩
    cases List.mem_singleton.mp hr
    exact rsqWF_default hd
  · have hne : S.toArray.isEmpty = false := by
      cases S with
      | nil => exact absurd rfl hemp
      | cons a l => rfl
    have hsig : S.toArray.foldl max 0 = Spec.maxNat S := by rw [List.foldl_toArray]; rfl
    have hsl := Spec.maxNat_lt (Nat.pow_pos (by decide)) hS
    have hL := QWTree.nLevelsOf_shift _ _ hsl hW
    obtain ⟨m, st, hm, hst, rfl⟩ := QWTree.new_inv hne ht
    rw [hsig, Proofs.Word.msb_ok _ _ hW hsl] at hm
    cases hm
    have e : (Nat.log2 (Spec.maxNat S) + 1 + 1) / 2 = QWTree.nLevelsOf (Spec.maxNat S) := rfl
    rw [e] at hst
    have I := foldlM_inv (fun k (st : QWTree.LevelSt) => Levels S.length k st.seq st.qvs st.pfs) _
      (fun _ _ _ _ I h => qwt_levelStep c hlen I h) _ 0 _ st (Levels.init S) hst
    rw [List.length_range, Nat.zero_add] at I
    have hnl : QWTree.nLevelsOf (Spec.maxNat S) < 2 ^ 64 := by omega
    refine ⟨?_, hnl, ?_, ⟨?_, I.qwf⟩, I.pfsOpt hnl c.pfs⟩
    · show S.toArray.size < 2 ^ 64
      rw [List.size_toArray]; omega
    · show S.toArray.foldl max 0 < 256 ^ wbytes
      rw [hsig, ← pow_bytes, ← hWb]; exact hsl
    · show st.qvs.size < 2 ^ 64
      rw [I.qsize]; exact hnl

namespace QuadTree
open Qwt.Huff

def totalSize (l : List (Array Nat)) : Nat := (l.map Array.size).sum

theorem totalSize_modify (a : Nat) : ∀ (l : List (Array Nat)) (k : Nat),
    totalSize (l.modify k (·.push a)) ≤ totalSize l + 1 := by
  intro l
  induction l with
  | nil => intro k; simp [totalSize]
  | cons x xs ih =>
    intro k
    cases k with
    | zero => simp [totalSize]; omega
    | succ k =>
      have := ih k
      simp only [totalSize, List.modify_succ_cons, List.map_cons, List.sum_cons] at this ⊢
      omega

theorem foldl_append_size (l : List (Array Nat)) (init : Array Nat) :
    (l.foldl (· ++ ·) init).size = init.size + totalSize l := by
  induction l generalizing init with
  | nil => simp [totalSize]
  | cons x xs ih =>
    rw [List.foldl_cons, ih]
    simp only [totalSize, List.map_cons, List.sum_cons, Array.size_append]
    omega

theorem partH_size {seq seq' : Array Nat} {shift : Nat} {codes : Array PrefixCode}
    (h : Huff.partitionWithCodes 4 seq shift codes = .ok seq') : seq'.size ≤ seq.size := by
  unfold Huff.partitionWithCodes at h
  obtain ⟨b, hb, h⟩ := bind_ok_inv h
  cases h
  rw [← Array.foldlM_toList] at hb
  have := foldlM_inv (fun k (b : Array (Array Nat)) => totalSize b.toList ≤ k) _ (by
    intro k b a b' hk h
    obtain ⟨code, _, h⟩ := bind_ok_inv h
    have hm := fun d => Nat.le_trans (totalSize_modify a b.toList d) (Nat.succ_le_succ hk)
    split at h
    · cases h; rw [Array.toList_modify]; exact hm _
    · cases h; rw [Array.toList_modify]; exact hm _) seq.toList 0 _ b (by simp [totalSize]) hb
  rw [← Array.foldl_toList, foldl_append_size]
  simpa using this

/-- `Levels` for the loop state of `Huff.new`, which also records the length of every level -/
def HLevels (n k : Nat) (st : Huff.LevelSt) : Prop :=
  Levels n k st.seq st.qvs st.pfs ∧ st.lens.size = k ∧ ∀ x ∈ st.lens.toList, x ≤ n

theorem hqwt_levelStep (c : Cfg) (codes : Array PrefixCode) {n k : Nat} (hn : n < 2 ^ 43)
    {st st' : Huff.LevelSt} (I : HLevels n k st) (h : Huff.levelStep c codes st = .ok st') :
    HLevels n (k + 1) st' := by
  obtain ⟨I, hls, hlw⟩ := I
  obtain ⟨qvb, rs, seq, pfs, hfold, hrs, hseq, hpf, rfl⟩ := Huff.levelStep_inv h
  obtain ⟨hq, hl⟩ := level_inv _ (fun b s b' hb => by
    split at hb
    · cases hb
    · split at hb
      · exact Or.inr ⟨_, hb⟩
      · cases hb; exact Or.inl rfl) st.seq (Nat.lt_of_le_of_lt I.size_le hn) qvb hfold
  exact ⟨I.step hn hq hl hrs hpf (partH_size hseq), by rw [Array.size_push, hls],
    forall_mem_push hlw (Nat.le_trans hl I.size_le)⟩

end QuadTree

theorem hqwtWF_of_new_nil (c : Cfg) (wbytes : Nat) (lens : List (Nat × Nat)) {t : Huff.HQWT}
    (ht : Huff.new c #[] lens = .ok t) : Codec.hqwtWF wbytes t := by
  obtain ⟨d, hd, rfl⟩ := Huff.new_inv_empty rfl ht
  refine ⟨Nat.pow_pos (by decide), Nat.pow_pos (by decide),
    ⟨Nat.pow_pos (by decide), fun _ h => nomatch h⟩,
    ⟨Nat.pow_pos (by decide), fun _ h => nomatch h⟩,
    ⟨Nat.one_lt_two_pow (by decide), fun r hr => ?_⟩,
    ⟨Nat.one_lt_two_pow (by decide), fun x hx => ?_⟩, trivial⟩
  · cases List.mem_singleton.mp hr
    exact rsqWF_default hd
  · cases List.mem_singleton.mp hx
    exact Nat.pow_pos (by decide)

theorem hqwtWF_of_new (c : Cfg) (wbytes : Nat) (hWb : c.W = 8 * wbytes)
    (S : List Nat) (hb : ∀ x ∈ S, x < 2 ^ c.W) (hmax : ∀ x ∈ S, x + 1 < 2 ^ 64)
    (hS : S.length < 2 ^ 43)
    (lens : List (Nat × Nat)) (hlens : Props.C02.LensOK 4 lens)
    (hsyms : ∀ s, s ∈ lens.map (·.1) ↔ s ∈ S)
    {t : Huff.HQWT} (ht : Huff.new c S.toArray lens = .ok t) : Codec.hqwtWF wbytes t := by
  by_cases hemp : S = []
  · subst hemp
    exact hqwtWF_of_new_nil c wbytes lens ht
  · have hne : S.toArray.isEmpty = false := by
      cases S with
      | nil => exact absurd rfl hemp
      | cons a l => rfl
    have hfold : S.toArray.foldl max 0 = Spec.maxNat S := by rw [List.foldl_toArray]; rfl
    obtain ⟨codes, st, hcraft, hst, rfl⟩ := Huff.new_inv hne ht
    rw [hfold] at hcraft
    obtain ⟨hml, hcodes, hdecode⟩ :=
      codeTables_wf (Or.inl rfl) (wbytes := wbytes) hWb hb hmax hlens hsyms hcraft
    obtain ⟨I, hls, hlw⟩ := foldlM_inv (HLevels S.length) _
      (fun _ _ _ _ I h => hqwt_levelStep c codes hS I h) _ 0 _ st
      ⟨Levels.init S, rfl, fun _ h => by cases h⟩ hst
    rw [List.length_range, Nat.zero_add] at I hls
    have hnl : codes.foldl (fun m x => max m x.len) 0 / 2 < 2 ^ 64 := by omega
    refine ⟨?_, hnl, hcodes, hdecode, ⟨?_, I.qwf⟩, ⟨?_, fun x hx => ?_⟩, I.pfsOpt hnl c.pfs⟩
    · show S.toArray.size < 2 ^ 64
      rw [List.size_toArray]; omega
    · show st.qvs.size < 2 ^ 64
      rw [I.qsize]; exact hnl
    · show st.lens.size < 2 ^ 64
      rw [hls]; exact hnl
    · have := hlw x hx
      show x < 2 ^ 64
      omega

end Qwt.Closure2
