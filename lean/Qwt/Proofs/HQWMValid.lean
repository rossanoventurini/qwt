import Qwt.Proofs.CraftDigits
import Qwt.Proofs.HQWMSelect

/-!
From the validity predicate `WMValid 4 codes occ` of the code table (C02, what
`craftWmCodes 4` is proved to deliver) to the condition `QOK` used by the list-level Huffman
quad matrix: prefix-freeness on base-4 digits and "continuing elements precede ending ones" at
every level (from the reverse-lexicographic matrix order, by sortedness of every level under
the digit-reversed prefix).
-/

namespace Qwt.HQWM
open Qwt
open Qwt.Huff (PrefixCode)
open Qwt.Props.C02 (WMValid digits revLex bitsOf)

/-- code length of symbol `x` in base-4 digits (0 outside the table) -/
def qlen (codes : Array PrefixCode) (x : Nat) : Nat := codes[x]!.len / 2

/-- digit `k` (most significant first) of the code of `x` -/
def qdig (codes : Array PrefixCode) (k x : Nat) : Nat :=
  (codes[x]!.content >>> (codes[x]!.len - 2 * (k + 1))) % 4

theorem qdig_lt (codes : Array PrefixCode) (k x : Nat) : qdig codes k x < 4 :=
  Nat.mod_lt _ (by decide)

theorem bitsOf_four : bitsOf 4 = 2 := rfl

theorem digits_get (codes : Array PrefixCode) (x t : Nat) (hev : 2 ∣ codes[x]!.len) :
    (digits 4 codes[x]!)[t]? = if t < qlen codes x then some (qdig codes t x) else none := by
  rw [Proofs.Craft.digits_get, bitsOf_four]
  by_cases ht : t < qlen codes x
  · have ht' : t < codes[x]!.len / 2 := ht
    have e : codes[x]!.len - 2 * (t + 1) = 2 * (codes[x]!.len / 2 - 1 - t) := by omega
    rw [if_pos ht', if_pos ht, qdig, Nat.shiftRight_eq_div_pow, e, Nat.pow_mul]
  · rw [if_neg ht, if_neg (show ¬ t < codes[x]!.len / 2 from ht)]

/-- the digit-reversed value of the first `k` digits of the code of `x` -/
def rkey (codes : Array PrefixCode) : Nat → Nat → Nat
  | 0, _ => 0
  | k + 1, x => rkey codes k x + 4 ^ k * qdig codes k x

theorem rkey_lt (codes : Array PrefixCode) (k x : Nat) : rkey codes k x < 4 ^ k := by
  induction k with
  | zero => simp [rkey]
  | succ k ih =>
    rw [rkey, Nat.pow_succ]
    have h1 : 4 ^ k * qdig codes k x ≤ 4 ^ k * 3 :=
      Nat.mul_le_mul_left _ (Nat.le_of_lt_succ (qdig_lt codes k x))
    omega

theorem revLex_take (codes : Array PrefixCode) (x k : Nat) (hev : 2 ∣ codes[x]!.len)
    (hk : k ≤ qlen codes x) :
    revLex 4 ((digits 4 codes[x]!).take k) = rkey codes k x := by
  induction k with
  | zero => simp [revLex, rkey]
  | succ k ih =>
    rw [Proofs.Craft.revLex_take_succ _ _ _ _ ((digits_get codes x k hev).trans (if_pos hk)),
      ih (Nat.le_of_succ_le hk), rkey]

theorem stablePart_sorted {α : Type} (key rk : α → Nat) (M : Nat) (hrk : ∀ x, rk x < M) (r : Nat)
    (l : List α) (hl : l.Pairwise (fun a b => rk a ≤ rk b)) :
    (Spec.stablePart key r l).Pairwise (fun a b => rk a + M * key a ≤ rk b + M * key b) := by
  induction r with
  | zero => simp [Spec.stablePart]
  | succ r ih =>
    rw [WM.stablePart_succ, List.pairwise_append]
    refine ⟨ih, ?_, ?_⟩
    · apply (hl.filter _).imp_of_mem
      intro a b ha hb hab
      have ha' : key a = r := by simpa using (List.mem_filter.mp ha).2
      have hb' : key b = r := by simpa using (List.mem_filter.mp hb).2
      rw [ha', hb']; omega
    · intro a ha b hb
      have ha' : key a < r := ((mem_stablePart_iff key r l a).mp ha).2
      have hb' : key b = r := by simpa using (List.mem_filter.mp hb).2
      rw [hb']
      have h1 : M * (key a + 1) ≤ M * r := Nat.mul_le_mul_left _ ha'
      have h2 := hrk a
      rw [Nat.mul_add, Nat.mul_one] at h1
      omega

theorem lvlQ_sorted (codes : Array PrefixCode) (S : List Nat) (k : Nat) :
    (lvlQ (qdig codes) (qlen codes) k S).Pairwise
      (fun a b => rkey codes k a ≤ rkey codes k b) := by
  induction k with
  | zero => exact List.pairwise_of_forall (fun _ _ => Nat.le_refl _)
  | succ k ih =>
    rw [lvlQ]
    exact (stablePart_sorted (qdig codes k) (rkey codes k) (4 ^ k) (rkey_lt codes k) 4 _ ih).filter _

theorem qok_of_valid {codes : Array PrefixCode} {occ S : List Nat} (hv : WMValid 4 codes occ)
    (hocc : ∀ s, s ∈ occ ↔ s ∈ S) : QOK (qdig codes) (qlen codes) S := by
  have hev : ∀ x : Nat, 2 ∣ codes[x]!.len := fun x => (hv.len_le x).2.1
  have hpos : ∀ x ∈ S, 0 < qlen codes x := by
    intro x hx
    have := (hv.occ_len x ((hocc x).mpr hx)).2
    have := hev x
    unfold qlen; omega
  refine ⟨hpos, qdig_lt codes, ?_, ?_⟩
  · intro x hx y hy hle hdigs
    apply Classical.byContradiction
    intro hne
    apply hv.prefix_free x ((hocc x).mpr hx) y ((hocc y).mpr hy) hne
    have : digits 4 codes[x]! = (digits 4 codes[y]!).take (qlen codes x) := by
      apply List.ext_getElem?
      intro i
      rw [List.getElem?_take, digits_get _ _ _ (hev x), digits_get _ _ _ (hev y)]
      by_cases hi : i < qlen codes x
      · rw [if_pos hi, if_pos hi, if_pos (by omega), hdigs i hi]
      · rw [if_neg hi, if_neg hi]
    rw [this]
    exact List.take_prefix _ _
  · intro k
    have hsorted := stablePart_sorted (qdig codes k) (rkey codes k) (4 ^ k) (rkey_lt codes k) 4 _
      (lvlQ_sorted codes S k)
    apply hsorted.imp_of_mem
    intro a b ha hb hab hbl
    apply Classical.byContradiction
    intro hal
    rw [mem_stablePart_iff] at ha hb
    have haS := lvlQ_subset _ _ _ _ a ha.1
    have hbS := lvlQ_subset _ _ _ _ b hb.1
    have halive := lvlQ_live _ _ S hpos k a ha.1
    have hlen_a : qlen codes a = k + 1 := Nat.le_antisymm (Nat.le_of_not_lt hal) halive
    have := hv.matrix_order b ((hocc b).mpr hbS) a ((hocc a).mpr haS) k
      (by rw [Proofs.Craft.digits_length]; exact hlen_a)
      (by rw [Proofs.Craft.digits_length]; exact hbl)
    have e : digits 4 codes[a]! = (digits 4 codes[a]!).take (k + 1) := by
      rw [List.take_of_length_le (by rw [Proofs.Craft.digits_length]; exact Nat.le_of_eq hlen_a)]
    rw [revLex_take codes b (k + 1) (hev b) (Nat.le_of_lt hbl), e,
      revLex_take codes a (k + 1) (hev a) (Nat.le_of_eq hlen_a.symm)] at this
    -- `hab` is the order of the `(k + 1)`-digit reversed keys, by definition of `rkey`
    exact Nat.not_le.mpr this hab

end Qwt.HQWM
