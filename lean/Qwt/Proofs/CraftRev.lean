import Qwt.Proofs.CraftDigits
/-! C02: the fragment-reversal loop (`reverseCode`) of `craft_wm_codes` never faults for
`l ≤ 32` and yields the digit reversal (`revDigits`).  The quad and the binary loop are the same
loop for fragments of `b = 2` and `b = 1` bits. -/
namespace Qwt.Proofs.Craft
open Qwt Qwt.Huff Qwt.Props.C02

/-- iteration `n` of the reversal loop over `k` fragments of `b` bits each: fragment `n` of `v`
    (from the low end) is put below the `n` fragments already reversed, which sit at the top -/
theorem rev_step {b k n : Nat} (hb : 0 < b) (hl : b * k ≤ 32) (hn : n < k) (v : Nat) :
    (do let s ← sub (b * k) (b * n + b)
        let x ← shl32 ((v >>> (b * n)) &&& (2 ^ b - 1)) s
        pure (revDigits (2 ^ b) n v * (2 ^ b) ^ (k - n) ||| x) : M Nat) =
      .ok (revDigits (2 ^ b) (n + 1) v * (2 ^ b) ^ (k - (n + 1))) := by
  obtain ⟨e, rfl⟩ : ∃ e, k = n + 1 + e := ⟨k - 1 - n, by omega⟩
  have hd : v / (2 ^ b) ^ n % 2 ^ b < 2 ^ b := Nat.mod_lt _ (Nat.pow_pos (by decide))
  have hlt : v / (2 ^ b) ^ n % 2 ^ b * 2 ^ (b * e) < 2 ^ (b * e + b) := by
    rw [Nat.pow_add, Nat.mul_comm]
    exact Nat.mul_lt_mul_of_pos_left hd (Nat.pow_pos (by decide))
  rw [Nat.mul_add, Nat.mul_add, Nat.mul_one] at hl ⊢
  rw [sub_ok (by omega), ok_bind, Nat.and_two_pow_sub_one_eq_mod, Nat.shiftRight_eq_div_pow,
    Nat.pow_mul, Nat.add_sub_cancel_left, shl32_ok hd hb (by omega), ok_bind,
    show n + 1 + e - n = e + 1 by omega, Nat.add_sub_cancel_left,
    ← Nat.pow_mul 2 b (e + 1), Nat.mul_succ, or_eq_add_of_dvd (Nat.dvd_mul_left ..) hlt]
  -- `R * 2^(b*e + b) + d * 2^(b*e) = (R * 2^b + d) * (2^b)^e`
  rw [revDigits, Nat.add_mul, Nat.pow_add, Nat.pow_mul, Nat.mul_assoc, Nat.mul_comm (2 ^ b)]
  rfl

theorem rev_loop {b k v : Nat} (hb : 0 < b) (hl : b * k ≤ 32) (step : Nat → Nat → M Nat)
    (hstep : ∀ acc n, step acc n = (do
        let s ← sub (b * k) (b * n + b)
        let x ← shl32 ((v >>> (b * n)) &&& (2 ^ b - 1)) s
        pure (acc ||| x))) :
    ∀ n, n ≤ k → (List.range n).foldlM step 0 = .ok (revDigits (2 ^ b) n v * (2 ^ b) ^ (k - n)) := by
  intro n
  induction n with
  | zero => exact fun _ => (congrArg Except.ok (Nat.zero_mul _)).symm
  | succ n ih =>
    intro hn
    rw [List.range_succ, List.foldlM_append, ih (Nat.le_of_succ_le hn), ok_bind, List.foldlM_cons,
      hstep, rev_step hb hl hn]
    rfl

theorem reverseCode_spec {D b : Nat} (hpar : (D = 4 ∧ b = 2) ∨ (D = 2 ∧ b = 1)) {l : Nat}
    (hd : b ∣ l) (hl : l ≤ 32) (v : Nat) : reverseCode D v l = .ok (revDigits D (l / b) v) := by
  obtain ⟨k, rfl⟩ := hd
  unfold reverseCode
  rcases hpar with ⟨rfl, rfl⟩ | ⟨rfl, rfl⟩
  · rw [if_pos (by decide), Nat.mul_div_cancel_left _ (by decide : 0 < 2),
      rev_loop (by decide) hl _ (fun _ _ => rfl) k (Nat.le_refl _), Nat.sub_self, Nat.pow_zero,
      Nat.mul_one]
  · rw [if_neg (by decide), Nat.div_one, Nat.one_mul,
      rev_loop (b := 1) (k := k) (by decide) hl _ (fun _ _ => by rw [Nat.one_mul, Nat.one_mul]) k
        (Nat.le_refl _), Nat.sub_self, Nat.pow_zero, Nat.mul_one]

end Qwt.Proofs.Craft
