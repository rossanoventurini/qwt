import Qwt.Proofs.DArrayCnt
import Qwt.Proofs.DArrayInv

/-!
`DArray::select` (C07): the word-level representation predicate `BV.HoldsD`, the
word scan, and the query itself.
-/
namespace Qwt.BV

/-- the bit vector `b` holds the bit list `s`: bit `i` is bit `i % 64` of word `i / 64`,
    whole 512-bit lines are allocated, padding bits are zero, words are 64-bit values -/
structure HoldsD (b : BitVector) (s : List Bool) : Prop where
  nBits : b.nBits = s.length
  size : b.data.size = 8 * ((s.length + 511) / 512)
  lt : ∀ i (h : i < b.data.size), b.data[i] < 2 ^ 64
  bit : ∀ p, p < 64 * b.data.size → (b.data[p / 64]!).testBit (p % 64) = s.getD p false

namespace HoldsD

theorem word_lt {b : BitVector} {s : List Bool} (h : HoldsD b s) {p : Nat} (hp : p < s.length) :
    p / 64 < b.data.size := by
  have := h.size
  omega

theorem nLines_mul {b : BitVector} {s : List Bool} (h : HoldsD b s) :
    nLines b * 8 = b.data.size := by
  have := h.size
  unfold nLines
  omega

theorem word_bound {b : BitVector} {s : List Bool} (h : HoldsD b s) (i : Nat) :
    b.data[i]! < 2 ^ 64 := by
  by_cases hi : i < b.data.size
  · rw [getElem!_pos b.data i hi]; exact h.lt i hi
  · rw [getElem!_neg b.data i hi]; exact Nat.two_pow_pos 64

theorem testBit_eq {b : BitVector} {s : List Bool} (h : HoldsD b s) {p : Nat} (hp : p < s.length) :
    (b.data[p / 64]!).testBit (p % 64) = s[p] := by
  have := h.size
  rw [h.bit p (by omega), getD_of_lt hp]

end HoldsD

end Qwt.BV

namespace Qwt.DAProofs
open Qwt Qwt.DA Qwt.BV Qwt.Extracted

/-! ### effective words: the word, or its complement for `select0` -/

def effWord (bit : Bool) (b : BitVector) (i : Nat) : Nat :=
  if bit then b.data[i]! else not64 b.data[i]!

/-- the effective bit at position `p` (`true` = a match) -/
def effBit (bit : Bool) (b : BitVector) (p : Nat) : Bool :=
  (effWord bit b (p / 64)).testBit (p % 64)

theorem effWord_lt {b : BitVector} {s : List Bool} (h : HoldsD b s) (bit : Bool) (i : Nat) :
    effWord bit b i < 2 ^ 64 := by
  unfold effWord
  cases bit
  · exact not64_lt _
  · exact h.word_bound i

theorem effBit_eq {b : BitVector} {s : List Bool} (h : HoldsD b s) (bit : Bool) (p : Nat)
    (hp : p < s.length) : effBit bit b p = decide (s[p]! = bit) := by
  rw [getElem!_pos s p hp, ← h.testBit_eq hp]
  unfold effBit effWord
  cases bit
  · rw [if_neg Bool.false_ne_true, not64_testBit _ (h.word_bound _),
      decide_eq_true (Nat.mod_lt p (by decide : 0 < 64)), Bool.true_and]
    cases (b.data[p / 64]!).testBit (p % 64) <;> rfl
  · rw [if_pos rfl]
    cases (b.data[p / 64]!).testBit (p % 64) <;> rfl

theorem testBit_mask (w lo q : Nat) (hq : q < 64) :
    (w &&& (mask64 <<< lo) % two64).testBit q = (decide (lo ≤ q) && w.testBit q) := by
  have e2 : mask64 = 2 ^ 64 - 1 := by unfold mask64 two64; rfl
  rw [Nat.testBit_and, two64_eq, Nat.testBit_mod_two_pow, Nat.testBit_shiftLeft, e2,
    Nat.testBit_two_pow_sub_one]
  by_cases h : lo ≤ q
  · have : q - lo < 64 := by omega
    simp [h, hq, this, Bool.and_comm]
  · simp [h]

/-- counting the set bits of a word that shows the effective bits `≥ lo` of word `wi` -/
theorem cnt_word (T : Nat → Bool) (wi lo word : Nat)
    (hw : ∀ q, q < 64 → word.testBit q = (decide (lo ≤ q) && T (64 * wi + q)))
    (q' : Nat) (h1 : lo ≤ q') (h2 : q' ≤ 64) :
    cnt word.testBit q' + cnt T (64 * wi + lo) = cnt T (64 * wi + q') := by
  obtain ⟨d, rfl⟩ : ∃ d, q' = lo + d := ⟨q' - lo, by omega⟩
  rw [cnt_add word.testBit lo d, ← Nat.add_assoc, cnt_add T (64 * wi + lo) d]
  have z : cnt word.testBit lo = 0 := by
    apply cnt_false
    intro i hi
    rw [hw i (by omega)]
    simp [show ¬ lo ≤ i by omega]
  have e : cnt (fun i => word.testBit (lo + i)) d = cnt (fun i => T (64 * wi + lo + i)) d := by
    apply cnt_congr
    intro i hi
    rw [hw (lo + i) (by omega)]
    simp [Nat.add_assoc]
  rw [z, e]; omega

theorem effBit_word (bit : Bool) (b : BitVector) (i : Nat) {q : Nat} (hq : q < 64) :
    effBit bit b (64 * i + q) = (effWord bit b i).testBit q := by
  unfold effBit
  rw [Nat.mul_add_div (by omega), Nat.mul_add_mod, Nat.div_eq_of_lt hq, Nat.mod_eq_of_lt hq]
  rfl

theorem getWord_ok {b : BitVector} {s : List Bool} (h : HoldsD b s) (i : Nat)
    (hi : i < b.data.size) : getWord b i = .ok b.data[i]! := by
  unfold getWord
  rw [Nat.shiftRight_eq_div_pow,
    if_pos (Nat.div_lt_of_lt_mul (by rwa [Nat.mul_comm, h.nLines_mul])),
    Array.getElem?_eq_getElem hi, getElem!_pos b.data i hi]
  rfl

/-- the hypothesis on `select_in_word` (property C17) -/
def SelectInWordSpec : Prop :=
  ∀ w k, w < 2 ^ 64 → k < 128 → Utils.selectInWord w k =
    .ok (match Spec.select true k (Spec.bitsOf w 64) with | some p => p | none => 64)

theorem selectInWord_of_cnt (hsel : SelectInWordSpec) {w q r : Nat} (hw : w < 2 ^ 64)
    (hq : q < 64) (hb : w.testBit q = true) (hc : cnt w.testBit q = r) :
    Utils.selectInWord w r = .ok q := by
  have := cnt_le w.testBit q
  rw [hsel w r hw (by omega), select_bitsOf hq hb hc]

/-- The scan loop finds the word `W` of the target position `64 W + Q`, a match: it starts in
    word `wi` with `rem` matches still to skip from bit `lo` of that word on (the matches before
    that bit plus `rem` are the matches before the target), never leaves the vector, needs at
    most `W - wi + 1` rounds, and `select_in_word` then finds `Q`. -/
theorem scan_ok {b : BitVector} {s : List Bool} (h : HoldsD b s) (hsel : SelectInWordSpec)
    (bit : Bool) {W Q : Nat} (hQ : Q < 64) (hP : effBit bit b (64 * W + Q) = true)
    (hW : W < b.data.size) :
    ∀ (fuel wi word rem lo : Nat), lo < 64 → word < 2 ^ 64 →
      (∀ q, q < 64 → word.testBit q = (decide (lo ≤ q) && effBit bit b (64 * wi + q))) →
      cnt (effBit bit b) (64 * wi + lo) + rem = cnt (effBit bit b) (64 * W + Q) → W < wi + fuel →
      ∃ word' rem', scan bit b fuel wi word rem = .ok (W, word', rem') ∧
        Utils.selectInWord word' rem' = .ok Q := by
  intro fuel
  induction fuel with
  | zero =>
    intro wi _ _ lo _ _ _ hinv hf
    have := le_of_cnt_le hP (Nat.le.intro hinv)
    omega
  | succ f ih =>
    intro wi word rem lo hlo hword hw hinv hf
    have hpc := cnt_word _ wi lo word hw 64 (Nat.le_of_lt hlo) (Nat.le_refl _)
    rw [← popc_eq_cnt 64 word hword] at hpc
    rw [scan]
    by_cases hrem : rem < Qwt.popc word
    · -- the target is in this word: it is neither below the scan position nor beyond the word
      have hge := le_of_cnt_le hP (Nat.le.intro hinv)
      have hlt : 64 * W + Q < 64 * wi + 64 := (lt_iff_cnt_lt hP _).mpr (by omega)
      obtain rfl : W = wi := by omega
      have hlo' : lo ≤ Q := by omega
      have hc := cnt_word _ W lo word hw Q hlo' (Nat.le_of_lt hQ)
      refine ⟨word, rem, if_pos hrem, selectInWord_of_cnt hsel hword hQ ?_ (by omega)⟩
      rw [hw Q hQ, hP, decide_eq_true hlo']
      rfl
    · have hnext := le_of_cnt_le hP (n := 64 * wi + 64) (by omega)
      have hwi : wi + 1 ≤ W := by omega
      rw [if_neg hrem, getWord_ok h _ (Nat.lt_of_le_of_lt hwi hW)]
      exact ih (wi + 1) (effWord bit b (wi + 1)) (rem - Qwt.popc word) 0 (by decide)
        (effWord_lt h bit _)
        (fun q hq => by rw [effBit_word bit b _ hq, decide_eq_true (Nat.zero_le q), Bool.true_and])
        (by rw [Nat.add_zero, Nat.mul_succ]; omega) (by omega)

theorem select_none {bit : Bool} {d : DArray} {inv : Inventories} {i : Nat}
    (h : inv.nSets ≤ i) : DA.select bit d inv i = .ok none := by
  unfold DA.select
  rw [if_pos h]
  rfl

/-- `select` below `nSets`, with the shifts and masks written as arithmetic -/
theorem select_eq {bit : Bool} {d : DArray} {inv : Inventories} {i : Nat} (h : i < inv.nSets) :
    DA.select bit d inv i = (do
      let blockPos ← idx inv.blockInventory (i / 1024)
      if blockPos < 0 then
        let p ← idx inv.overflowPositions ((-blockPos - 1).toNat + i % 1024)
        return some p
      let off ← idx inv.subblockInventory (i / 32)
      if i % 32 = 0 then return some (blockPos.toNat + off)
      let w ← getWord d.bv ((blockPos.toNat + off) / 64)
      let (wi, word, rem) ← scan bit d.bv (nLines d.bv * 8 + 1) ((blockPos.toNat + off) / 64)
        ((if bit then w else not64 w) &&& (mask64 <<< ((blockPos.toNat + off) % 64)) % two64)
        (i % 32)
      let s ← Utils.selectInWord word rem
      return some (wi * 64 + s)) := by
  unfold DA.select
  rw [if_neg (Nat.not_le_of_lt h)]
  simp only [daBlockSize_eq, daSubblockSize_eq, Nat.and_two_pow_sub_one_eq_mod _ 10,
    Nat.and_two_pow_sub_one_eq_mod _ 5, Nat.and_two_pow_sub_one_eq_mod _ 6,
    Nat.shiftRight_eq_div_pow, Nat.shiftLeft_eq _ 6, beq_iff_eq]

/-- the word scan of `select`: from a start position `P0` with `r` matches to skip up to the
    target `P`, the scan and `select_in_word` return `P` -/
theorem select_scan {b : BitVector} {s : List Bool} (hb : HoldsD b s) (hsel : SelectInWordSpec)
    (bit : Bool) {P0 P r : Nat} (hP0 : P0 < s.length) (hPlt : P < s.length)
    (hP : effBit bit b P = true) (hr : cnt (effBit bit b) P0 + r = cnt (effBit bit b) P) :
    (do
      let w ← getWord b (P0 / 64)
      let (wi, word, rem) ← scan bit b (nLines b * 8 + 1) (P0 / 64)
        ((if bit then w else not64 w) &&& (mask64 <<< (P0 % 64)) % two64) r
      let s ← Utils.selectInWord word rem
      return some (wi * 64 + s) : M (Option Nat)) = .ok (some P) := by
  have hW := hb.word_lt hPlt
  rw [← Nat.div_add_mod P 64] at hP hr
  obtain ⟨word', rem', h1, h2⟩ := scan_ok hb hsel bit (Nat.mod_lt P (by decide)) hP hW
    (nLines b * 8 + 1) (P0 / 64) (effWord bit b (P0 / 64) &&& (mask64 <<< (P0 % 64)) % two64) r
    (P0 % 64) (Nat.mod_lt P0 (by decide))
    (Nat.lt_of_le_of_lt Nat.and_le_left (effWord_lt hb bit _))
    (fun q hq => by rw [testBit_mask _ _ _ hq, effBit_word bit b _ hq])
    (by rw [Nat.div_add_mod]; exact hr) (by rw [hb.nLines_mul]; omega)
  rw [getWord_ok hb _ (hb.word_lt hP0)]
  show (scan bit b _ _ (effWord bit b (P0 / 64) &&& _) r >>= _) = _
  rw [h1]
  show (Utils.selectInWord word' rem' >>= _) = _
  rw [h2]
  show Except.ok (some (P / 64 * 64 + P % 64)) = _
  rw [Nat.div_add_mod']

/-- the hypothesis on the position iterator of the bit vector (property C08): it yields
    the positions of `bit` in `s` in increasing order -/
def PosIterSpec (b : BitVector) (s : List Bool) : Prop :=
  ∀ bit, PosIter.collect bit b (b.nBits + 1) PosIter.new =
    (List.range s.length).filter (fun i => s[i]! = bit)

/-- `select` on a vector holding `s`, for any inventories that satisfy the invariant for a
    list `ps` enumerating the matches in order: entry `k` is a match with `k` matches below it -/
theorem select_of_invSpec {b : BitVector} {s : List Bool} (hb : HoldsD b s) (bit : Bool)
    (hsel : SelectInWordSpec) {d : DArray} (hd : d.bv = b) {inv : Inventories} {ps : List Nat}
    (hn : inv.nSets = ps.length) (hinv : InvSpec ps inv)
    (hps : ∀ k, k < ps.length → ps.getD k 0 < s.length ∧ effBit bit b (ps.getD k 0) = true ∧
      cnt (effBit bit b) (ps.getD k 0) = k) (k : Nat) :
    DA.select bit d inv k = .ok ps[k]? := by
  by_cases hk : k < ps.length
  case neg => rw [select_none (by omega), List.getElem?_eq_none (by omega)]
  have hmono : ∀ i j, i ≤ j → j < ps.length → ps.getD i 0 ≤ ps.getD j 0 := fun i j hij hj =>
    le_of_cnt_le (hps j hj).2.1 (by rw [(hps i (by omega)).2.2, (hps j hj).2.2]; exact hij)
  have hres : ps[k]? = some (ps.getD k 0) := by
    rw [getD_of_lt hk, List.getElem?_eq_getElem hk]
  rw [select_eq (by omega), hres]
  have hg : 1024 * (k / 1024) < ps.length := Nat.lt_of_le_of_lt (Nat.mul_div_le k 1024) hk
  by_cases hdense : ps.getD (min (1024 * (k / 1024) + 1023) (ps.length - 1)) 0
      - ps.getD (1024 * (k / 1024)) 0 < 65536
  · -- dense group: entry `k / 32 % 32` of the group gives the position of match `32 (k / 32)`
    have hk32 : 32 * (k / 32) < ps.length := Nat.lt_of_le_of_lt (Nat.mul_div_le k 32) hk
    have e1 : 32 * (k / 1024) + k / 32 % 32 = k / 32 := by
      rw [← Nat.div_div_eq_div_mul k 32 32]
      exact Nat.div_add_mod (k / 32) 32
    have e2 : 1024 * (k / 1024) + 32 * (k / 32 % 32) = 32 * (k / 32) := by omega
    obtain ⟨off, h1, h2, h3, -⟩ := hinv.dense_start hmono (g := k / 1024) (j := k / 32 % 32)
      (Nat.mod_lt _ (by decide)) (by rw [e2]; exact hk32) hdense
    rw [e1] at h2
    rw [e2] at h3
    rw [idx_of_some h1, idx_of_some h2]
    simp only [bind, Except.bind, Int.ofNat_eq_natCast]
    rw [if_neg (Int.not_lt.mpr (Int.natCast_nonneg _)), Int.toNat_natCast, h3]
    by_cases hrem : k % 32 = 0
    · rw [if_pos hrem, Nat.mul_div_cancel' (Nat.dvd_of_mod_eq_zero hrem)]
      rfl
    · rw [if_neg hrem, hd]
      obtain ⟨hP0, -, hc0⟩ := hps (32 * (k / 32)) hk32
      obtain ⟨hP, hPT, hc⟩ := hps k hk
      exact select_scan hb hsel bit hP0 hP hPT (by rw [hc0, hc]; exact Nat.div_add_mod k 32)
  · -- sparse group: the position is stored
    obtain ⟨off, h1, h2⟩ := hinv.sparse _ hg hdense
    have h2 := h2 (k % 1024) (Nat.mod_lt _ (by decide)) (by rw [Nat.div_add_mod]; exact hk)
    rw [Nat.div_add_mod] at h2
    rw [idx_of_some h1]
    simp only [bind, Except.bind, Int.ofNat_eq_natCast]
    rw [if_pos (by omega), show (-(-(off : Int) - 1) - 1).toNat = off by omega,
      idx_of_some h2]
    rfl

theorem select_of_positions {b : BitVector} {s : List Bool} (hb : HoldsD b s) (bit : Bool)
    (hsel : SelectInWordSpec) {d : DArray} (hd : d.bv = b) {inv : Inventories} {ps : List Nat}
    (hps : ps = (List.range s.length).filter (fun i => decide (s[i]! = bit)))
    (hn : inv.nSets = ps.length) (hinv : InvSpec ps inv) (k : Nat) :
    DA.select bit d inv k = .ok ps[k]? := by
  have e : ps = (List.range s.length).filter (effBit bit b) :=
    hps.trans (List.filter_congr fun i hi => (effBit_eq hb bit i (List.mem_range.mp hi)).symm)
  refine select_of_invSpec hb bit hsel hd hn hinv (fun k hk => ?_) k
  rw [e, length_filter_range] at hk
  rw [e]
  exact filter_range_getD _ _ hk

end Qwt.DAProofs
