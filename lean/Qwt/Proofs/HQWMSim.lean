import Qwt.Proofs.Basic
import Qwt.Proofs.Interfaces
import Qwt.Proofs.HQWMValid
import Qwt.Proofs.BinHWMInv

/-!
Simulation for the Huffman-shaped quad wavelet matrix (`Qwt.Huff.HQWT`): the model loops, run
on levels representing (`RSQ.Represents`) the digit lists of the list-level Huffman quad
matrix (`HQWM.lean`, `HQWMSelect.lean`), compute its walks.  Each walk is an induction on the
number `m` of levels left below the current one (`levels_left`, `tb_eq`).

From the binary tree files this one takes `BinWM.DecOK`: code table and decode tables are the
same structures in both Huffman-shaped trees, and so is what `get` needs from the decode
tables.  The import of `BinHWMInv` also serves the files that follow, which take the facts about
that shared table (`code_lookup`, `lt_two64`, `decodeTables_ok`, `len_le_maxLen`) from there.
-/

namespace Qwt.HQWM
open Qwt Qwt.Huff
open Qwt.BinWM (DecOK)
open Qwt.WM (shift_succ shift_ge)

/-- the levels of the model represent the digit lists of the list-level Huffman matrix of `S` -/
structure LevelsQ (B : Nat) (codes : Array PrefixCode) (S : List Nat) (t : HQWT) : Prop where
  size_eq : t.qvs.size = t.nLevels
  lens_size : t.lens.size = t.nLevels
  repr : ∀ k (h : k < t.qvs.size),
    RSQ.Represents B t.qvs[k] (digsQ (qdig codes) (qlen codes) k S)
  lens_eq : ∀ k (h : k < t.lens.size), t.lens[k] = (lvlQ (qdig codes) (qlen codes) k S).length
  len_le : ∀ x ∈ S, qlen codes x ≤ t.nLevels

theorem two_qlen {codes : Array PrefixCode} {c : Nat} (hev : 2 ∣ codes[c]!.len) :
    2 * qlen codes c = codes[c]!.len := by
  unfold qlen; omega

variable {codes : Array PrefixCode} {S : List Nat} {t : HQWT}

theorem LevelsQ.level {B : Nat} (hlv : LevelsQ B codes S t) {c : Nat} (hc : c ∈ S) {k : Nat}
    (hk : k < qlen codes c) :
    ∃ r, idx t.qvs k = .ok r ∧ RSQ.Represents B r (digsQ (qdig codes) (qlen codes) k S) :=
  have hks : k < t.qvs.size := hlv.size_eq ▸ Nat.lt_of_lt_of_le hk (hlv.len_le c hc)
  ⟨_, idx_ok (h := hks), hlv.repr k hks⟩

theorem levels_left {k m q : Nat} (h : k + (m + 1) = q) : k < q ∧ k + 1 + m = q := by omega

/-- with `m` levels left below level `k` the model shifts by `2 * m` (as an `Int`,
    `↑(2 * (m + 1)) - 2` where a walk is entered, see `WM.shift_succ`): the two bits it extracts
    are digit `k` -/
theorem tb_eq {codes : Array PrefixCode} {c k m : Nat} (hev : 2 ∣ codes[c]!.len)
    (h : k + (m + 1) = qlen codes c) :
    (codes[c]!.content >>> (2 * m)) &&& 3 = qdig codes k c := by
  have e : codes[c]!.len - 2 * (k + 1) = 2 * m := by rw [← two_qlen hev, ← h]; omega
  rw [and3, qdig, e]

theorem rankGo_ok (cfg : Cfg) (h : QOK (qdig codes) (qlen codes) S)
    (hlv : LevelsQ cfg.B codes S t) {c : Nat} (hc : c ∈ S) (hev : 2 ∣ codes[c]!.len)
    (i m k : Nat) (hmk : k + m = qlen codes c) :
    rankUnchecked.go cfg t codes[c]! (m + 1) k (((2 * m : Nat) : Int) - 2)
        (blkStartQ (qdig codes) (qlen codes) c S k + cntR (qdig codes) (qlen codes) c S k i)
        (blkStartQ (qdig codes) (qlen codes) c S k) =
      .ok (blkStartQ (qdig codes) (qlen codes) c S (qlen codes c)
             + cntR (qdig codes) (qlen codes) c S (qlen codes c) i,
           blkStartQ (qdig codes) (qlen codes) c S (qlen codes c)) := by
  induction m generalizing k with
  | zero =>
    obtain rfl : k = qlen codes c := hmk
    rw [rankUnchecked.go, if_neg (by decide)]
    rfl
  | succ m ih =>
    obtain ⟨hk, hmk'⟩ := levels_left hmk
    obtain ⟨r, hidx, hr⟩ := hlv.level hc hk
    have hd := Nat.le_of_lt_succ (qdig_lt codes k c)
    have hi := blkStartQ_cnt_le h hc k hk i
    rw [shift_succ, rankUnchecked.go, cntR_eq_cntP h hc hk]
    simp only [if_pos (Int.natCast_nonneg _), Int.toNat_natCast, tb_eq hev hmk, hidx,
      ok_bind, hr.occsSmallerU _ _ hd, hr.rankU _ _ _ hd hi,
      hr.rankU _ _ _ hd (Nat.le_trans (Nat.le_add_right _ _) hi)]
    have hw := walk_stepQ h hc k hk i
    rw [nextPos] at hw
    rw [hw]
    exact ih (k + 1) hmk'

def pathOfQ (δ : Nat → Nat → Nat) (len : Nat → Nat) (c : Nat) (S : List Nat) :
    Nat → List (Nat × Nat)
  | 0 => []
  | k + 1 => (blkStartQ δ len c S k, Spec.rank (δ k c) (blkStartQ δ len c S k) (digsQ δ len k S))
      :: pathOfQ δ len c S k

theorem pathOfQ_length (δ : Nat → Nat → Nat) (len : Nat → Nat) (c : Nat) (S : List Nat) (k : Nat) :
    (pathOfQ δ len c S k).length = k := by
  induction k with
  | zero => rfl
  | succ k ih => rw [pathOfQ, List.length_cons, ih]

theorem selectDownQ_ok (cfg : Cfg) (h : QOK (qdig codes) (qlen codes) S)
    (hlv : LevelsQ cfg.B codes S t) {c : Nat} (hc : c ∈ S) (hev : 2 ∣ codes[c]!.len)
    (m k : Nat) (hmk : k + m = qlen codes c) :
    selectDown cfg t codes[c]! (m + 1) k (blkStartQ (qdig codes) (qlen codes) c S k)
        (((2 * m : Nat) : Int) - 2) (pathOfQ (qdig codes) (qlen codes) c S k) =
      .ok (some (pathOfQ (qdig codes) (qlen codes) c S (qlen codes c))) := by
  induction m generalizing k with
  | zero =>
    obtain rfl : k = qlen codes c := hmk
    rw [selectDown, if_neg (by decide)]
    rfl
  | succ m ih =>
    obtain ⟨hk, hmk'⟩ := levels_left hmk
    obtain ⟨r, hidx, hr⟩ := hlv.level hc hk
    have hd := Nat.le_of_lt_succ (qdig_lt codes k c)
    have hp := Nat.le_trans (Nat.le_add_right _ _) (blkStartQ_cnt_le h hc k hk 0)
    rw [shift_succ, selectDown]
    simp only [if_pos (Int.natCast_nonneg _), Int.toNat_natCast, tb_eq hev hmk, hidx,
      ok_bind, hr.rank, if_pos (And.intro hd hp), hr.occsSmallerU _ _ hd]
    exact ih (k + 1) hmk'

theorem two64_eq : two64 = 2 ^ 64 := by decide

theorem selectUpQ_ok (cfg : Cfg) (hlv : LevelsQ cfg.B codes S t) (hS : S.length < two64)
    {c : Nat} (hc : c ∈ S) (hev : 2 ∣ codes[c]!.len) (k m res : Nat)
    (hmk : k + m = qlen codes c) :
    selectUp cfg t codes[c]! (pathOfQ (qdig codes) (qlen codes) c S k) (k - 1) (2 * m) res =
      .ok (selUpQ (qdig codes) (qlen codes) c S k res) := by
  induction k generalizing m res with
  | zero => rfl
  | succ k ih =>
    have hmk' : k + (m + 1) = qlen codes c := (Nat.add_right_comm k m 1).trans hmk
    obtain ⟨r, hidx, hr⟩ := hlv.level hc (levels_left hmk').1
    have hd := Nat.le_of_lt_succ (qdig_lt codes k c)
    rw [pathOfQ, selectUp, Nat.add_sub_cancel, selUpQ]
    simp only [tb_eq hev hmk', hidx, ok_bind, hr.select, if_pos hd]
    cases hq : Spec.select (qdig codes k c)
        (Spec.rank (qdig codes k c) (blkStartQ (qdig codes) (qlen codes) c S k)
          (digsQ (qdig codes) (qlen codes) k S) + res)
        (digsQ (qdig codes) (qlen codes) k S) with
    | none => split <;> rfl
    | some q =>
      -- no overflow: an answer exists only below the number of occurrences, at most `S.length`
      have hlt := Nat.lt_of_not_le (fun hle => by rw [Proofs.Word.select_none _ _ _ hle] at hq; cases hq)
      have hcnt := List.count_le_length (a := qdig codes k c)
        (l := digsQ (qdig codes) (qlen codes) k S)
      have hlen : (digsQ (qdig codes) (qlen codes) k S).length ≤ S.length := by
        rw [digsQ, List.length_map]; exact lvlQ_length_le _ _ _ _
      have hb : blkStartQ (qdig codes) (qlen codes) c S k ≤ q := WM.select_rank_add_ge hq
      rw [if_neg (Nat.not_le.mpr (Nat.lt_of_lt_of_le hlt (Nat.le_trans hcnt (Nat.le_trans hlen
        (Nat.le_of_lt hS)))))]
      simp only [ok_bind, sub_ok (h := hb)]
      exact ih (m + 1) _ hmk'

/-- appending the next two-bit fragment to the accumulated prefix of the code -/
theorem acc_step4 (y : Nat) (hy : y < 2 ^ 32) : ((y >>> 2) <<< 2) % Huff.two32 ||| y % 4 = y := by
  have h2 : (y >>> 2) <<< 2 = y / 4 * 4 := by
    rw [Nat.shiftRight_eq_div_pow, Nat.shiftLeft_eq]
  have h3 : (y >>> 2) <<< 2 < Huff.two32 := by rw [h2, show Huff.two32 = 2 ^ 32 from rfl]; omega
  rw [Nat.mod_eq_of_lt h3, ← Nat.shiftLeft_add_eq_or_of_lt (show y % 4 < 2 ^ 2 by omega), h2]
  omega

theorem getGo_ok (cfg : Cfg) (h : QOK (qdig codes) (qlen codes) S)
    (hlv : LevelsQ cfg.B codes S t) (x j : Nat) (hj : S[j]? = some x)
    (hcont : codes[x]!.content < 2 ^ 32) (hev : 2 ∣ codes[x]!.len)
    (f m k : Nat) (hfk : f + k = t.nLevels) (hmk : k + m = qlen codes x) :
    getUnchecked.go cfg t f k (codes[x]!.content >>> (2 * m))
        (trackQ (qdig codes) (qlen codes) S x j k) (2 * k) =
      .ok (codes[x]!.content, codes[x]!.len) := by
  have hxS : x ∈ S := List.mem_of_getElem? hj
  have hle := hlv.len_le x hxS
  -- where the walk stops all of the code has been read
  have hend : ∀ k, k + 0 = qlen codes x →
      (Except.ok (codes[x]!.content >>> (2 * 0), 2 * k) : M (Nat × Nat)) =
        .ok (codes[x]!.content, codes[x]!.len) := by
    intro k hk
    rw [← two_qlen hev, ← hk]
    rfl
  induction f generalizing k m with
  | zero =>
    obtain rfl : m = 0 := by omega
    exact hend k hmk
  | succ f ih =>
    have hkl : k < t.lens.size := by rw [hlv.lens_size]; omega
    rw [getUnchecked.go, idx_ok (h := hkl), ok_bind, hlv.lens_eq k hkl]
    cases m with
    | zero =>
      obtain ⟨k', rfl⟩ : ∃ k', k = k' + 1 := ⟨k - 1, by have := h.pos x hxS; omega⟩
      rw [if_pos (track_endQ h x j hj k' hmk)]
      exact hend _ hmk
    | succ m =>
      obtain ⟨hk, hmk'⟩ := levels_left hmk
      obtain ⟨r, hidx, hr⟩ := hlv.level hxS hk
      have hlt := track_ltQ h x j hj k hk
      have hd := Nat.le_of_lt_succ (qdig_lt codes k x)
      have hlt1 : trackQ (qdig codes) (qlen codes) S x j k
          < (digsQ (qdig codes) (qlen codes) k S).length := by rw [digsQ, List.length_map]; exact hlt
      have hgetD : (digsQ (qdig codes) (qlen codes) k S).getD
          (trackQ (qdig codes) (qlen codes) S x j k) 0 = qdig codes k x := by
        rw [List.getD_eq_getElem?_getD, digsQ_track h x j hj k hk]; rfl
      have hacc : (((codes[x]!.content >>> (2 * (m + 1))) <<< 2) % Huff.two32
          ||| qdig codes k x) = codes[x]!.content >>> (2 * m) := by
        rw [← tb_eq hev hmk, and3]
        exact acc_step4 _ (Nat.lt_of_le_of_lt (Nat.shiftRight_le _ _) hcont)
      simp only [if_neg (Nat.not_le.mpr hlt), hidx, ok_bind, hr.getU _ _ hlt1, hgetD,
        hr.occsSmallerU _ _ hd, hr.rankU _ _ _ hd (Nat.le_of_lt hlt1), hacc]
      exact ih m (k + 1) (by omega) hmk'

theorem getUncheckedQ_ok (cfg : Cfg) (h : QOK (qdig codes) (qlen codes) S)
    (hlv : LevelsQ cfg.B codes S t) (hd : DecOK codes t.codesDecode S)
    (x j : Nat) (hj : S[j]? = some x) (hev : 2 ∣ codes[x]!.len)
    (hcont : codes[x]!.content < 2 ^ codes[x]!.len) (hl32 : codes[x]!.len ≤ 32)
    (hx : x < 2 ^ cfg.W) :
    Huff.getUnchecked cfg t j = .ok x := by
  have hc32 : codes[x]!.content < 2 ^ 32 :=
    Nat.lt_of_lt_of_le hcont (Nat.pow_le_pow_right (by omega) hl32)
  have hgo := getGo_ok cfg h hlv x j hj hc32 hev t.nLevels (qlen codes x) 0 rfl (Nat.zero_add _)
  rw [two_qlen hev, Nat.shiftRight_eq_div_pow, Nat.div_eq_of_lt hcont, trackQ] at hgo
  obtain ⟨tbl, htbl, hfind⟩ := hd x (List.mem_of_getElem? hj)
  obtain ⟨hlt, hget⟩ := Array.getElem?_eq_some_iff.mp htbl
  have hidx : idx t.codesDecode codes[x]!.len = .ok tbl := hget ▸ idx_ok (h := hlt)
  simp only [Huff.getUnchecked, hgo, ok_bind, hidx, hfind, hx, if_true]
  rfl

theorem nextPos_mono (d : Nat) (ds : List Nat) {a b : Nat} (hab : a ≤ b) :
    nextPos d ds a ≤ nextPos d ds b :=
  Nat.add_le_add_right (Spec.rank_mono d ds hab) _

/-- the estimates `s`, `e` stay at or below the position the rank walk of `i` has at the level -/
theorem phase2Go_ok (cfg : Cfg) (h : QOK (qdig codes) (qlen codes) S)
    (hlv : LevelsQ cfg.B codes S t) {c : Nat} (hc : c ∈ S) (hev : 2 ∣ codes[c]!.len)
    (i f m k s e : Nat) (hmk : k + (m + 1) = qlen codes c)
    (hs : s ≤ blkStartQ (qdig codes) (qlen codes) c S k + cntP (qdig codes) (qlen codes) c S k i)
    (he : e ≤ blkStartQ (qdig codes) (qlen codes) c S k + cntP (qdig codes) (qlen codes) c S k i) :
    pfsPhase2.go cfg t codes[c]! f k (((2 * (m + 1) : Nat) : Int) - 2) s e = .ok () := by
  induction f generalizing m k s e with
  | zero => rfl
  | succ f ih =>
    rw [shift_succ, pfsPhase2.go]
    cases m with
    | zero => rfl
    | succ m =>
      obtain ⟨hk, hmk'⟩ := levels_left hmk
      have hk1 : k + 1 < qlen codes c := by omega
      obtain ⟨r, hidx, hr⟩ := hlv.level hc hk
      obtain ⟨r', hidx', -⟩ := hlv.level hc hk1
      have hd := Nat.le_of_lt_succ (qdig_lt codes k c)
      have hT := blkStartQ_cnt_le h hc k hk i
      have htb : ((codes[c]!.content >>> (2 * (m + 1))) % 256) &&& 3 = qdig codes k c := by
        rw [and3, Nat.mod_mod_of_dvd _ (by decide : 4 ∣ 256), ← and3]
        exact tb_eq hev hmk
      obtain ⟨vs, hvs, hles⟩ := hr.rankBlock cfg.dbg _ s hd (Nat.le_trans hs hT)
      obtain ⟨ve, hve, hlee⟩ := hr.rankBlock cfg.dbg _ e hd (Nat.le_trans he hT)
      simp only [if_pos (shift_ge m), Int.toNat_natCast, htb, hidx, hidx', ok_bind,
        hr.occsSmallerU _ _ hd, hvs, hve]
      have hw := walk_stepQ h hc k hk i
      rw [cntR_eq_cntP h hc hk1, nextPos] at hw
      have m1 := nextPos_mono (qdig codes k c) (digsQ (qdig codes) (qlen codes) k S) hs
      have m2 := nextPos_mono (qdig codes k c) (digsQ (qdig codes) (qlen codes) k S) he
      rw [nextPos, nextPos, hw] at m1 m2
      exact ih m (k + 1) _ _ hmk' (Nat.le_trans (Nat.add_le_add_right hles _) m1)
        (Nat.le_trans (Nat.add_le_add_right hlee _) m2)

end Qwt.HQWM
