import Qwt.Proofs.WaveletMatrix
import Qwt.Proofs.BinWMSelect

/-!
Pure list-level Huffman-shaped QUAD wavelet matrix (property C02, `HuffQWaveletTree`):
an element with a code of `len x` base-4 digits takes part in levels `0 … len x − 1` only.
Level `k` stores the digits `δ k` of the *live* elements (`k < len x`); the next level is the
stable 4-way partition of the live elements with the ended ones removed.  The validity
condition `QOK` (what `WMValid 4` gives): every element has a non-empty code, the table is
prefix-free, and in every partitioned level the continuing elements precede the ending ones.
The plain matrix of C01 is the case of codes of one length (end of the file; `HQWMPlain.lean`).
-/

namespace Qwt.HQWM
open Qwt

variable {α : Type}

/-- the live elements of level `k` -/
def lvlQ (δ : Nat → α → Nat) (len : α → Nat) : Nat → List α → List α
  | 0, S => S
  | k + 1, S =>
    (Spec.stablePart (δ k) 4 (lvlQ δ len k S)).filter (fun x => decide (k + 1 < len x))

/-- the digit list of level `k` -/
def digsQ (δ : Nat → α → Nat) (len : α → Nat) (k : Nat) (S : List α) : List Nat :=
  (lvlQ δ len k S).map (δ k)

-- `nextPos` is used under this namespace by the files that build on it
export Qwt.WM (nextPos)

/-- `x` agrees with `c` on the digits of levels `< k` -/
def agQ (δ : Nat → α → Nat) (c : α) (k : Nat) (x : α) : Bool :=
  (List.range k).all (fun j => δ j x == δ j c)

/-- validity of the code assignment for the sequence `S` -/
structure QOK (δ : Nat → α → Nat) (len : α → Nat) (S : List α) : Prop where
  pos : ∀ x ∈ S, 0 < len x
  dlt : ∀ k x, δ k x < 4
  /-- prefix-free -/
  pf : ∀ x ∈ S, ∀ y ∈ S, len x ≤ len y → (∀ j, j < len x → δ j x = δ j y) → x = y
  /-- matrix order: after the partition of level `k` the continuing elements come first -/
  pre : ∀ k, (Spec.stablePart (δ k) 4 (lvlQ δ len k S)).Pairwise
    (fun a b => k + 1 < len b → k + 1 < len a)

/-- `x` is live at level `k` and agrees with `c` on the digits of the levels before -/
def agP (δ : Nat → α → Nat) (len : α → Nat) (c : α) (k : Nat) (x : α) : Bool :=
  agQ δ c k x && decide (k < len x)

/-- `x` has at least `k` digits and agrees with `c` on them: what one level hands to the next
    (`agP_and_dig`); below the end of `c` it is `agP` again (`agR_eq_agP`) -/
def agR (δ : Nat → α → Nat) (len : α → Nat) (c : α) (k : Nat) (x : α) : Bool :=
  agQ δ c k x && decide (k ≤ len x)

/-- a key the walks can follow down to level `len c`: an element of `S` or, as in a matrix
    whose codes all have one length, a key at most as long as every code -/
def Findable (len : α → Nat) (S : List α) (c : α) : Prop :=
  c ∈ S ∨ ∀ x ∈ S, len c ≤ len x

/-- start of the block of `c` at level `k` -/
def blkStartQ (δ : Nat → α → Nat) (len : α → Nat) (c : α) (S : List α) : Nat → Nat
  | 0 => 0
  | k + 1 => nextPos (δ k c) (digsQ δ len k S) (blkStartQ δ len c S k)

theorem agQ_zero (δ : Nat → α → Nat) (c x : α) : agQ δ c 0 x = true := by simp [agQ]

theorem agQ_succ (δ : Nat → α → Nat) (c : α) (k : Nat) (x : α) :
    agQ δ c (k + 1) x = (agQ δ c k x && (δ k x == δ k c)) := by
  simp [agQ, List.range_succ, List.all_append]

theorem agQ_self (δ : Nat → α → Nat) (c : α) (k : Nat) : agQ δ c k c = true := by
  simp [agQ]

theorem agQ_bit (δ : Nat → α → Nat) (c x : α) {j k : Nat} (h : j < k)
    (hk : agQ δ c k x = true) : δ j x = δ j c := by
  simp only [agQ, List.all_eq_true, List.mem_range] at hk
  simpa using hk j h

theorem mem_stablePart_iff (key : α → Nat) (r : Nat) (s : List α) (x : α) :
    x ∈ Spec.stablePart key r s ↔ x ∈ s ∧ key x < r := by
  simp only [Spec.stablePart, List.mem_flatMap, List.mem_range, List.mem_filter, beq_iff_eq]
  constructor
  · rintro ⟨d, hd, hx, rfl⟩; exact ⟨hx, hd⟩
  · rintro ⟨hx, hd⟩; exact ⟨key x, hd, hx, rfl⟩

/-- block step: a block `B` of `l` is sent to the sub-block of its `d`-elements -/
theorem part_blockQ (key : α → Nat) (d : Nat) {r : Nat} (hd : d < r) (A B C : List α) :
    ∃ A' C', Spec.stablePart key r (A ++ B ++ C) = A' ++ B.filter (fun x => key x == d) ++ C' ∧
      A'.length = nextPos d ((A ++ B ++ C).map key) A.length := by
  obtain ⟨C0, hC0⟩ := WM.stablePart_split key (A ++ B ++ C) hd
  refine ⟨Spec.stablePart key d (A ++ B ++ C) ++ A.filter (fun x => key x == d),
    C.filter (fun x => key x == d) ++ C0, ?_, ?_⟩
  · rw [hC0]; simp [List.filter_append, List.append_assoc]
  · rw [List.length_append, WM.length_stablePart, nextPos, WM.rank_map, WM.occsSmaller_map,
      BinWM.take_block_start, List.countP_eq_length_filter]
    omega

theorem nextPos_block (key : α → Nat) (d : Nat) (A B C : List α) (j : Nat) (hj : j ≤ B.length) :
    nextPos d ((A ++ B ++ C).map key) (A.length + j) =
      nextPos d ((A ++ B ++ C).map key) A.length + (B.take j).countP (fun x => key x == d) := by
  unfold nextPos
  rw [WM.rank_map, WM.rank_map, BinWM.take_block_start, BinWM.take_block _ _ _ _ hj,
    List.countP_append]
  omega

theorem part_getQ (key : α → Nat) (l : List α) (j : Nat) (x : α) (h : l[j]? = some x)
    (hk : key x < 4) : (Spec.stablePart key 4 l)[nextPos (key x) (l.map key) j]? = some x :=
  WM.part_pos key l hk h rfl

theorem lvlQ_subset (δ : Nat → α → Nat) (len : α → Nat) (S : List α) (k : Nat) :
    ∀ x ∈ lvlQ δ len k S, x ∈ S := by
  induction k with
  | zero => intro x hx; exact hx
  | succ k ih =>
    intro x hx
    rw [lvlQ, List.mem_filter, mem_stablePart_iff] at hx
    exact ih x hx.1.1

theorem lvlQ_length_le (δ : Nat → α → Nat) (len : α → Nat) (k : Nat) (S : List α) :
    (lvlQ δ len k S).length ≤ S.length := by
  induction k with
  | zero => exact Nat.le_refl _
  | succ k ih =>
    rw [lvlQ]
    refine Nat.le_trans (List.length_filter_le _ _) ?_
    rw [WM.length_stablePart]
    exact Nat.le_trans List.countP_le_length ih

theorem lvlQ_live (δ : Nat → α → Nat) (len : α → Nat) (S : List α)
    (hpos : ∀ x ∈ S, 0 < len x) (k : Nat) : ∀ x ∈ lvlQ δ len k S, k < len x := by
  cases k with
  | zero => exact hpos
  | succ k =>
    intro x hx
    rw [lvlQ, List.mem_filter] at hx
    simpa using hx.2

theorem agP_and_dig (δ : Nat → α → Nat) (len : α → Nat) (c : α) (k : Nat) (x : α) :
    (agP δ len c k x && (δ k x == δ k c)) = agR δ len c (k + 1) x := by
  unfold agP agR
  rw [agQ_succ]
  have : decide (k < len x) = decide (k + 1 ≤ len x) := rfl
  rw [this]
  cases agQ δ c k x <;> cases (δ k x == δ k c) <;> cases decide (k + 1 ≤ len x) <;> rfl

theorem agR_and_live (δ : Nat → α → Nat) (len : α → Nat) (c : α) (k : Nat) (x : α) :
    (agR δ len c k x && decide (k < len x)) = agP δ len c k x := by
  unfold agP agR
  by_cases h : k < len x
  · have h' : k ≤ len x := by omega
    simp [h, h']
  · simp [h]

variable {δ : Nat → α → Nat} {len : α → Nat} {S : List α}

/-- below the length of `c`, having `k` agreeing digits means being live: by prefix-freeness
    for `c ∈ S`, because nothing ends before `c` does otherwise -/
theorem agR_eq_agP (h : QOK δ len S)
    {c : α} (hc : Findable len S c) {k : Nat} (hk : k < len c) {x : α} (hx : x ∈ S) :
    agR δ len c k x = agP δ len c k x := by
  unfold agR agP
  cases hag : agQ δ c k x
  · rfl
  · by_cases hl : k < len x
    · simp [hl, Nat.le_of_lt hl]
    · by_cases hl2 : k ≤ len x
      · exfalso
        rcases hc with hc | hc
        · have := h.pf x hx c hc (by omega) (fun j hj => agQ_bit δ c x (by omega) hag)
          subst this; omega
        · have := hc x hx; omega
      · simp [hl, hl2]

/-- at the full length of `c`, agreeing means being (a copy of) `c` -/
theorem agR_full (h : QOK δ len S)
    {c : α} (hc : c ∈ S) [BEq α] [LawfulBEq α] {x : α} (hx : x ∈ S) :
    agR δ len c (len c) x = (x == c) := by
  by_cases hxc : x = c
  · subst hxc; simp [agR, agQ_self]
  · have : (x == c) = false := by simpa using hxc
    rw [this]
    unfold agR
    cases hag : agQ δ c (len c) x
    · rfl
    · by_cases hl : len c ≤ len x
      · exfalso
        apply hxc
        exact (h.pf c hc x hx hl (fun j hj => (agQ_bit δ c x hj hag).symm)).symm
      · simp [hl]

/-- for `k < len c` the live elements agreeing with `c` on `k` digits form a contiguous block
    of level `k`, in original order, starting at `blkStartQ k` -/
theorem blkQ (h : QOK δ len S)
    {c : α} (hc : Findable len S c) (k : Nat) (hk : k < len c) :
    ∃ A C, lvlQ δ len k S = A ++ S.filter (agP δ len c k) ++ C ∧
      A.length = blkStartQ δ len c S k := by
  induction k with
  | zero =>
    refine ⟨[], [], ?_, rfl⟩
    simp only [lvlQ, List.nil_append, List.append_nil]
    symm
    apply List.filter_eq_self.mpr
    intro x hx
    simp [agP, agQ_zero, h.pos x hx]
  | succ k ih =>
    obtain ⟨A, C, h1, h2⟩ := ih (by omega)
    obtain ⟨A', C', h3, h4⟩ :=
      part_blockQ (δ k) (δ k c) (h.dlt k c) A (S.filter (agP δ len c k)) C
    -- what precedes the block continues: by the matrix order when `c`, which continues, is in
    -- the block; because nothing ends before `c` does otherwise
    have hA' : A'.filter (fun x => decide (k + 1 < len x)) = A' := by
      apply List.filter_eq_self.mpr
      intro a ha
      rcases hc with hc | hc
      · have hpre := h.pre k
        rw [h1, h3, List.append_assoc, List.pairwise_append] at hpre
        have hcB : c ∈ (S.filter (agP δ len c k)).filter (fun x => δ k x == δ k c) := by
          simp only [List.mem_filter]
          refine ⟨⟨hc, ?_⟩, by simp⟩
          simp [agP, agQ_self]; omega
        simpa using hpre.2.2 a ha c (List.mem_append.mpr (Or.inl hcB)) hk
      · have haS : a ∈ S := lvlQ_subset δ len S k a
          (((mem_stablePart_iff _ _ _ _).mp (by rw [h1, h3]; simp [ha])).1)
        have := hc a haS
        simp; omega
    refine ⟨A', C'.filter (fun x => decide (k + 1 < len x)), ?_, ?_⟩
    · rw [lvlQ, h1, h3, List.filter_append, List.filter_append, hA']
      congr 2
      rw [List.filter_filter, List.filter_filter]
      apply List.filter_congr
      intro x _
      rw [← agR_and_live (k := k + 1), ← agP_and_dig]
      cases decide (k + 1 < len x) <;> cases (δ k x == δ k c) <;> cases agP δ len c k x <;> rfl
    · rw [h4, blkStartQ, digsQ, h1, h2]

/-- numbers of elements of `S[0..i)` in the block -/
def cntP (δ : Nat → α → Nat) (len : α → Nat) (c : α) (S : List α) (k i : Nat) : Nat :=
  (S.take i).countP (agP δ len c k)

def cntR (δ : Nat → α → Nat) (len : α → Nat) (c : α) (S : List α) (k i : Nat) : Nat :=
  (S.take i).countP (agR δ len c k)

theorem cntP_le (δ : Nat → α → Nat) (len : α → Nat) (c : α) (S : List α) (k i : Nat) :
    cntP δ len c S k i ≤ (S.filter (agP δ len c k)).length := by
  unfold cntP
  rw [← List.countP_eq_length_filter]
  exact (List.take_sublist i S).countP_le

theorem Findable.cntR_eq_cntP {c : α}
    (hc : Findable len S c) (h : QOK δ len S) {k : Nat} (hk : k < len c) (i : Nat) :
    cntR δ len c S k i = cntP δ len c S k i := by
  unfold cntR cntP
  apply List.countP_congr
  intro x hx
  rw [agR_eq_agP h hc hk (List.mem_of_mem_take hx)]

theorem cntR_eq_cntP (h : QOK δ len S)
    {c : α} (hc : c ∈ S) {k : Nat} (hk : k < len c) (i : Nat) :
    cntR δ len c S k i = cntP δ len c S k i :=
  Findable.cntR_eq_cntP (Or.inl hc) h hk i

theorem cntR_zero (δ : Nat → α → Nat) (len : α → Nat) (c : α) (S : List α) (i : Nat)
    (hi : i ≤ S.length) : cntR δ len c S 0 i = i := by
  have : agR δ len c 0 = fun _ => true := by funext x; simp [agR, agQ_zero]
  simp [cntR, this, hi]

theorem cntR_full (h : QOK δ len S)
    {c : α} (hc : c ∈ S) [BEq α] [LawfulBEq α] (i : Nat) :
    cntR δ len c S (len c) i = Spec.rank c i S := by
  unfold cntR Spec.rank
  exact BinWM.countP_eq_count _ _ _ (fun x hx => agR_full h hc (List.mem_of_mem_take hx))

theorem blkStartQ_cnt_le (h : QOK δ len S)
    {c : α} (hc : c ∈ S) (k : Nat) (hk : k < len c) (i : Nat) :
    blkStartQ δ len c S k + cntP δ len c S k i ≤ (digsQ δ len k S).length := by
  obtain ⟨A, C, h1, h2⟩ := blkQ h (Or.inl hc) k hk
  have := congrArg List.length h1
  simp only [List.length_append] at this
  have := cntP_le δ len c S k i
  rw [digsQ, List.length_map]
  omega

theorem Findable.walk_stepQ {c : α}
    (hc : Findable len S c) (h : QOK δ len S) (k : Nat) (hk : k < len c) (i : Nat) :
    nextPos (δ k c) (digsQ δ len k S) (blkStartQ δ len c S k + cntP δ len c S k i) =
      blkStartQ δ len c S (k + 1) + cntR δ len c S (k + 1) i := by
  obtain ⟨A, C, h1, h2⟩ := blkQ h hc k hk
  rw [blkStartQ, digsQ, h1, ← h2, nextPos_block _ _ _ _ _ _ (cntP_le δ len c S k i)]
  congr 1
  unfold cntP cntR
  rw [BinWM.filter_take, List.countP_filter]
  congr 1; funext x
  rw [Bool.and_comm, agP_and_dig]

theorem walk_stepQ (h : QOK δ len S)
    {c : α} (hc : c ∈ S) (k : Nat) (hk : k < len c) (i : Nat) :
    nextPos (δ k c) (digsQ δ len k S) (blkStartQ δ len c S k + cntP δ len c S k i) =
      blkStartQ δ len c S (k + 1) + cntR δ len c S (k + 1) i :=
  Findable.walk_stepQ (Or.inl hc) h k hk i

theorem mem_lvlQ (h : QOK δ len S)
    {c : α} (hc : c ∈ S) (k : Nat) (hk : k < len c) : c ∈ lvlQ δ len k S := by
  obtain ⟨A, C, h1, _⟩ := blkQ h (Or.inl hc) k hk
  rw [h1]
  simp only [List.mem_append, List.mem_filter]
  refine Or.inl (Or.inr ⟨hc, ?_⟩)
  simp [agP, agQ_self, hk]

/-! All codes of one length `L`: the plain matrix.  Nothing ends before level `L`, so the levels
are the iterated partitions, and every key of length `L` is `Findable`. -/

theorem lvlQ_const (δ : Nat → α → Nat) {L k : Nat} (hk : k + 1 < L) (S : List α) :
    lvlQ δ (fun _ => L) (k + 1) S = Spec.stablePart (δ k) 4 (lvlQ δ (fun _ => L) k S) :=
  List.filter_eq_self.mpr (fun _ _ => by simpa using hk)

/-- keys of one length `L` that the `L` digits tell apart are a valid code assignment -/
theorem qok_const {δ : Nat → α → Nat} {L : Nat} (hL : 0 < L) (hδ : ∀ k x, δ k x < 4) {S : List α}
    (hinj : ∀ x ∈ S, ∀ y ∈ S, (∀ j, j < L → δ j x = δ j y) → x = y) :
    QOK δ (fun _ => L) S :=
  ⟨fun _ _ => hL, hδ, fun x hx y hy _ hb => hinj x hx y hy hb,
    fun _ => List.pairwise_of_forall (fun _ _ hl => hl)⟩

end Qwt.HQWM
