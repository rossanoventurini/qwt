import Qwt.Spec.Basic
import Qwt.Model.Utils

/-! `text_remap` (`src/utils/mod.rs`): an order-preserving bijection of the occurring values onto `0..d`. -/
namespace Qwt.Proofs.Word
open Qwt Qwt.Utils

theorem mem_insertSorted (x y : Nat) (l : List Nat) : y ∈ insertSorted x l ↔ y = x ∨ y ∈ l := by
  induction l with
  | nil => simp [insertSorted]
  | cons z zs ih =>
    unfold insertSorted
    by_cases h1 : x < z
    · simp [h1]
    · by_cases h2 : x = z
      · subst h2; simp
      · simp only [h1, if_false, beq_iff_eq, h2, List.mem_cons, ih]
        constructor
        · rintro (h | h | h) <;> simp [h]
        · rintro (h | h | h) <;> simp [h]

theorem sorted_insertSorted (x : Nat) (l : List Nat) (h : l.Pairwise (· < ·)) :
    (insertSorted x l).Pairwise (· < ·) := by
  induction l with
  | nil => simp [insertSorted]
  | cons z zs ih =>
    rw [List.pairwise_cons] at h
    unfold insertSorted
    by_cases h1 : x < z
    · simp only [h1, if_true]
      rw [List.pairwise_cons]
      refine ⟨?_, List.pairwise_cons.2 h⟩
      intro a ha
      rcases List.mem_cons.1 ha with rfl | ha
      · exact h1
      · exact Nat.lt_trans h1 (h.1 a ha)
    · by_cases h2 : x = z
      · subst h2; simp only [Nat.lt_irrefl, if_false, beq_self_eq_true, if_true]
        exact List.pairwise_cons.2 h
      · simp only [h1, if_false, beq_iff_eq, h2]
        rw [List.pairwise_cons]
        refine ⟨?_, ih h.2⟩
        intro a ha
        rcases (mem_insertSorted x a zs).1 ha with rfl | ha
        · omega
        · exact h.1 a ha

/-- the sorted duplicate-free list of the values of `l` -/
def uniqOf (l : List Nat) : List Nat := l.foldl (fun acc c => insertSorted c acc) []

theorem foldl_insertSorted (l : List Nat) : ∀ (acc : List Nat), acc.Pairwise (· < ·) →
    (l.foldl (fun acc c => insertSorted c acc) acc).Pairwise (· < ·) ∧
    ∀ y, y ∈ l.foldl (fun acc c => insertSorted c acc) acc ↔ y ∈ l ∨ y ∈ acc := by
  induction l with
  | nil => intro acc h; simp [h]
  | cons a l ih =>
    intro acc h
    rw [List.foldl_cons]
    obtain ⟨h1, h2⟩ := ih (insertSorted a acc) (sorted_insertSorted a acc h)
    refine ⟨h1, ?_⟩
    intro y
    rw [h2, mem_insertSorted, List.mem_cons]
    constructor
    · rintro (h | h | h) <;> simp [h]
    · rintro ((h | h) | h) <;> simp [h]

theorem uniqOf_sorted (l : List Nat) : (uniqOf l).Pairwise (· < ·) :=
  (foldl_insertSorted l [] List.Pairwise.nil).1

theorem mem_uniqOf (l : List Nat) (y : Nat) : y ∈ uniqOf l ↔ y ∈ l := by
  rw [uniqOf, (foldl_insertSorted l [] List.Pairwise.nil).2]; simp

theorem uniqOf_nodup (l : List Nat) : (uniqOf l).Nodup := by
  rw [List.nodup_iff_pairwise_ne]
  exact (uniqOf_sorted l).imp (fun h => Nat.ne_of_lt h)

theorem takeWhile_eq_filter (c : Nat) (u : List Nat) (h : u.Pairwise (· < ·)) :
    u.takeWhile (· < c) = u.filter (· < c) := by
  induction u with
  | nil => rfl
  | cons y ys ih =>
    rw [List.pairwise_cons] at h
    rw [List.takeWhile_cons, List.filter_cons]
    by_cases hy : y < c
    · simp only [hy, decide_true, if_true, ih h.2]
    · simp only [hy, decide_false, Bool.false_eq_true, if_false]
      symm
      rw [List.filter_eq_nil_iff]
      intro a ha
      have := h.1 a ha
      simp; omega

theorem textRemap_eq (input : Array Nat) :
    textRemap input =
      (input.map (fun c => ((uniqOf input.toList).filter (· < c)).length),
        (uniqOf input.toList).length) := by
  unfold textRemap uniqOf
  rw [Array.foldl_toList]
  simp only [Prod.mk.injEq, and_true]
  congr 1
  funext c
  have := takeWhile_eq_filter c _ (uniqOf_sorted input.toList)
  unfold uniqOf at this
  rw [Array.foldl_toList] at this
  rw [this]

theorem nodup_eraseDups : ∀ l : List Nat, l.eraseDups.Nodup
  | [] => by simp
  | a :: as => by
    rw [List.eraseDups_cons, List.nodup_cons]
    exact ⟨by rw [List.mem_eraseDups]; simp, nodup_eraseDups _⟩
termination_by l => l.length
decreasing_by
  have := List.length_filter_le (fun b => !b == a) as
  simp only [List.length_cons]
  omega

theorem length_filter_lt_mono (u : List Nat) (c1 c2 : Nat) (h1 : c1 ∈ u) (h : c1 < c2) :
    (u.filter (· < c1)).length < (u.filter (· < c2)).length := by
  rw [← List.countP_eq_length_filter, ← List.countP_eq_length_filter]
  induction u with
  | nil => simp at h1
  | cons y ys ih =>
    rw [List.countP_cons, List.countP_cons]
    have hmono : List.countP (fun x => decide (x < c1)) ys ≤ List.countP (fun x => decide (x < c2)) ys :=
      List.countP_mono_left (fun x _ hx => by simp at hx ⊢; omega)
    rcases List.mem_cons.1 h1 with rfl | h1
    · simp [h]; omega
    · have := ih h1
      by_cases hy : y < c1
      · have : y < c2 := by omega
        simp [*]
      · simp only [hy, decide_false, Bool.false_eq_true, if_false]
        omega

theorem length_filter_lt_lt_length (u : List Nat) (c : Nat) (h : c ∈ u) :
    (u.filter (· < c)).length < u.length :=
  Nat.lt_of_lt_of_le (length_filter_lt_mono u c (c + 1) h (Nat.lt_succ_self c)) (List.length_filter_le _ _)

theorem length_filter_lt_getElem (u : List Nat) (hs : u.Pairwise (· < ·)) : ∀ (v : Nat) (hv : v < u.length),
    (u.filter (· < u[v])).length = v := by
  induction u with
  | nil => intro v hv; simp at hv
  | cons y ys ih =>
    intro v hv
    rw [List.pairwise_cons] at hs
    cases v with
    | zero =>
      simp only [List.getElem_cons_zero, List.filter_cons, Nat.lt_irrefl, decide_false,
        Bool.false_eq_true, if_false]
      rw [List.length_eq_zero_iff, List.filter_eq_nil_iff]
      intro a ha
      have := hs.1 a ha
      simp; omega
    | succ v =>
      have hv' : v < ys.length := by simpa using hv
      have hy : y < ys[v] := hs.1 _ (List.getElem_mem hv')
      simp only [List.getElem_cons_succ, List.filter_cons, hy, decide_true, if_true,
        List.length_cons, ih hs.2 v hv']

end Qwt.Proofs.Word
