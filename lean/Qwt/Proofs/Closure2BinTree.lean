import Qwt.Props.Closed
import Qwt.Props.C11
import Qwt.Proofs.Closure2RSBin
import Qwt.Proofs.NewInv

/-!
The binary wavelet trees returned by `BinWT.new` (plain and Huffman-shaped) are
serialisation-well-formed (`Codec.wtWF`).

The level loop is inverted generically (both variants at once): a successful `levelStep` pushes
`r` with `RSW.mkLevel bits = .ok r` and pushes `bits.length` to `lens`, so that `rswWF_mkLevel`
applies to every level.  The bounds on `lens` (hence on `bits.length`) come from the
invariants `WMb` / `HWMb`.
`codeTables_wf` (the tables of a Huffman code are well-formed) serves the quad tree as well.
-/

namespace Qwt.Closure2
open Qwt Qwt.BinWT Qwt.RSW Qwt.BinWM Qwt.Extracted

namespace BinTree

theorem push_nBits {b b' : BV.BitVectorMut} {bit : Bool} (h : BV.push b bit = .ok b') :
    b'.nBits = b.nBits + 1 := by
  unfold BV.push at h
  extract_lets _ data at h
  obtain ⟨n, h1, h2⟩ := bind_ok_inv h
  have hn : n = b.nBits + 1 := by
    unfold add64 at h1
    split at h1
    · cases h1; rfl
    · cases h1
  subst hn
  cases bit
  · cases h2; rfl
  · simp only [if_true] at h2
    split at h2
    · obtain ⟨d, _, h3⟩ := bind_ok_inv h2
      cases h3; rfl
    · cases h2; rfl

theorem pushes_nBits (bits : List Bool) (b0 bvm : BV.BitVectorMut)
    (h : bits.foldlM BV.push b0 = .ok bvm) : bvm.nBits = b0.nBits + bits.length := by
  have := foldlM_inv (fun k (b : BV.BitVectorMut) => b.nBits = b0.nBits + k) BV.push
    (fun k b _ b' hk hp => by rw [push_nBits hp, hk, Nat.add_assoc]) bits 0 b0 bvm rfl h
  rwa [Nat.zero_add] at this

theorem levelStep_mkLevel (c : Cfg) (compressed : Bool) (nL : Nat) (codes : Array Huff.PrefixCode)
    (st st' : LevelSt) (h : levelStep c compressed nL codes st = .ok st') :
    ∃ bits r, RSW.mkLevel bits = .ok r ∧ st'.bvs = st.bvs.push r ∧
      st'.lens = st.lens.push bits.length := by
  obtain ⟨bvm, rs, seq, h1, h2, _, rfl⟩ := BinWT.levelStep_inv h
  rw [← Array.foldlM_toList] at h1
  obtain ⟨bits, _, hb⟩ := foldlM_pushes BV.push _ (by
    intro b s b' hs
    cases compressed
    · simp only [Bool.false_eq_true, if_false] at hs
      obtain ⟨sh, _, hs⟩ := bind_ok_inv hs
      split at hs
      · cases hs
      · exact Or.inr ⟨_, hs⟩
    · simp only [if_true] at hs
      split at hs
      · cases hs
      · split at hs
        · exact Or.inr ⟨_, hs⟩
        · cases hs; exact Or.inl rfl) _ _ _ h1
  refine ⟨bits, rs, ?_, rfl, ?_⟩
  · unfold RSW.mkLevel
    rw [hb, Qwt.ok_bind]; exact h2
  · rw [pushes_nBits bits _ _ hb]
    simp

/-- every stored level was built by `mkLevel` from a bit list whose length is recorded in `lens` -/
def LevelsBuilt (bvs : Array RSWide) (lens : Array Nat) : Prop :=
  ∀ r ∈ bvs.toList, ∃ bits, RSW.mkLevel bits = .ok r ∧ bits.length ∈ lens.toList

theorem loop_inv (c : Cfg) (compressed : Bool) (nL : Nat) (codes : Array Huff.PrefixCode)
    (l : List Nat) (seq : Array Nat) (st' : LevelSt)
    (h : l.foldlM (fun st _ => levelStep c compressed nL codes st) { seq, shift := 1 } = .ok st') :
    LevelsBuilt st'.bvs st'.lens := by
  refine foldlM_inv (fun _ st => LevelsBuilt st.bvs st.lens) _ ?_ l 0 _ st'
    (fun r hr => by cases hr) h
  intro _ st _ st1 hi h1
  obtain ⟨bits, r, hm, hb, hl⟩ := levelStep_mkLevel c compressed nL codes st st1 h1
  intro r' hr'
  rw [hb] at hr'
  rw [hl]
  simp only [Array.toList_push, List.mem_append, List.mem_singleton] at hr' ⊢
  rcases hr' with hr' | rfl
  · obtain ⟨bits', h3, h4⟩ := hi r' hr'
    exact ⟨bits', h3, Or.inl h4⟩
  · exact ⟨bits, hm, Or.inr rfl⟩

/-- the last two parts of `wtWF`: `nl` levels, each built from at most `n` bits -/
theorem levels_wf {bvs : Array RSWide} {lens : Array Nat} {n nl : Nat} (hn : n < 2 ^ 43)
    (hnl : nl < 2 ^ 64) (hbs : bvs.size = nl) (hls : lens.size = nl)
    (hle : ∀ x ∈ lens.toList, x ≤ n) (hinv : LevelsBuilt bvs lens) :
    Codec.arrAll Codec.rswWF bvs ∧ Codec.arrAll (· < 2 ^ 64) lens := by
  refine ⟨⟨by rw [hbs]; exact hnl, fun r hr => ?_⟩, ⟨by rw [hls]; exact hnl, fun x hx => ?_⟩⟩
  · obtain ⟨bits, hm, hl⟩ := hinv r hr
    exact rswWF_mkLevel bits (Nat.lt_of_le_of_lt (hle _ hl) hn) hm
  · have := hle x hx
    show x < 2 ^ 64
    omega

end BinTree

open BinTree

theorem pow_bytes (w : Nat) : (2 : Nat) ^ (8 * w) = 256 ^ w := by
  rw [Nat.pow_mul]

theorem mem_codes {codes : Array Huff.PrefixCode} {x : Huff.PrefixCode} (hx : x ∈ codes.toList) :
    ∃ i : Nat, codes[i]! = x := by
  obtain ⟨i, hi, rfl⟩ := List.mem_iff_getElem.mp hx
  simp only [Array.length_toList] at hi
  exact ⟨i, by rw [getElem!_pos codes i hi, Array.getElem_toList]⟩

theorem foldl_max_len_bound (l : List Huff.PrefixCode) (a b : Nat) (ha : a ≤ b)
    (h : ∀ x ∈ l, x.len ≤ b) : l.foldl (fun m x => max m x.len) a ≤ b := by
  induction l generalizing a with
  | nil => simpa using ha
  | cons y ys ih =>
    simp only [List.foldl_cons]
    apply ih
    · have := h y (by simp); omega
    · intro x hx; exact h x (by simp [hx])

theorem length_fill (codes : Array Huff.PrefixCode) (is : List Nat)
    (acc : Array (List (Nat × Nat))) (l : Nat) :
    ((is.foldl (Proofs.Craft.fillStep codes) acc)[l]?.getD []).length ≤
      (acc[l]?.getD []).length + is.length := by
  induction is generalizing acc with
  | nil => simp
  | cons i is ih =>
    rw [List.foldl_cons]
    refine Nat.le_trans (ih _) ?_
    rw [List.length_cons]
    have : ((Proofs.Craft.fillStep codes acc i)[l]?.getD []).length ≤ (acc[l]?.getD []).length + 1 := by
      unfold Proofs.Craft.fillStep
      dsimp only
      split
      · rw [Array.getElem?_modify]
        split
        · cases acc[l]? <;> simp
        · omega
      · omega
    omega

theorem decodeTables_wf (wbytes : Nat) (codes : Array Huff.PrefixCode) (maxLen : Nat)
    (hmax : maxLen + 1 < 2 ^ 64) (hc : ∀ x : Nat, codes[x]!.content < 2 ^ 32)
    (hsz : codes.size < 2 ^ 64) (hsz' : codes.size ≤ 256 ^ wbytes) :
    Codec.decWF wbytes (Huff.decodeTables codes maxLen) := by
  rw [Proofs.Craft.decodeTables_eq]
  obtain ⟨hfs, hmem⟩ := Proofs.Craft.fill_spec codes maxLen codes.size
  generalize hf : (List.range codes.size).foldl (Proofs.Craft.fillStep codes)
    (Array.replicate (maxLen + 1) []) = filled at hfs hmem
  refine ⟨by rw [Array.size_map, hfs]; exact hmax, ?_⟩
  intro a ha
  rw [Array.toList_map] at ha
  obtain ⟨l, hl, rfl⟩ := List.mem_map.mp ha
  obtain ⟨j, hj, rfl⟩ := List.mem_iff_getElem.mp hl
  simp only [Array.length_toList] at hj
  have hget : filled.toList[j] = filled[j]?.getD [] := by
    rw [Array.getElem_toList, Array.getElem?_eq_getElem hj]; rfl
  rw [hget]
  refine ⟨?_, ?_⟩
  · have h1 := length_fill codes (List.range codes.size) (Array.replicate (maxLen + 1) []) j
    rw [hf] at h1
    have h2 : ((Array.replicate (maxLen + 1) ([] : List (Nat × Nat)))[j]?.getD []).length = 0 := by
      rw [Array.getElem?_replicate]; split <;> rfl
    rw [h2, List.length_range] at h1
    have h3 := (Qwt.Proofs.Craft.sortByKey_perm (fun x : Nat × Nat => x.1) (filled[j]?.getD [])).length_eq
    simp only [List.size_toArray, h3]
    omega
  · intro x hx
    simp only at hx
    rw [(Proofs.Craft.sortByKey_perm _ _).mem_iff, ← Array.getD_eq_getD_getElem?] at hx
    obtain ⟨hi, _, _, hcont⟩ := (hmem j x.1 x.2 (by omega)).mp hx
    exact ⟨hcont ▸ hc x.2, Nat.lt_of_lt_of_le hi hsz'⟩

/-- `hsig`: the code table has `max S + 1` entries, and its length is serialised as a `u64` -/
theorem codeTables_wf {D : Nat} (hD : D = 4 ∨ D = 2) {W wbytes : Nat} (hWb : W = 8 * wbytes)
    {S : List Nat} (hb : ∀ x ∈ S, x < 2 ^ W) (hsig : ∀ x ∈ S, x + 1 < 2 ^ 64)
    {lens : List (Nat × Nat)} (hlens : Props.C02.LensOK D lens)
    (hocc : ∀ s, s ∈ lens.map (·.1) ↔ s ∈ S) {codes : Array Huff.PrefixCode}
    (hc : Huff.craftWmCodes D lens (Utils.asUsize (Spec.maxNat S)) = .ok codes) :
    codes.foldl (fun m x => max m x.len) 0 ≤ 32 ∧ Codec.arrAll Codec.codeWF codes ∧
      Codec.decWF wbytes (Huff.decodeTables codes (codes.foldl (fun m x => max m x.len) 0)) := by
  have hmax : Spec.maxNat S < 2 ^ W := Spec.maxNat_lt (Nat.pow_pos (by decide)) hb
  have hmax64 : Spec.maxNat S < 2 ^ 64 - 1 :=
    Spec.maxNat_lt (by decide) (fun x hx => by have := hsig x hx; omega)
  have hus : Utils.asUsize (Spec.maxNat S) = Spec.maxNat S := by
    unfold Utils.asUsize two64; omega
  rw [hus] at hc
  have hs : ∀ p ∈ lens, p.1 ≤ Spec.maxNat S := fun p hp =>
    Spec.le_maxNat ((hocc p.1).mp (List.mem_map.mpr ⟨p, hp, rfl⟩))
  have hv := Props.C02.craft_valid hD hlens hs hc
  have hsize := (Props.C02.craft_lens hD hlens hs hc).1
  have hsz : codes.size < 2 ^ 64 := by omega
  have hsz' : codes.size ≤ 256 ^ wbytes := by rw [← pow_bytes, ← hWb]; omega
  have hcode : ∀ i : Nat, codes[i]!.content < 2 ^ 32 ∧ codes[i]!.len < 2 ^ 32 := by
    intro i
    obtain ⟨g1, _, g3⟩ := hv.len_le i
    exact ⟨Nat.lt_of_lt_of_le g3 (Nat.pow_le_pow_right (by decide) g1),
      Nat.lt_of_le_of_lt g1 (by decide)⟩
  have hml : codes.foldl (fun m x => max m x.len) 0 ≤ 32 := by
    rw [← Array.foldl_toList]
    refine foldl_max_len_bound _ 0 32 (by decide) (fun x hx => ?_)
    obtain ⟨i, rfl⟩ := mem_codes hx
    exact (hv.len_le i).1
  refine ⟨hml, ⟨hsz, fun x hx => ?_⟩,
    decodeTables_wf wbytes codes _ (by omega) (fun i => (hcode i).1) hsz hsz'⟩
  obtain ⟨i, rfl⟩ := mem_codes hx
  exact hcode i

/-- `hW64` is needed: with an element type of `2^64` bits or more the number of levels need not
    fit a `u64` -/
theorem wtWF_of_new (c : Cfg) (wbytes : Nat) (hWb : c.W = 8 * wbytes) (hW : 0 < c.W)
    (hW64 : c.W < 2 ^ 64)
    (S : List Nat) (hb : ∀ x ∈ S, x < 2 ^ c.W) (hS : S.length < 2 ^ 43)
    {t : BinWT.WT} (ht : BinWT.new c false S.toArray [] = .ok t) : Codec.wtWF wbytes t := by
  cases hS0 : S with
  | nil =>
    subst hS0
    cases ht
    exact Qwt.C11.wtWF_default wbytes
  | cons y ys =>
    have hne : S ≠ [] := by rw [hS0]; simp
    have inv : WMb c S t := Props.C03.wt_inv c hW Props.Closed.binLevelLaw S hb hS ht
    have hmax : Spec.maxNat S < 2 ^ c.W := Spec.maxNat_lt (Nat.pow_pos (by omega)) hb
    have hemp : S.toArray.isEmpty = false := by rw [hS0]; rfl
    have hinv : LevelsBuilt t.bvs t.lens := by
      obtain ⟨m, st, _, hst, rfl⟩ := BinWT.new_inv_plain hemp ht
      exact loop_inv c false _ _ _ _ st hst
    have hn : t.n < 2 ^ 64 := by rw [inv.n_eq]; omega
    have hnl : t.nLevels < 2 ^ 64 := by have := inv.nLevels_le; omega
    have hsigma : Codec.optAll (· < 256 ^ wbytes) t.sigma := by
      rw [inv.sigma_eq hne]
      show Spec.maxNat S < 256 ^ wbytes
      rw [← pow_bytes, ← hWb]; exact hmax
    have hlev := levels_wf hS hnl (inv.levels hne).size_eq (by rw [inv.lens_eq]; simp)
      (fun x hx => by
        rw [inv.lens_eq] at hx
        simp at hx
        omega) hinv
    exact ⟨hn, hnl, hsigma, by rw [inv.codes.1]; trivial, by rw [inv.codes.2]; trivial,
      hlev.1, hlev.2⟩

/-- `hsig` is needed: for a 64-bit element type containing the symbol `2^64 - 1` the code table
    has `2^64` entries, whose length does not fit a `u64` -/
theorem hwtWF_of_new (c : Cfg) (wbytes : Nat) (hWb : c.W = 8 * wbytes) (hW : c.W ≤ 64)
    (S : List Nat) (hb : ∀ x ∈ S, x < 2 ^ c.W) (hS : S.length < 2 ^ 43)
    (hsig : ∀ x ∈ S, x + 1 < 2 ^ 64)
    (lens : List (Nat × Nat)) (hlens : Props.C02.LensOK 2 lens)
    (hocc : ∀ s, s ∈ lens.map (·.1) ↔ s ∈ S)
    {t : BinWT.WT} (ht : BinWT.new c true S.toArray lens = .ok t) : Codec.wtWF wbytes t := by
  cases hS0 : S with
  | nil =>
    subst hS0
    cases ht
    exact Qwt.C11.wtWF_default wbytes
  | cons y ys =>
    have hne : S ≠ [] := by rw [hS0]; simp
    obtain ⟨codes, hc, hv⟩ := Props.Closed.hwt_codes c hW S hne hb hS lens hlens hocc
    have inv : HWMb c S codes t :=
      Props.C03.hwt_inv c hW Props.Closed.binLevelLaw S hne hb hS lens codes hc _ hv hocc ht
    obtain ⟨hml, hcodes, hdecode⟩ :=
      codeTables_wf (Or.inr rfl) (wbytes := wbytes) hWb hb hsig hlens hocc hc
    have hemp : S.toArray.isEmpty = false := by rw [hS0]; rfl
    have hfold : S.toArray.foldl max 0 = Spec.maxNat S := by simp [Spec.maxNat]
    have hfacts : t.nLevels = codes.foldl (fun m x => max m x.len) 0 ∧
        t.codesDecode = some (Huff.decodeTables codes (codes.foldl (fun m x => max m x.len) 0)) ∧
        LevelsBuilt t.bvs t.lens := by
      obtain ⟨codes', st, hc', hst, rfl⟩ := BinWT.new_inv_huff hemp ht
      rw [hfold] at hc'
      cases hc.symm.trans hc'
      exact ⟨rfl, rfl, loop_inv c true _ _ _ _ st hst⟩
    obtain ⟨hnl, hdec, hinv⟩ := hfacts
    have hn : t.n < 2 ^ 64 := by rw [inv.n_eq]; omega
    have hnl' : t.nLevels < 2 ^ 64 := by rw [hnl]; omega
    have hlev := levels_wf hS hnl' inv.levels.size_eq inv.levels.lens_size
      (fun x hx => by
        obtain ⟨k, hk, rfl⟩ := List.mem_iff_getElem.mp hx
        simp only [Array.length_toList] at hk
        simp only [Array.getElem_toList]
        rw [inv.levels.lens_eq k hk]
        exact lvlH_length_le _ _ _ _) hinv
    exact ⟨hn, hnl', by rw [inv.sigma_eq]; trivial, by rw [inv.codes_eq]; exact hcodes,
      by rw [hdec]; exact hdecode, hlev.1, hlev.2⟩

theorem hwtWF_of_new_lt64 (c : Cfg) (wbytes : Nat) (hWb : c.W = 8 * wbytes) (hW : c.W < 64)
    (S : List Nat) (hb : ∀ x ∈ S, x < 2 ^ c.W) (hS : S.length < 2 ^ 43)
    (lens : List (Nat × Nat)) (hlens : Props.C02.LensOK 2 lens)
    (hocc : ∀ s, s ∈ lens.map (·.1) ↔ s ∈ S)
    (hWl : ∀ (bits : List Bool) (r : RSW.RSWide), bits.length < 2 ^ 43 →
      RSW.mkLevel bits = .ok r → Codec.rswWF r)
    {t : BinWT.WT} (ht : BinWT.new c true S.toArray lens = .ok t) : Codec.wtWF wbytes t := by
  refine hwtWF_of_new c wbytes hWb (Nat.le_of_lt hW) S hb hS ?_ lens hlens hocc ht
  intro x hx
  have h2 : 2 ^ c.W ≤ 2 ^ 63 := Nat.pow_le_pow_right (by decide) (Nat.le_of_lt_succ hW)
  exact Nat.lt_of_le_of_lt (Nat.lt_of_lt_of_le (hb x hx) h2) (by decide)

end Qwt.Closure2
