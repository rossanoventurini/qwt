import Qwt.Proofs.Basic
import Qwt.Proofs.CraftSort
import Qwt.Model.BinWT
import Qwt.Proofs.NewInv

/-! Sizes of the Huffman tables of the trees built by `new` (C16): `σ + 1` encode slots,
`maxLen + 1` decode tables, at most one entry per slot. -/
namespace Qwt.SpaceSizes
open Qwt

section tables
open Qwt.Huff

theorem ite_throw_ok {α β : Type} {c : Prop} [Decidable c] {e : Fault} {f : β → M α} {y : M α} {b : α}
    (h : (if c then ((throw e : M β) >>= f) else y) = .ok b) : y = .ok b := by
  by_cases hc : c
  · rw [if_pos hc] at h
    obtain ⟨_, ht, _⟩ := bind_ok_inv h
    cases ht
  · rw [if_neg hc] at h; exact h

theorem grow_assign (D j target : Nat) : ∀ (fuel : Nat) (st st' : CraftSt),
    Huff.grow D j target fuel st = .ok st' → st'.assignments = st.assignments := by
  intro fuel
  induction fuel with
  | zero => intro st st' h; cases h; rfl
  | succ fuel ih =>
    intro st st' h
    rw [Huff.grow] at h
    split at h
    · -- both arities: one `expand`, one new `m`, then the loop again on a state with the same table
      cases hD : D == 4 <;> rw [hD] at h <;>
        (obtain ⟨c, _, h⟩ := bind_ok_inv h
         obtain ⟨m, _, h⟩ := bind_ok_inv h
         exact (ih _ _ h).trans rfl)
    · cases h; rfl

theorem craft_size {D : Nat} {lens : List (Nat × Nat)} {sigma : Nat} {codes : Array PrefixCode}
    (h : Huff.craftWmCodes D lens sigma = .ok codes) : codes.size = sigma + 1 := by
  unfold Huff.craftWmCodes at h
  dsimp only at h
  obtain ⟨st, hst, h⟩ := bind_ok_inv h
  cases h
  refine foldlM_inv (fun _ (st : CraftSt) => st.assignments.size = sigma + 1) _ ?_ _ 0 _ st
    (by simp) hst
  intro k st j st' hP hs
  obtain ⟨st1, hg, hs⟩ := bind_ok_inv hs
  obtain ⟨cj, _, hs⟩ := bind_ok_inv hs
  obtain ⟨rev, _, hs⟩ := bind_ok_inv hs
  have e := grow_assign _ _ _ _ _ _ hg
  have hs := ite_throw_ok hs
  cases hs
  simp [e, hP]

theorem foldl_size {α β : Type} (step : Array α → β → Array α)
    (hstep : ∀ acc i, (step acc i).size = acc.size) :
    ∀ (l : List β) (acc : Array α), (l.foldl step acc).size = acc.size := by
  intro l
  induction l with
  | nil => intro acc; rfl
  | cons x xs ih => intro acc; rw [List.foldl_cons, ih, hstep]

theorem decodeTables_size (codes : Array PrefixCode) (maxLen : Nat) :
    (Huff.decodeTables codes maxLen).size = maxLen + 1 := by
  unfold Huff.decodeTables
  dsimp only
  rw [Array.size_map, foldl_size]
  · simp
  · intro acc i
    split
    · rw [Array.size_modify]
    · rfl

/-- total length of a list of lists -/
def tot {α : Type} (l : List (List α)) : Nat := (l.map List.length).sum

theorem tot_modify {α : Type} (x : α) : ∀ (l : List (List α)) (k : Nat),
    tot (l.modify k (fun v => v ++ [x])) ≤ tot l + 1 := by
  intro l
  induction l with
  | nil => intro k; simp [tot]
  | cons y ys ih =>
    intro k
    cases k with
    | zero => simp [tot]; omega
    | succ k =>
      have := ih k
      simp only [tot, List.modify_succ_cons, List.map_cons, List.sum_cons] at *
      omega

theorem tot_fold (codes : Array PrefixCode) : ∀ (l : List Nat) (acc : Array (List (Nat × Nat))),
    tot (l.foldl (fun (acc : Array (List (Nat × Nat))) i =>
        let cd := codes[i]!
        if cd.len != 0 then acc.modify cd.len (fun l => l ++ [(cd.content, i)]) else acc) acc).toList
      ≤ tot acc.toList + l.length := by
  intro l
  induction l with
  | nil => intro acc; simp
  | cons i is ih =>
    intro acc
    rw [List.foldl_cons]
    refine Nat.le_trans (ih _) ?_
    dsimp only
    split
    · rw [Array.toList_modify, List.length_cons]
      have := tot_modify (codes[i]!.content, i) acc.toList codes[i]!.len
      omega
    · rw [List.length_cons]; omega

theorem decodeTables_entries (codes : Array PrefixCode) (maxLen : Nat) :
    ((Huff.decodeTables codes maxLen).toList.map Array.size).sum ≤ codes.size := by
  unfold Huff.decodeTables
  dsimp only
  have h := tot_fold codes (List.range codes.size) (Array.replicate (maxLen + 1) [])
  have h0 : tot (Array.replicate (maxLen + 1) ([] : List (Nat × Nat))).toList = 0 := by
    simp [tot]
  rw [h0, List.length_range, Nat.zero_add] at h
  refine Nat.le_trans (Nat.le_of_eq ?_) h
  rw [Array.toList_map, List.map_map, tot]
  congr 1
  apply List.map_congr_left
  intro l _
  simp [(Proofs.Craft.sortByKey_perm _ _).length_eq]

/-- the tables of a Huffman-shaped quad tree built by `new` on a non-empty input -/
theorem huff_new_tables (c : Cfg) (seq : Array Nat) (lens : List (Nat × Nat)) {t : Huff.HQWT}
    (h : Huff.new c seq lens = .ok t) (hne : seq.isEmpty = false) :
    t.codesEncode.size = Utils.asUsize (seq.foldl max 0) + 1 ∧
    t.codesDecode.size = t.codesEncode.foldl (fun m x => max m x.len) 0 + 1 ∧
    (t.codesDecode.toList.map Array.size).sum ≤ t.codesEncode.size ∧
    t.nLevels = t.codesEncode.foldl (fun m x => max m x.len) 0 / 2 := by
  obtain ⟨codes, st, hc, _, rfl⟩ := Huff.new_inv hne h
  exact ⟨craft_size hc, decodeTables_size _ _, decodeTables_entries _ _, rfl⟩

/-- the tables of a Huffman-shaped binary tree built by `new` on a non-empty input -/
theorem hwt_new_tables (c : Cfg) (seq : Array Nat) (lens : List (Nat × Nat)) {t : BinWT.WT}
    (h : BinWT.new c true seq lens = .ok t) (hne : seq.isEmpty = false) :
    ∃ e d, t.codesEncode = some e ∧ t.codesDecode = some d ∧
      e.size = Utils.asUsize (seq.foldl max 0) + 1 ∧
      d.size = e.foldl (fun m x => max m x.len) 0 + 1 ∧
      (d.toList.map Array.size).sum ≤ e.size ∧
      t.nLevels = e.foldl (fun m x => max m x.len) 0 := by
  obtain ⟨codes, st, hc, _, rfl⟩ := BinWT.new_inv_huff hne h
  exact ⟨codes, _, rfl, rfl, craft_size hc, decodeTables_size _ _, decodeTables_entries _ _, rfl⟩

end tables

end Qwt.SpaceSizes
