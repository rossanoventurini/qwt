import Qwt.Proofs.HQWM

/-!
Pure list-level Huffman-shaped quad wavelet matrix, continued: `select` (upward pass) and
`get` (following an element down to the level where its code ends).  The one-level selection
lemmas of the binary matrix (`BinWM.sel_in_block`, `sel_out_block`, `select_comp`) are reused
through the indicator `fun x => key x == d`.
-/

namespace Qwt.HQWM
open Qwt

variable {α : Type}

theorem select_ind (key : α → Nat) (d k : Nat) (l : List α) :
    Spec.select d k (l.map key) = Spec.select true k (l.map (fun x => key x == d)) := by
  induction l generalizing k with
  | nil => rfl
  | cons x xs ih =>
    simp only [List.map_cons, Spec.select]
    cases hb : key x == d
    · simp [ih]
    · cases k with
      | zero => simp
      | succ k => simp [ih]

theorem rank_ind (key : α → Nat) (d j : Nat) (l : List α) :
    Spec.rank d j (l.map key) = Spec.rank true j (l.map (fun x => key x == d)) := by
  rw [WM.rank_map, BinWM.rank_map]
  apply List.countP_congr
  intro x _
  cases key x == d <;> simp

theorem filter_ind (p : α → Bool) (l : List α) : l.filter (fun x => p x == true) = l.filter p := by
  congr 1; funext x; cases p x <;> rfl

/-- the upward pass of `select`: from an offset `res` inside the block of `c` at level `k` back
    to a position of level 0 -/
def selUpQ (δ : Nat → α → Nat) (len : α → Nat) (c : α) (S : List α) : Nat → Nat → Option Nat
  | 0, res => some res
  | k + 1, res =>
    match Spec.select (δ k c)
        (Spec.rank (δ k c) (blkStartQ δ len c S k) (digsQ δ len k S) + res) (digsQ δ len k S) with
    | none => none
    | some q => selUpQ δ len c S k (q - blkStartQ δ len c S k)

theorem filter_agP_dig (δ : Nat → α → Nat) (len : α → Nat) (c : α) (k : Nat) (S : List α) :
    (S.filter (agP δ len c k)).filter (fun x => δ k x == δ k c) = S.filter (agR δ len c (k + 1)) := by
  rw [List.filter_filter]
  congr 1; funext x; rw [Bool.and_comm, agP_and_dig]

variable {δ : Nat → α → Nat} {len : α → Nat} {S : List α}

theorem filter_agR_eq (h : QOK δ len S)
    {c : α} (hc : Findable len S c) {k : Nat} (hk : k < len c) :
    S.filter (agR δ len c k) = S.filter (agP δ len c k) :=
  List.filter_congr (fun _ hx => agR_eq_agP h hc hk hx)

/-- at level 0 the pass returns `res` whatever it is, hence `h0` -/
theorem selUpQ_spec (h : QOK δ len S)
    {c : α} (hc : Findable len S c) (k res : Nat) (hk : k ≤ len c) (h0 : k = 0 → res < S.length) :
    selUpQ δ len c S k res = Spec.select true res (S.map (agR δ len c k)) := by
  induction k generalizing res with
  | zero =>
    have hres := h0 rfl
    rw [selUpQ]
    symm
    rw [Spec.select_eq_some_iff]
    have : agR δ len c 0 = fun _ => true := by funext x; simp [agR, agQ_zero]
    refine ⟨?_, ?_⟩
    · rw [List.getElem?_map, List.getElem?_eq_getElem hres]; simp [this]
    · rw [BinWM.rank_map, this]
      simp; omega
  | succ k ih =>
    have hk' : k < len c := by omega
    obtain ⟨A, C, h1, h2⟩ := blkQ h hc k hk'
    rw [selUpQ, digsQ, h1, ← h2, rank_ind, select_ind]
    by_cases hres : res < (S.filter (agR δ len c (k + 1))).length
    · obtain ⟨j, hj1, hj2⟩ := BinWM.sel_in_block (fun x => δ k x == δ k c) true A
        (S.filter (agP δ len c k)) C res
        (by rw [filter_ind, filter_agP_dig]; exact hres)
      rw [hj1]
      simp only [Nat.add_sub_cancel_left]
      have hjl : j < (S.filter (agP δ len c k)).length := by
        have := (Spec.of_select_eq_some hj2).1; simpa using this
      have hjS : j < S.length := Nat.lt_of_lt_of_le hjl (List.length_filter_le _ _)
      rw [ih j (by omega) (fun _ => hjS)]
      have := BinWM.select_comp (agP δ len c k) (fun x => δ k x == δ k c) true S res j hj2
      have e1 : S.map (agR δ len c k) = S.map (agP δ len c k) :=
        List.map_congr_left (fun _ hx => agR_eq_agP h hc hk' hx)
      rw [e1, ← this]
      congr 2; funext x; rw [← agP_and_dig]
      cases (δ k x == δ k c) <;> rfl
    · have hres : (S.filter (agR δ len c (k + 1))).length ≤ res := by omega
      have hnone : Spec.select true res (S.map (agR δ len c (k + 1))) = none :=
        BinWM.select_none (by rw [BinWM.count_map_true]; exact hres)
      rw [hnone]
      cases hq : Spec.select true
          (Spec.rank true A.length
            ((A ++ S.filter (agP δ len c k) ++ C).map (fun x => δ k x == δ k c)) + res)
          ((A ++ S.filter (agP δ len c k) ++ C).map (fun x => δ k x == δ k c)) with
      | none => rfl
      | some q =>
        simp only
        obtain ⟨hq1, hq2⟩ := BinWM.sel_out_block (fun x => δ k x == δ k c) true A _ C res q
          (by rw [filter_ind, filter_agP_dig]; exact hres) hq
        cases k with
        | zero =>
          exfalso
          rw [← h1] at hq2
          simp only [lvlQ] at hq2
          have : S.filter (agP δ len c 0) = S := by
            apply List.filter_eq_self.mpr
            intro x hx; simp [agP, agQ_zero, h.pos x hx]
          rw [this] at hq1
          omega
        | succ k =>
          rw [ih _ (by omega) (by intro h; cases h)]
          exact BinWM.select_none (by rw [BinWM.count_map_true, filter_agR_eq h hc hk']; omega)

/-- position at level `k` of the element `x` that sits at position `j` of `S` -/
def trackQ (δ : Nat → α → Nat) (len : α → Nat) (S : List α) (x : α) (j : Nat) : Nat → Nat
  | 0 => j
  | k + 1 => nextPos (δ k x) (digsQ δ len k S) (trackQ δ len S x j k)

theorem qok_pre' (h : QOK δ len S) (k : Nat) :
    (Spec.stablePart (δ k) 4 (lvlQ δ len k S)).Pairwise
      (fun a b => decide (k + 1 < len b) = true → decide (k + 1 < len a) = true) := by
  apply (h.pre k).imp
  intro a b hab; simpa using hab

theorem track_getQ (h : QOK δ len S)
    (x : α) (j : Nat) (hj : S[j]? = some x) (k : Nat) (hk : k < len x) :
    (lvlQ δ len k S)[trackQ δ len S x j k]? = some x := by
  induction k with
  | zero => exact hj
  | succ k ih =>
    have := part_getQ (δ k) _ _ x (ih (by omega)) (h.dlt k x)
    rw [lvlQ, trackQ, digsQ]
    exact (BinWM.pre_get _ _ (qok_pre' h k) _ x this).1 (by simpa using hk)

theorem track_endQ (h : QOK δ len S)
    (x : α) (j : Nat) (hj : S[j]? = some x) (k : Nat) (hk : k + 1 = len x) :
    (lvlQ δ len (k + 1) S).length ≤ trackQ δ len S x j (k + 1) := by
  have := part_getQ (δ k) _ _ x (track_getQ h x j hj k (by omega)) (h.dlt k x)
  rw [lvlQ, trackQ, digsQ]
  exact (BinWM.pre_get _ _ (qok_pre' h k) _ x this).2 (by simp; omega)

theorem track_ltQ (h : QOK δ len S)
    (x : α) (j : Nat) (hj : S[j]? = some x) (k : Nat) (hk : k < len x) :
    trackQ δ len S x j k < (lvlQ δ len k S).length :=
  (List.getElem?_eq_some_iff.mp (track_getQ h x j hj k hk)).1

theorem digsQ_track (h : QOK δ len S)
    (x : α) (j : Nat) (hj : S[j]? = some x) (k : Nat) (hk : k < len x) :
    (digsQ δ len k S)[trackQ δ len S x j k]? = some (δ k x) := by
  rw [digsQ, List.getElem?_map, track_getQ h x j hj k hk]; rfl

end Qwt.HQWM
