import Qwt.Proofs.Basic
import Qwt.Proofs.Interfaces
import Qwt.Proofs.BinWMSelect

/-!
Simulation: the `rank` and `select` loops of the model `Qwt.BinWT`, run on levels that
`RSW.Represents` bit lists `B k`, compute the walks `walkPos` / `selUp` over those bit lists,
whatever the lists are (plain or Huffman-shaped matrix).  Also the bit functions of the plain
matrix.
-/

namespace Qwt.BinWM
open Qwt Qwt.BinWT Qwt.RSW

/-- bit of `x` at level `k` of an `L`-level matrix (most significant of the `L` bits first) -/
def bitAt (L k x : Nat) : Bool := (x >>> (L - (k + 1))) % 2 == 1

/-- the levels of the model represent the bit lists of the list-level matrix of `S` -/
structure Levels (L : Nat) (S : List Nat) (bvs : Array RSWide) : Prop where
  size_eq : bvs.size = L
  repr : ∀ k (h : k < bvs.size), RSW.Represents bvs[k] (bitsAt (bitAt L) k S)

/-- The model's `let x ← if b then … else …; rest` elaborates with `rest` bound in both branches;
    this folds it back, so that the `if` alone can be rewritten (`updPos_ok`, `rankB_ok`, `selB_ok`,
    which are stated in the shape the fold leaves). -/
theorem bitOf_ok (repr L k : Nat) (h : k < L) : bitOf repr L k = .ok (bitAt L k repr) := by
  unfold bitOf
  rw [sub_ok (h := h), ok_bind, Nat.and_one_is_mod]
  rfl

theorem rank_true_add_false (j : Nat) (bs : List Bool) (h : j ≤ bs.length) :
    Spec.rank true j bs + Spec.rank false j bs = j := by
  unfold Spec.rank
  have := List.length_eq_countP_add_countP (fun b => b == true) (l := bs.take j)
  rw [List.count_eq_countP, List.count_eq_countP]
  have e : (fun a => decide ¬(a == true) = true) = (fun b : Bool => b == false) := by
    funext a; cases a <;> rfl
  rw [e] at this
  rw [List.length_take, Nat.min_eq_left h] at this
  exact this.symm

/-- the position update shared by `rankWalk` and `getUnchecked.go` -/
theorem updPos_ok {bv : RSWide} {bs : List Bool} (hr : RSW.Represents bv bs) (bit : Bool)
    (j : Nat) (hj : j ≤ bs.length) :
    (if bit = true then (pure (Spec.rank true j bs + bv.nZeros) : M Nat)
      else sub j (Spec.rank true j bs)) = .ok (mapPos bit bs j) := by
  have h2 := rank_true_add_false j bs hj
  cases bit
  · rw [if_neg Bool.false_ne_true, sub_ok (h := Nat.le.intro h2), mapPos, if_neg Bool.false_ne_true]
    exact congrArg Except.ok (Nat.sub_eq_of_eq_add ((Nat.add_comm _ _).trans h2).symm)
  · rw [if_pos rfl, mapPos, if_pos rfl, hr.nZeros_eq, Nat.add_comm]
    rfl

theorem rankB_ok {bv : RSWide} {bs : List Bool} (hr : RSW.Represents bv bs) (bit : Bool)
    (j : Nat) (hne : bs ≠ []) (hj : j ≤ bs.length) :
    (if bit = true then RSW.rank1 bv j else RSW.rank0 bv j) = .ok (some (Spec.rank bit j bs)) := by
  cases bit
  · simp [hr.rank0, hne, hj]
  · simp [hr.rank1, hne, hj]

theorem mapPos_eq (bit : Bool) (bs : List Bool) (j : Nat) {nz : Nat} (hnz : nz = bs.count false) :
    Spec.rank bit j bs + (if bit = true then nz else 0) = mapPos bit bs j := by
  cases bit <;> simp [mapPos, hnz]; omega

theorem selB_ok {bv : RSWide} {bs : List Bool} (hr : RSW.Represents bv bs) (bit : Bool) (j : Nat) :
    (if bit = true then RSW.select1 bv j else RSW.select0 bv j) = .ok (Spec.select bit j bs) := by
  cases bit
  · simp [hr.select0]
  · simp [hr.select1]

/-- the `(b, rank_b)` pairs recorded by the downward pass of `select`, deepest level first -/
def pathOf (bit : Nat → Bool) (B : Nat → List Bool) : Nat → List (Nat × Nat)
  | 0 => []
  | k + 1 => (walkPos bit B 0 k, Spec.rank (bit k) (walkPos bit B 0 k) (B k)) :: pathOf bit B k

/-- the loops run on fuel `f` at level `k` with `f + k` constant -/
theorem fuel_succ {f k L : Nat} (h : f + 1 + k = L) : k < L ∧ f + (k + 1) = L := by omega

theorem fuel_zero {k L : Nat} (h : 0 + k = L) : k = L := (Nat.zero_add k).symm.trans h

/-! ## the walks

In this section the levels `< L` of `t` represent the bit lists `B`, and `bit k` is bit `k` of
the `L`-bit representation `repr` that the model's loops are given. -/

section walks
variable {t : WT} {B : Nat → List Bool}
  (hB : ∀ k (h : k < t.bvs.size), RSW.Represents t.bvs[k] (B k))
  {repr L : Nat} (hL : L ≤ t.bvs.size) {bit : Nat → Bool} (hbit : ∀ k, bitAt L k repr = bit k)
include hB hL hbit

theorem rankWalk_ok (i : Nat)
    (hin : ∀ k, k < L → walkPos bit B 0 k ≤ (B k).length ∧ walkPos bit B i k ≤ (B k).length)
    (f k : Nat) (hfk : f + k = L) :
    rankWalk t repr L f k (walkPos bit B i k) (walkPos bit B 0 k) =
      .ok (walkPos bit B i L, walkPos bit B 0 L) := by
  induction f generalizing k with
  | zero =>
    obtain rfl := fuel_zero hfk
    rfl
  | succ f ih =>
    obtain ⟨hk, hfk'⟩ := fuel_succ hfk
    have hks : k < t.bvs.size := Nat.lt_of_lt_of_le hk hL
    have hr := hB k hks
    obtain ⟨hp, hi⟩ := hin k hk
    rw [rankWalk, bitOf_ok _ _ _ hk, hbit, ok_bind, idx_ok (h := hks), ok_bind,
      hr.rank1U _ hp, ok_bind, hr.rank1U _ hi, ok_bind]
    simp only [ite_bind]
    rw [updPos_ok hr _ _ hp, ok_bind, updPos_ok hr _ _ hi, ok_bind]
    exact ih (k + 1) hfk'

theorem selectDown_ok (hin : ∀ k, k < L → B k ≠ [] ∧ walkPos bit B 0 k ≤ (B k).length)
    (f k : Nat) (hfk : f + k = L) :
    selectDown t repr L f k (walkPos bit B 0 k) (pathOf bit B k) = .ok (some (pathOf bit B L)) := by
  induction f generalizing k with
  | zero =>
    obtain rfl := fuel_zero hfk
    rfl
  | succ f ih =>
    obtain ⟨hk, hfk'⟩ := fuel_succ hfk
    have hks : k < t.bvs.size := Nat.lt_of_lt_of_le hk hL
    have hr := hB k hks
    obtain ⟨hbne, hp⟩ := hin k hk
    rw [selectDown, bitOf_ok _ _ _ hk, hbit, ok_bind, idx_ok (h := hks), ok_bind]
    simp only [ite_bind]
    rw [rankB_ok hr _ _ hbne hp, ok_bind]
    simp only
    rw [mapPos_eq _ _ _ hr.nZeros_eq]
    exact ih (k + 1) hfk'

theorem selectUp_ok (hlen : ∀ k, k < L → (B k).length < two64) (k res : Nat) (hk : k ≤ L) :
    selectUp t repr L (pathOf bit B k) (k - 1) res = .ok (selUp bit B k res) := by
  induction k generalizing res with
  | zero => rfl
  | succ k ih =>
    have hk' : k < L := hk
    have hks : k < t.bvs.size := Nat.lt_of_lt_of_le hk' hL
    have hr := hB k hks
    rw [pathOf, selectUp, Nat.add_sub_cancel, bitOf_ok _ _ _ hk', hbit, ok_bind, idx_ok (h := hks),
      ok_bind, selUp]
    by_cases hov : Spec.rank (bit k) (walkPos bit B 0 k) (B k) + res ≥ two64
    · -- the model gives up; so does the specification: a level has fewer than `2^64` bits
      rw [if_pos hov, select_none
        (Nat.le_trans (Nat.le_trans List.count_le_length (Nat.le_of_lt (hlen k hk'))) hov)]
      rfl
    · rw [if_neg hov]
      simp only [ite_bind]
      rw [selB_ok hr, ok_bind]
      cases hq : Spec.select (bit k) (Spec.rank (bit k) (walkPos bit B 0 k) (B k) + res) (B k) with
      | none => rfl
      | some q =>
        simp only
        rw [sub_ok (h := le_of_select hq (Nat.le_add_right _ _)), ok_bind]
        exact ih _ (Nat.le_of_lt hk')

end walks

theorem bitAt_eq_testBit (L k x : Nat) : bitAt L k x = x.testBit (L - (k + 1)) := by
  rw [bitAt, Nat.testBit_eq_decide_div_mod_eq, Nat.shiftRight_eq_div_pow]
  by_cases h : x / 2 ^ (L - (k + 1)) % 2 = 1 <;> simp [h]

theorem eq_of_bitAt {L x c : Nat} (hx : x < 2 ^ L) (hc : c < 2 ^ L)
    (h : ∀ j, j < L → bitAt L j x = bitAt L j c) : x = c := by
  apply Nat.eq_of_testBit_eq
  intro i
  by_cases hi : i < L
  · -- bit `i` is the bit of level `L - (i + 1)`
    have e : L - (L - (i + 1) + 1) = i := by omega
    have := h (L - (i + 1)) (Nat.sub_lt (Nat.zero_lt_of_lt hi) (Nat.succ_pos i))
    rwa [bitAt_eq_testBit, bitAt_eq_testBit, e] at this
  · have h2 : 2 ^ L ≤ 2 ^ i := Nat.pow_le_pow_right (by decide) (Nat.le_of_not_lt hi)
    rw [Nat.testBit_lt_two_pow (Nat.lt_of_lt_of_le hx h2),
      Nat.testBit_lt_two_pow (Nat.lt_of_lt_of_le hc h2)]

theorem agree_eq_beq (L c x : Nat) (hc : c < 2 ^ L) (hx : x < 2 ^ L) :
    agree (bitAt L) c L x = (x == c) := by
  cases hag : agree (bitAt L) c L x
  · have : x ≠ c := fun e => by rw [e, agree_self] at hag; cases hag
    simpa using this
  · rw [eq_of_bitAt hx hc (fun j hj => agree_bit (bitAt L) c x hj hag)]
    simp

/-- reassembling the value one bit at a time, modulo anything above it -/
theorem acc_step (M L k x : Nat) (hk : k < L) (hx : x < M) :
    ((x >>> (L - k)) <<< 1) % M ||| (if bitAt L k x = true then 1 else 0) =
      x >>> (L - (k + 1)) := by
  have e : L - k = (L - (k + 1)) + 1 := (Nat.succ_pred_eq_of_pos (Nat.sub_pos_of_lt hk)).symm
  rw [e, Nat.shiftRight_succ, bitAt]
  generalize hy : x >>> (L - (k + 1)) = y
  have hyx : y ≤ x := by rw [← hy, Nat.shiftRight_eq_div_pow]; exact Nat.div_le_self _ _
  have hb : (if (y % 2 == 1) = true then 1 else 0) = y % 2 := by
    rcases Nat.mod_two_eq_zero_or_one y with h | h <;> rw [h] <;> rfl
  have hs : (y / 2) <<< 1 = y / 2 * 2 := by rw [Nat.shiftLeft_eq, Nat.pow_one]
  have hlt : (y / 2) <<< 1 < M := by
    rw [hs]; exact Nat.lt_of_le_of_lt (Nat.le_trans (Nat.div_mul_le_self y 2) hyx) hx
  rw [hb, Nat.mod_eq_of_lt hlt, ← Nat.shiftLeft_add_eq_or_of_lt (Nat.mod_lt _ (by decide)), hs]
  exact Nat.div_add_mod' y 2

end Qwt.BinWM
