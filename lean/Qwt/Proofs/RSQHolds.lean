import Qwt.Proofs.RSQBits
import Qwt.Proofs.QVector

/-! `QV.Holds q s`: the word-level meaning of a `QVector`, as the rank/select layer uses it. It says
`QV.Inv q ∧ QV.abs q = s` (`inv_of_holds`, conversely `holds_of_inv`), so what `normalize`, `lineRank`, `getUnchecked`, `get` compute
under it is read off Proofs/QVector; `holds_of_pushes` gives `Holds` for a pushed digit list. -/
namespace Qwt.QV
open Qwt

/-- `q` stores the quaternary sequence `s`: four `u128` words per 256 symbols, symbol `i`
    at bit `i % 128` of word `4·(i/256) + (i%256)/128` (high bit) and of that word `+ 2`
    (low bit); padding positions (`s.getD _ 0 = 0`) are zero. -/
structure Holds (q : QVector) (s : List Nat) : Prop where
  size_eq : q.data.size = 4 * ((s.length + 255) / 256)
  pos_eq : q.position = 2 * s.length
  word_lt : ∀ w, w < q.data.size → q.data.getD w 0 < 2 ^ 128
  high : ∀ l p, l < (s.length + 255) / 256 → p < 256 →
    (q.data.getD (4 * l + p / 128) 0).testBit (p % 128) = (s.getD (256 * l + p) 0).testBit 1
  low : ∀ l p, l < (s.length + 255) / 256 → p < 256 →
    (q.data.getD (4 * l + p / 128 + 2) 0).testBit (p % 128) = (s.getD (256 * l + p) 0).testBit 0

theorem holds_empty : Holds {} [] :=
  ⟨rfl, rfl, fun _ hw => absurd hw (Nat.not_lt_zero _),
    fun _ _ hl => absurd hl (Nat.not_lt_zero _), fun _ _ hl => absurd hl (Nat.not_lt_zero _)⟩

end Qwt.QV

namespace Qwt.RSQP
open Qwt Qwt.QV

theorem two128_eq : two128 = 2 ^ 128 := by decide
section
variable {q : QVector} {s : List Nat}

theorem holds_len (h : Holds q s) : QV.len q = s.length := by
  unfold QV.len; rw [h.pos_eq, Nat.shiftRight_eq_div_pow]; omega

theorem holds_nLines (h : Holds q s) : nLines q = (s.length + 255) / 256 := by
  unfold nLines; rw [h.size_eq]; omega

theorem sym_lt (hs : ∀ x ∈ s, x < 4) (j : Nat) : s.getD j 0 < 4 := by
  rcases Nat.lt_or_ge j s.length with h1 | h1
  · rw [List.getD_eq_getElem?_getD, List.getElem?_eq_getElem h1]; exact hs _ (List.getElem_mem h1)
  · rw [List.getD_eq_getElem?_getD, List.getElem?_eq_none h1]; decide

theorem wd_eq_getD (d : Array Nat) (k : Nat) : wd d k = d.getD k 0 := by
  rw [Array.getD_eq_getD_getElem?]; rfl

theorem sym_of_bits : ∀ x, x < 4 → 2 * (x.testBit 1).toNat + (x.testBit 0).toNat = x := by
  decide

theorem symAt_of_holds (h : Holds q s) (hs : ∀ x ∈ s, x < 4) (i : Nat) :
    symAt q.data i = s.getD i 0 := by
  by_cases hl : i / 256 < (s.length + 255) / 256
  · have hp : i % 256 < 256 := Nat.mod_lt _ (by decide)
    have e := symAt_line q.data (i / 256) hp
    rw [Nat.div_add_mod, wd_eq_getD, wd_eq_getD, Nat.add_right_comm, h.high _ _ hl hp,
      h.low _ _ hl hp, Nat.div_add_mod] at e
    rw [e]
    exact sym_of_bits _ (sym_lt hs i)
  · -- beyond the allocated lines both the words and the padded sequence are zero
    have hsz := h.size_eq
    have h0 : ∀ k, 4 * (i / 256) ≤ k → wd q.data k = 0 := fun k hk => wd_of_ge (by omega)
    have : symAt q.data i = 0 := by
      unfold symAt hbit lbit
      rw [h0 _ (by omega), h0 _ (by omega), Nat.zero_testBit]
      rfl
    rw [this, List.getD_eq_getElem?_getD, List.getElem?_eq_none (by omega)]
    rfl

theorem inv_of_holds (h : Holds q s) (hs : ∀ x ∈ s, x < 4) : Inv q ∧ abs q = s := by
  have hpos := h.pos_eq
  have hlen : q.position / 2 = s.length := by omega
  refine ⟨⟨by omega, by rw [hlen]; exact h.size_eq, fun k => ?_, fun i hi => ?_⟩, ?_⟩
  · by_cases hk : k < q.data.size
    · rw [wd_eq_getD]; exact h.word_lt k hk
    · rw [wd_of_ge (Nat.le_of_not_lt hk)]; exact Nat.two_pow_pos _
  · rw [symAt_of_holds h hs, List.getD_eq_getElem?_getD, List.getElem?_eq_none (by omega)]
    rfl
  · apply List.ext_getElem
    · rw [length_abs, hlen]
    · intro i h1 h2
      rw [getElem_abs, symAt_of_holds h hs, getD_of_lt h2]

theorem getUnchecked_ok (h : Holds q s) (hs : ∀ x ∈ s, x < 4) (dbg : Bool) {i : Nat} (hi : i < s.length) :
    QV.getUnchecked dbg q i = .ok (s.getD i 0) := by
  obtain ⟨hI, ha⟩ := inv_of_holds h hs
  rw [QV.getUnchecked_ok dbg hI (ha ▸ hi), getElem_abs, symAt_of_holds h hs]

theorem get_ok (h : Holds q s) (hs : ∀ x ∈ s, x < 4) (dbg : Bool) (i : Nat) :
    QV.get dbg q i = .ok s[i]? := by
  obtain ⟨hI, ha⟩ := inv_of_holds h hs
  exact ha ▸ QV.get_ok dbg hI i

end

/-- the two normalised words of line `l` for symbol `c`: bit `j` of the first (second) word
    tells whether the padded sequence has `c` at position `256 l + j` (`256 l + 128 + j`) -/
theorem normalize_ok {q : QVector} {s : List Nat} (h : Holds q s) (hs : ∀ x ∈ s, x < 4) {l c : Nat}
    (hl : l < (s.length + 255) / 256) (hc : c < 4) :
    ∃ w0 w1, normalize q.data l c = .ok (w0, w1) ∧ w0 < 2 ^ 128 ∧ w1 < 2 ^ 128 ∧
      (∀ j, j < 128 → w0.testBit j = decide (s.getD (256 * l + j) 0 = c)) ∧
      (∀ j, j < 128 → w1.testBit j = decide (s.getD (256 * l + 128 + j) 0 = c)) := by
  obtain ⟨hI, ha⟩ := inv_of_holds h hs
  exact ha ▸ QV.normalize_ok hI hc (holds_nLines h ▸ hl)

/-- `lineRank` counts the occurrences of `c` among the first `i` positions of line `l`
    of the padded sequence -/
theorem lineRank_ok {q : QVector} {s : List Nat} (h : Holds q s) (hs : ∀ x ∈ s, x < 4) (dbg : Bool)
    {l c i : Nat} (hl : l < (s.length + 255) / 256) (hc : c < 4) (hi : i ≤ 256) :
    lineRank dbg q.data l c i = .ok (cntF (fun j => decide (s.getD (256 * l + j) 0 = c)) i) := by
  obtain ⟨hI, ha⟩ := inv_of_holds h hs
  rw [QV.lineRank_padded dbg hI hc (holds_nLines h ▸ hl) hi, ha, cntF_eq_countP]
  simp only [Bool.beq_eq_decide_eq]

theorem testBit1_sym (a b : Bool) : (2 * a.toNat + b.toNat).testBit 1 = a := by
  cases a <;> cases b <;> decide

theorem testBit0_sym (a b : Bool) : (2 * a.toNat + b.toNat).testBit 0 = b := by
  cases a <;> cases b <;> decide

theorem holds_of_inv {q : QV.QVector} (h : QV.Inv q) : QV.Holds q (QV.abs q) := by
  have hlen := QV.length_abs q
  have hev := h.even
  refine ⟨?_, ?_, ?_, ?_, ?_⟩
  · rw [hlen]; exact h.size
  · rw [hlen]; omega
  · intro w _
    rw [← wd_eq_getD]; exact h.word w
  · intro l p _ hp
    rw [← QV.symAt_eq_getD h, QV.symAt_line q.data l hp, testBit1_sym, wd_eq_getD]
  · intro l p _ hp
    rw [← QV.symAt_eq_getD h, QV.symAt_line q.data l hp, testBit0_sym, wd_eq_getD, Nat.add_right_comm]

theorem pushes_ok (digits : List Nat) : ∀ (b : QV.QVector), QV.Inv b →
    b.position + 2 * digits.length < two64 →
    ∃ q, digits.foldlM (fun (b : QV.QVectorBuilder) d => QV.push b d) b = .ok q ∧ QV.Inv q ∧
      QV.abs q = QV.abs b ++ digits.map (· % 4) := by
  induction digits with
  | nil => intro b h _; exact ⟨b, rfl, h, by simp⟩
  | cons d ds ih =>
    intro b h hn
    simp only [List.length_cons] at hn
    obtain ⟨b', e1, i1, p1, a1⟩ := QV.push_spec b d h (by omega)
    obtain ⟨q, e2, i2, a2⟩ := ih b' i1 (by omega)
    refine ⟨q, ?_, i2, ?_⟩
    · rw [List.foldlM_cons, e1]; exact e2
    · rw [a2, a1]; simp

theorem holds_of_pushes (digits : List Nat) (hd : ∀ d ∈ digits, d < 4)
    (hn : 2 * digits.length < two64) :
    ∃ q, digits.foldlM (fun (b : QV.QVectorBuilder) d => QV.push b d) {} = .ok q ∧
      QV.Holds q digits := by
  obtain ⟨q, e, i, a⟩ := pushes_ok digits {} QV.empty_inv.1 (by simpa using hn)
  refine ⟨q, e, ?_⟩
  have : QV.abs q = digits := by
    rw [a, QV.empty_inv.2, List.nil_append]
    conv => rhs; rw [← List.map_id digits]
    apply List.map_congr_left
    intro d hd'
    have := hd d hd'
    simp only [id]; omega
  rw [← this]
  exact holds_of_inv i

end Qwt.RSQP
