import Qwt.Proofs.BinWMSim
import Qwt.Proofs.BinHWM

/-!
The model's walks on a tree whose levels represent the bit lists `bitsH β len k S` of a valid
list-level matrix: `rankWalk` yields `Spec.rank`, the two passes of `select` yield
`Spec.select`, the loop of `get_unchecked` reassembles the code of the element.  Stated once for
any `β`, `len`; the Huffman-shaped tree has `β = cbit codes`, `len = clen codes`, the plain one
`β = bitAt L` and the constant length `L`.
-/

namespace Qwt.BinWM
open Qwt Qwt.BinWT Qwt.RSW
open Qwt.Huff (PrefixCode)

/-- code length of symbol `x` in the table (0 outside the table) -/
def clen (codes : Array PrefixCode) (x : Nat) : Nat := codes[x]!.len

/-- bit `k` (most significant first) of the code of `x` -/
def cbit (codes : Array PrefixCode) (k x : Nat) : Bool := bitAt (clen codes x) k codes[x]!.content

/-- the levels of the model represent the bit lists of the list-level Huffman matrix of `S` -/
structure LevelsH (codes : Array PrefixCode) (S : List Nat) (t : WT) : Prop where
  size_eq : t.bvs.size = t.nLevels
  lens_size : t.lens.size = t.nLevels
  repr : ∀ k (h : k < t.bvs.size), RSW.Represents t.bvs[k] (bitsH (cbit codes) (clen codes) k S)
  lens_eq : ∀ k (h : k < t.lens.size), t.lens[k] = (lvlH (cbit codes) (clen codes) k S).length
  len_le : ∀ x ∈ S, clen codes x ≤ t.nLevels

theorem Levels.reprH {L : Nat} {S : List Nat} {bvs : Array RSWide} (hlv : Levels L S bvs) :
    ∀ k (h : k < bvs.size), RSW.Represents bvs[k] (bitsH (bitAt L) (fun _ => L) k S) := by
  intro k h
  rw [bitsH_const _ (by rw [← hlv.size_eq]; exact h)]
  exact hlv.repr k h

section walks
variable {β : Nat → Nat → Bool} {len : Nat → Nat} {S : List Nat} {t : WT}
  (h : HOK β len S)
  (hB : ∀ k (hk : k < t.bvs.size), RSW.Represents t.bvs[k] (bitsH β len k S))
include h hB

section key
variable {c : Nat} (hc : Findable len S c) (hfull : ∀ x ∈ S, agR β len c (len c) x = (x == c))
  (hL : len c ≤ t.bvs.size) {repr : Nat} (hbit : ∀ k, bitAt (len c) k repr = β k c)
include hc hfull hL hbit

theorem rankWalk_spec (i : Nat) (hi : i ≤ S.length) :
    ∃ p, rankWalk t repr (len c) (len c) 0 i 0 = .ok (p + Spec.rank c i S, p) := by
  have hw := rankWalk_ok hB hL hbit i
    (fun k hk => ⟨walkPos_le h hc k hk 0 (Nat.zero_le _), walkPos_le h hc k hk i hi⟩)
    (len c) 0 (Nat.add_zero _)
  rw [walkPos_eq h hc _ (Nat.le_refl _) i hi] at hw
  have e : cntR β len c S (len c) i = Spec.rank c i S :=
    countP_eq_count _ _ _ (fun x hx => hfull x (List.mem_of_mem_take hx))
  rw [e] at hw
  exact ⟨_, hw⟩

theorem select_spec (hpos : 0 < len c) (hS : S.length < two64) (res : Nat) :
    ∃ path, selectDown t repr (len c) (len c) 0 0 [] = .ok (some path) ∧
      selectUp t repr (len c) path (len c - 1) res = .ok (Spec.select c res S) := by
  refine ⟨_, selectDown_ok hB hL hbit
    (fun k hk => ⟨bitsH_ne_nil h hc k hk, walkPos_le h hc k hk 0 (Nat.zero_le _)⟩)
    (len c) 0 (Nat.add_zero _), ?_⟩
  have hlen : ∀ k, k < len c → (bitsH β len k S).length < two64 := by
    intro k _
    rw [bitsH, List.length_map]
    exact Nat.lt_of_le_of_lt (lvlH_length_le _ _ _ _) hS
  rw [selectUp_ok hB hL hbit hlen (len c) res (Nat.le_refl _),
    selUp_spec h hc _ _ (Nat.le_refl _) (fun h0 => absurd h0 (Nat.ne_of_gt hpos)),
    select_map_eq _ c S hfull]

end key

/-- the loop of `get_unchecked` reassembles the number `v` whose bits are the code of `x` (the code
    word for the Huffman-shaped tree, `x` itself for the plain one); the Huffman-shaped tree stops
    at the level-length test, the plain one after the last level -/
theorem go_ok (c : Cfg) (comp : Bool) (hsz : t.bvs.size = t.nLevels)
    (hlens : comp = true → t.lens.size = t.nLevels ∧
      ∀ k (hk : k < t.lens.size), t.lens[k] = (lvlH β len k S).length)
    (x j : Nat) (hj : S[j]? = some x) {v : Nat} (hbit : ∀ k, bitAt (len x) k v = β k x)
    (hv : v < if comp = true then Huff.two32 else 2 ^ c.W)
    (hle : len x ≤ t.nLevels) (heq : comp = false → len x = t.nLevels)
    (f k : Nat) (hfk : f + k = t.nLevels) (hk : k ≤ len x) :
    getUnchecked.go c comp t f k (v >>> (len x - k)) (walkPos (β · x) (bitsH β len · S) j k) k =
      .ok (v, len x) := by
  induction f generalizing k with
  | zero =>
    obtain rfl : k = len x := Nat.le_antisymm hk (fuel_zero hfk ▸ hle)
    simp [getUnchecked.go, pure, Except.pure]
  | succ f ih =>
    obtain ⟨hkn, hfk'⟩ := fuel_succ hfk
    have hks : k < t.bvs.size := hsz ▸ hkn
    rw [getUnchecked.go]
    by_cases hk' : k < len x
    · have hr := hB k hks
      have hltb := (List.getElem?_eq_some_iff.mp (bitsH_track h x j hj k hk')).1
      have hlt := (List.getElem?_eq_some_iff.mp (track_get h x j hj k hk')).1
      have hgetD : (bitsH β len k S).getD (walkPos (β · x) (bitsH β len · S) j k) false = β k x := by
        rw [List.getD_eq_getElem?_getD, bitsH_track h x j hj k hk']; rfl
      -- the stop test of the Huffman-shaped tree is negative: the element is still live
      have hstop : ∀ K : Bool → M (Nat × Nat),
          (if comp = true then
              idx t.lens k >>= fun ll =>
                pure (decide (walkPos (β · x) (bitsH β len · S) j k ≥ ll)) >>= K
            else pure false >>= K) = K false := by
        intro K
        cases comp with
        | false => rfl
        | true =>
          obtain ⟨hs, hl⟩ := hlens rfl
          have hkl : k < t.lens.size := hs ▸ hkn
          rw [if_pos rfl, idx_ok (h := hkl), ok_bind, hl k hkl, decide_eq_false (Nat.not_le.mpr hlt)]
          rfl
      have hacc : ((v >>> (len x - k)) <<< 1) % (if comp = true then Huff.two32 else 2 ^ c.W) |||
          (if β k x = true then 1 else 0) = v >>> (len x - (k + 1)) := by
        rw [← hbit]; exact acc_step _ _ _ _ hk' hv
      rw [hstop]
      simp only [Bool.false_eq_true, if_false]
      rw [idx_ok (h := hks), ok_bind, hr.getU _ hltb, ok_bind, hgetD,
        hr.rank1U _ (Nat.le_of_lt hltb), ok_bind]
      simp only [ite_bind]
      rw [updPos_ok hr _ _ (Nat.le_of_lt hltb), ok_bind, hacc]
      exact ih (k + 1) hfk' hk'
    · -- the code of `x` has ended: the plain tree is past its last level, the other one stops
      have hke : k = len x := Nat.le_antisymm hk (Nat.le_of_not_lt hk')
      cases comp with
      | false => exact absurd hkn (by rw [hke, heq rfl]; exact Nat.lt_irrefl _)
      | true =>
        obtain ⟨hs, hl⟩ := hlens rfl
        have hkl : k < t.lens.size := hs ▸ hkn
        rw [if_pos rfl, idx_ok (h := hkl), ok_bind, hl _ hkl]
        simp only [pure_bind', decide_eq_true (hke ▸ track_end h x j hj), if_true]
        rw [← hke, Nat.sub_self, Nat.shiftRight_zero]
        rfl

theorem go_start (c : Cfg) (comp : Bool) (hsz : t.bvs.size = t.nLevels)
    (hlens : comp = true → t.lens.size = t.nLevels ∧
      ∀ k (hk : k < t.lens.size), t.lens[k] = (lvlH β len k S).length)
    (x j : Nat) (hj : S[j]? = some x) {v : Nat} (hbit : ∀ k, bitAt (len x) k v = β k x)
    (hv : v < if comp = true then Huff.two32 else 2 ^ c.W) (hvl : v < 2 ^ len x)
    (hle : len x ≤ t.nLevels) (heq : comp = false → len x = t.nLevels) :
    getUnchecked.go c comp t t.nLevels 0 0 j 0 = .ok (v, len x) := by
  have hgo := go_ok h hB c comp hsz hlens x j hj hbit hv hle heq t.nLevels 0 (Nat.add_zero _)
    (Nat.zero_le _)
  rwa [Nat.sub_zero, Nat.shiftRight_eq_div_pow, Nat.div_eq_of_lt hvl] at hgo

end walks

/-! ## the model's `rank` and `select` around the walks

`reprOf` decides which symbols are answered `none`; for both variants its answer has the shape
`if valid then some (repr, L) else none`. -/

theorem rank_of_walk (c : Cfg) {comp : Bool} {t : WT} {S : List Nat} (hn : t.n = S.length)
    {valid : Prop} [Decidable valid] {sym repr L : Nat}
    (hrepr : reprOf comp t sym = .ok (if valid then some (repr, L) else none))
    (hwalk : valid → ∀ i, i ≤ S.length →
      ∃ p, rankWalk t repr L L 0 i 0 = .ok (p + Spec.rank sym i S, p)) (i : Nat) :
    BinWT.rank c comp t sym i =
      .ok (if valid ∧ i ≤ S.length then some (Spec.rank sym i S) else none) := by
  unfold BinWT.rank
  rw [hn, hrepr]
  by_cases hi : i ≤ S.length
  · have hi' : ¬ i > S.length := Nat.not_lt.mpr hi
    by_cases hv : valid
    · obtain ⟨p, hp⟩ := hwalk hv i hi
      simp only [if_pos (And.intro hv hi), if_neg hi', if_pos hv, ok_bind, hp]
      rw [sub_ok (h := Nat.le_add_right _ _), Nat.add_sub_cancel_left]; rfl
    · simp only [if_neg (fun h' : valid ∧ i ≤ S.length => hv h'.1), if_neg hi', if_neg hv, ok_bind]
      rfl
  · have hi' : i > S.length := Nat.lt_of_not_le hi
    simp only [if_neg (fun h' : valid ∧ i ≤ S.length => hi h'.2), if_pos hi']
    rfl

theorem select_of_walk (c : Cfg) {comp : Bool} {t : WT} {S : List Nat}
    {valid : Prop} [Decidable valid] {sym repr L : Nat}
    (hrepr : reprOf comp t sym = .ok (if valid then some (repr, L) else none))
    (hwalk : valid → ∀ k, ∃ path, selectDown t repr L L 0 0 [] = .ok (some path) ∧
      selectUp t repr L path (L - 1) k = .ok (Spec.select sym k S)) (k : Nat) :
    BinWT.select c comp t sym k = .ok (if valid then Spec.select sym k S else none) := by
  unfold BinWT.select
  rw [hrepr]
  by_cases hv : valid
  · obtain ⟨path, hd, hu⟩ := hwalk hv k
    simp only [if_pos hv, ok_bind, hd, hu]
  · simp only [if_neg hv, ok_bind]
    rfl

theorem getUnchecked_ok {L : Nat} {S : List Nat} {t : WT} (c : Cfg)
    (h : HOK (bitAt L) (fun _ => L) S) (hlv : Levels L S t.bvs) (hL : t.nLevels = L)
    (x j : Nat) (hj : S[j]? = some x) (hx : x < 2 ^ c.W) (hxL : x < 2 ^ L) :
    BinWT.getUnchecked c false t j = .ok x := by
  have hgo := go_start h hlv.reprH c false (hlv.size_eq.trans hL.symm) (fun hf => by cases hf)
    x j hj (fun _ => rfl) hx hxL (Nat.le_of_eq hL.symm) (fun _ => hL.symm)
  simp only [BinWT.getUnchecked, hgo, ok_bind]
  rfl

theorem ite_pure_bind {α β : Type} (b : Prop) [Decidable b] (a : α) (y : M α) (f : α → M β) :
    (if b then f a else y >>= f) = (if b then pure a else y) >>= f := by
  split <;> rfl

/-- what `get` needs from the decode tables -/
def DecOK (codes : Array PrefixCode) (dec : Array (Array (Nat × Nat))) (S : List Nat) : Prop :=
  ∀ x ∈ S, ∃ tbl, dec[clen codes x]? = some tbl ∧ Huff.tableFind tbl codes[x]!.content = some x

theorem getUncheckedH_ok {codes : Array PrefixCode} {S : List Nat} {t : WT} (c : Cfg)
    (h : HOK (cbit codes) (clen codes) S) (hlv : LevelsH codes S t)
    {dec : Array (Array (Nat × Nat))} (hdec : t.codesDecode = some dec) (hd : DecOK codes dec S)
    (x j : Nat) (hj : S[j]? = some x)
    (hcont : codes[x]!.content < 2 ^ clen codes x) (hl32 : clen codes x ≤ 32) (hx : x < 2 ^ c.W) :
    BinWT.getUnchecked c true t j = .ok x := by
  have hxS : x ∈ S := List.mem_of_getElem? hj
  have hc32 : codes[x]!.content < Huff.two32 :=
    Nat.lt_of_lt_of_le hcont (Nat.pow_le_pow_right (by decide) hl32)
  have hgo := go_start h hlv.repr c true hlv.size_eq (fun _ => ⟨hlv.lens_size, hlv.lens_eq⟩)
    x j hj (fun _ => rfl) hc32 hcont (hlv.len_le x hxS) (fun hf => by cases hf)
  obtain ⟨tbl, htbl, hfind⟩ := hd x hxS
  have hidx : idx dec (clen codes x) = .ok tbl := by
    unfold idx
    obtain ⟨hlt, hget⟩ := Array.getElem?_eq_some_iff.mp htbl
    simp [hlt, hget]
  simp only [BinWT.getUnchecked, hgo, ok_bind, if_true, hdec, unwrap, hidx, hfind, hx]
  rfl

end Qwt.BinWM
