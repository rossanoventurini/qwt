import Mathlib.Analysis.SpecialFunctions.Log.Base
import Mathlib.Analysis.SpecialFunctions.Pow.Real
import Mathlib.Algebra.Order.Floor.Semiring
import Mathlib.Algebra.BigOperators.Fin
import Mathlib.Algebra.Order.BigOperators.Group.Finset

/-!
Helper lemmas for property C15 (`Qwt.Props.C15`): the information-theoretic inequality
behind "the level data of a Huffman-shaped wavelet tree is entropy bounded".

Everything is stated over a finite alphabet `Fin k`, a frequency vector `f : Fin k → ℕ`
and a vector `ℓ : Fin k → ℕ` of code lengths counted in *fragments* (one fragment = one
level of the tree = `b` bits, code arity `D = 2 ^ b`).

This file and `Qwt/Props/C15Closed.lean` are the only ones that import Mathlib modules (the
entropy is a real number).  Nothing in `Qwt/Model` depends on them.
-/
namespace Qwt.Entropy
open Finset

variable {k : ℕ}

/-- `n`: the length of the sequence = the sum of all frequencies -/
def total (f : Fin k → ℕ) : ℕ := ∑ i, f i

/-- `Σ fᵢ·ℓᵢ`: the number of *fragments* written to the levels (every occurrence of symbol
    `i` is written to the first `ℓᵢ` levels). -/
def cost (f ℓ : Fin k → ℕ) : ℕ := ∑ i, f i * ℓ i

/-- zero-order empirical entropy, bits per symbol: `Σ (fᵢ/n)·log₂(n/fᵢ)` -/
noncomputable def H0 (f : Fin k → ℕ) : ℝ :=
  ∑ i, ((f i : ℝ) / (total f : ℝ)) * Real.logb 2 ((total f : ℝ) / (f i : ℝ))

/-- Kraft feasibility for arity `D`, with every length at least one fragment (a symbol of a
    wavelet tree is written to at least one level). -/
def Kraft (D : ℕ) (ℓ : Fin k → ℕ) : Prop :=
  (∀ i, 1 ≤ ℓ i) ∧ ∑ i, (1 / (D : ℝ) ^ ℓ i) ≤ 1

/-- What a `D`-ary minimum-redundancy code guarantees: its lengths are Kraft-feasible and
    no Kraft-feasible length vector is cheaper.  (ASSUMPTION about the external crate
    `minimum_redundancy`; validated per case by the harness, never proved here.) -/
def Optimal (D : ℕ) (f ℓ : Fin k → ℕ) : Prop :=
  Kraft D ℓ ∧ ∀ ℓ' : Fin k → ℕ, Kraft D ℓ' → cost f ℓ ≤ cost f ℓ'

/-- Shannon lengths `max 1 ⌈log_D (n / fᵢ)⌉` (natural ceiling). -/
noncomputable def shannonLen (D : ℕ) (f : Fin k → ℕ) (i : Fin k) : ℕ :=
  max 1 ⌈Real.logb (D : ℝ) ((total f : ℝ) / (f i : ℝ))⌉₊

theorem le_total (f : Fin k → ℕ) (i : Fin k) : f i ≤ total f :=
  Finset.single_le_sum (f := f) (fun _ _ => Nat.zero_le _) (Finset.mem_univ i)

theorem total_pos {f : Fin k → ℕ} (hf : ∀ i, 0 < f i) (hk : 0 < k) : 0 < total f :=
  lt_of_lt_of_le (hf ⟨0, hk⟩) (le_total f _)

theorem lt_total {f : Fin k → ℕ} (hf : ∀ i, 0 < f i) (hk : 2 ≤ k) (i : Fin k) :
    f i < total f := by
  have hne : (Finset.univ.erase i).Nonempty := by
    rw [← Finset.card_pos, Finset.card_erase_of_mem (Finset.mem_univ i), Finset.card_univ,
      Fintype.card_fin]
    omega
  have hpos : 0 < ∑ j ∈ Finset.univ.erase i, f j :=
    Finset.sum_pos (fun j _ => hf j) hne
  have : f i + ∑ j ∈ Finset.univ.erase i, f j = total f :=
    Finset.add_sum_erase _ f (Finset.mem_univ i)
  omega

theorem total_mul_H0 {f : Fin k → ℕ} (hn : 0 < total f) :
    (total f : ℝ) * H0 f = ∑ i, (f i : ℝ) * Real.logb 2 ((total f : ℝ) / (f i : ℝ)) := by
  have hn' : (total f : ℝ) ≠ 0 := (Nat.cast_pos.2 hn).ne'
  unfold H0
  rw [Finset.mul_sum]
  refine Finset.sum_congr rfl fun i _ => ?_
  rw [← mul_assoc, mul_div_cancel₀ _ hn']

theorem total_cast (f : Fin k → ℕ) : (total f : ℝ) = ∑ i, (f i : ℝ) :=
  Nat.cast_sum _ _

theorem cost_cast (f ℓ : Fin k → ℕ) : (cost f ℓ : ℝ) = ∑ i, (f i : ℝ) * (ℓ i : ℝ) := by
  simp only [cost, Nat.cast_sum, Nat.cast_mul]

/-! ## Shannon lengths are Kraft-feasible -/

theorem one_le_shannonLen (D : ℕ) (f : Fin k → ℕ) (i : Fin k) : 1 ≤ shannonLen D f i :=
  le_max_left _ _

theorem inv_pow_shannonLen_le {D : ℕ} (hD : 1 < D) {f : Fin k → ℕ} {i : Fin k}
    (hfi : 0 < f i) :
    1 / (D : ℝ) ^ shannonLen D f i ≤ (f i : ℝ) / (total f : ℝ) := by
  have hD' : (1 : ℝ) < D := Nat.one_lt_cast.2 hD
  have hD0 : (0 : ℝ) < D := zero_lt_one.trans hD'
  have hfi' : (0 : ℝ) < f i := Nat.cast_pos.2 hfi
  have hn' : (0 : ℝ) < total f := Nat.cast_pos.2 (lt_of_lt_of_le hfi (le_total f i))
  have hx : (0 : ℝ) < (total f : ℝ) / (f i : ℝ) := div_pos hn' hfi'
  have h1 : Real.logb (D : ℝ) ((total f : ℝ) / (f i : ℝ)) ≤ (shannonLen D f i : ℝ) := by
    exact le_trans (Nat.le_ceil _) (Nat.cast_le.2 (le_max_right _ _))
  have h2 : (total f : ℝ) / (f i : ℝ) ≤ (D : ℝ) ^ shannonLen D f i := by
    calc (total f : ℝ) / (f i : ℝ)
        = (D : ℝ) ^ Real.logb (D : ℝ) ((total f : ℝ) / (f i : ℝ)) :=
          (Real.rpow_logb hD0 hD'.ne' hx).symm
      _ ≤ (D : ℝ) ^ ((shannonLen D f i : ℕ) : ℝ) :=
          Real.rpow_le_rpow_of_exponent_le hD'.le h1
      _ = (D : ℝ) ^ shannonLen D f i := Real.rpow_natCast _ _
  calc 1 / (D : ℝ) ^ shannonLen D f i ≤ 1 / ((total f : ℝ) / (f i : ℝ)) :=
        one_div_le_one_div_of_le hx h2
    _ = (f i : ℝ) / (total f : ℝ) := one_div_div _ _

theorem shannon_feasible {D : ℕ} (hD : 1 < D) {f : Fin k → ℕ} (hf : ∀ i, 0 < f i) :
    Kraft D (shannonLen D f) := by
  refine ⟨one_le_shannonLen D f, ?_⟩
  calc ∑ i, 1 / (D : ℝ) ^ shannonLen D f i
      ≤ ∑ i, (f i : ℝ) / (total f : ℝ) :=
        Finset.sum_le_sum fun i _ => inv_pow_shannonLen_le hD (hf i)
    _ = (total f : ℝ) / (total f : ℝ) := by rw [← Finset.sum_div, total_cast]
    _ ≤ 1 := div_self_le_one _

/-! ## The entropy bound -/

theorem mul_logb_two_pow {b : ℕ} (hb : 1 ≤ b) (x : ℝ) :
    (b : ℝ) * Real.logb (((2 ^ b : ℕ) : ℝ)) x = Real.logb 2 x := by
  have hb' : (b : ℝ) ≠ 0 := Nat.cast_ne_zero.2 (Nat.ne_of_gt hb)
  simp only [Real.logb, Nat.cast_pow, Nat.cast_ofNat, Real.log_pow]
  rw [← mul_div_assoc, mul_div_mul_left _ _ hb']

theorem mul_shannonLen_lt {b : ℕ} (hb : 1 ≤ b) {f : Fin k → ℕ} {i : Fin k}
    (hfi : 0 < f i) (hlt : f i < total f) :
    (b : ℝ) * (shannonLen (2 ^ b) f i : ℝ)
      < Real.logb 2 ((total f : ℝ) / (f i : ℝ)) + b := by
  have hfi' : (0 : ℝ) < f i := Nat.cast_pos.2 hfi
  have hlt' : (f i : ℝ) < total f := Nat.cast_lt.2 hlt
  have hx : (1 : ℝ) < (total f : ℝ) / (f i : ℝ) := (one_lt_div hfi').2 hlt'
  have hD' : (1 : ℝ) < ((2 ^ b : ℕ) : ℝ) := Nat.one_lt_cast.2 (Nat.one_lt_two_pow (Nat.ne_of_gt hb))
  have hpos : 0 < Real.logb ((2 ^ b : ℕ) : ℝ) ((total f : ℝ) / (f i : ℝ)) :=
    Real.logb_pos hD' hx
  have hmax : shannonLen (2 ^ b) f i
      = ⌈Real.logb ((2 ^ b : ℕ) : ℝ) ((total f : ℝ) / (f i : ℝ))⌉₊ :=
    max_eq_right (Nat.one_le_ceil_iff.2 hpos)
  have hceil := Nat.ceil_lt_add_one hpos.le
  have hbpos : (0 : ℝ) < b := Nat.cast_pos.2 hb
  have := mul_lt_mul_of_pos_left hceil hbpos
  rwa [mul_add, mul_one, mul_logb_two_pow hb, ← hmax] at this

/-- **Entropy bound, generic fragment width.**  If the lengths are optimal for arity `2^b`
    and there are at least two symbols, the level data `b · Σ fᵢ ℓᵢ` is strictly below
    `n · (H0 + b)` bits. -/
theorem level_bits_lt {b : ℕ} (hb : 1 ≤ b) {f ℓ : Fin k → ℕ} (hopt : Optimal (2 ^ b) f ℓ)
    (hk : 2 ≤ k) (hf : ∀ i, 0 < f i) :
    (b : ℝ) * (cost f ℓ : ℝ) < (total f : ℝ) * (H0 f + b) := by
  have hD : 1 < 2 ^ b := Nat.one_lt_two_pow (Nat.ne_of_gt hb)
  have hk0 : 0 < k := Nat.lt_of_lt_of_le (by decide) hk
  have hn : 0 < total f := total_pos hf hk0
  have h1 : (cost f ℓ : ℝ) ≤ (cost f (shannonLen (2 ^ b) f) : ℝ) :=
    Nat.cast_le.2 (hopt.2 _ (shannon_feasible hD hf))
  have hb0 : (0 : ℝ) ≤ b := Nat.cast_nonneg _
  have hne : (Finset.univ : Finset (Fin k)).Nonempty := ⟨⟨0, hk0⟩, Finset.mem_univ _⟩
  calc (b : ℝ) * (cost f ℓ : ℝ)
      ≤ (b : ℝ) * (cost f (shannonLen (2 ^ b) f) : ℝ) := mul_le_mul_of_nonneg_left h1 hb0
    _ = ∑ i, (f i : ℝ) * ((b : ℝ) * (shannonLen (2 ^ b) f i : ℝ)) := by
        rw [cost_cast, Finset.mul_sum]
        exact Finset.sum_congr rfl fun i _ => mul_left_comm _ _ _
    _ < ∑ i, (f i : ℝ) * (Real.logb 2 ((total f : ℝ) / (f i : ℝ)) + b) := by
        refine Finset.sum_lt_sum_of_nonempty hne fun i _ => ?_
        exact mul_lt_mul_of_pos_left (mul_shannonLen_lt hb (hf i) (lt_total hf hk i))
          (Nat.cast_pos.2 (hf i))
    _ = (total f : ℝ) * (H0 f + b) := by
        rw [mul_add, total_mul_H0 hn, total_cast f, Finset.sum_mul, ← Finset.sum_add_distrib]
        exact Finset.sum_congr rfl fun i _ => mul_add _ _ _

theorem H0_one (f : Fin 1 → ℕ) : H0 f = 0 := by
  have ht : total f = f 0 := Fin.sum_univ_one f
  unfold H0
  rw [Fin.sum_univ_one, ht]
  rcases Nat.eq_zero_or_pos (f 0) with h | h
  · rw [h, Nat.cast_zero, zero_div, zero_mul]
  · rw [div_self (Nat.cast_ne_zero.2 h.ne'), Real.logb_one, mul_zero]

/-! ## Never more than the plain tree -/

theorem const_feasible {D L : ℕ} (hk : k ≤ D ^ L) (hL : 1 ≤ L) :
    Kraft D (fun _ : Fin k => L) := by
  refine ⟨fun _ => hL, ?_⟩
  have hk' : (k : ℝ) ≤ (D : ℝ) ^ L := by rw [← Nat.cast_pow]; exact Nat.cast_le.2 hk
  have h0 : (0 : ℝ) ≤ (D : ℝ) ^ L := pow_nonneg (Nat.cast_nonneg D) L
  simp only [Finset.sum_const, Finset.card_univ, Fintype.card_fin, nsmul_eq_mul, mul_one_div]
  exact div_le_one_of_le₀ hk' h0

theorem cost_const (f : Fin k → ℕ) (L : ℕ) : cost f (fun _ => L) = total f * L := by
  simp only [cost, total, Finset.sum_mul]

/-! ## Exact-arithmetic form -/

theorem two_rpow_total_mul_H0 {f : Fin k → ℕ} (hf : ∀ i, 0 < f i) (hk : 0 < k) :
    (2 : ℝ) ^ ((total f : ℝ) * H0 f) * ∏ i, ((f i : ℝ) ^ f i) = (total f : ℝ) ^ total f := by
  have hn : 0 < total f := total_pos hf hk
  have hn' : (0 : ℝ) < total f := by exact_mod_cast hn
  have h2 : (0 : ℝ) < 2 := two_pos
  have h21 : (2 : ℝ) ≠ 1 := by norm_num
  rw [total_mul_H0 hn, Real.rpow_sum_of_pos h2, ← Finset.prod_mul_distrib]
  have hterm : ∀ i : Fin k,
      (2 : ℝ) ^ ((f i : ℝ) * Real.logb 2 ((total f : ℝ) / (f i : ℝ))) * (f i : ℝ) ^ f i
        = (total f : ℝ) ^ f i := by
    intro i
    have hfi' : (0 : ℝ) < f i := by exact_mod_cast hf i
    rw [mul_comm (f i : ℝ), Real.rpow_mul h2.le, Real.rpow_logb h2 h21 (div_pos hn' hfi'),
      Real.rpow_natCast, div_pow, div_mul_cancel₀]
    exact (pow_pos hfi' _).ne'
  rw [Finset.prod_congr rfl fun i _ => hterm i, Finset.prod_pow_eq_pow_sum]
  rfl

/-- **Exact-arithmetic form** (what a checker without real numbers evaluates):
    `bits < n·(H0 + b)` iff `2^bits · Π fᵢ^fᵢ < 2^(b·n) · n^n` over `ℕ`. -/
theorem bits_lt_iff_nat {f : Fin k → ℕ} (hf : ∀ i, 0 < f i) (hk : 0 < k) (b bits : ℕ) :
    (bits : ℝ) < (total f : ℝ) * (H0 f + b)
      ↔ 2 ^ bits * ∏ i, f i ^ f i < 2 ^ (b * total f) * total f ^ total f := by
  have hP : (0 : ℝ) < ∏ i, ((f i : ℝ) ^ f i) :=
    Finset.prod_pos fun i _ => pow_pos (Nat.cast_pos.2 (hf i)) _
  have key := two_rpow_total_mul_H0 hf hk
  rw [← Nat.cast_lt (α := ℝ)]
  push_cast
  rw [← key, ← mul_assoc, mul_lt_mul_iff_left₀ hP, ← Real.rpow_natCast 2 bits,
    ← Real.rpow_natCast 2 (b * total f), ← Real.rpow_add two_pos,
    Real.rpow_lt_rpow_left_iff one_lt_two, Nat.cast_mul, mul_add, add_comm,
    mul_comm (total f : ℝ) b]

theorem bits_lt_iff_rpow {f : Fin k → ℕ} (hf : ∀ i, 0 < f i) (hk : 0 < k) (b bits : ℕ) :
    (bits : ℝ) < (total f : ℝ) * (H0 f + b)
      ↔ (2 : ℝ) ^ ((bits : ℝ) - (b : ℝ) * (total f : ℝ)) * ∏ i, ((f i : ℝ) ^ (f i : ℝ))
          < (total f : ℝ) ^ (total f : ℝ) := by
  have hP : (0 : ℝ) < ∏ i, ((f i : ℝ) ^ f i) :=
    Finset.prod_pos fun i _ => pow_pos (Nat.cast_pos.2 (hf i)) _
  have key := two_rpow_total_mul_H0 hf hk
  simp only [Real.rpow_natCast]
  rw [← key, mul_lt_mul_iff_left₀ hP, Real.rpow_lt_rpow_left_iff one_lt_two, sub_lt_iff_lt_add,
    mul_add, mul_comm (total f : ℝ) b]

theorem bits_lt_iff_nat_ge {f : Fin k → ℕ} (hf : ∀ i, 0 < f i) (hk : 0 < k) {b bits : ℕ}
    (h : b * total f ≤ bits) :
    (bits : ℝ) < (total f : ℝ) * (H0 f + b)
      ↔ 2 ^ (bits - b * total f) * ∏ i, f i ^ f i < total f ^ total f := by
  rw [bits_lt_iff_nat hf hk]
  obtain ⟨d, rfl⟩ := Nat.exists_eq_add_of_le h
  rw [Nat.add_sub_cancel_left, pow_add, mul_assoc]
  exact Nat.mul_lt_mul_left (Nat.pow_pos (by norm_num))

theorem bits_lt_iff_nat_le {f : Fin k → ℕ} (hf : ∀ i, 0 < f i) (hk : 0 < k) {b bits : ℕ}
    (h : bits ≤ b * total f) :
    (bits : ℝ) < (total f : ℝ) * (H0 f + b)
      ↔ ∏ i, f i ^ f i < 2 ^ (b * total f - bits) * total f ^ total f := by
  rw [bits_lt_iff_nat hf hk]
  obtain ⟨d, hd⟩ := Nat.exists_eq_add_of_le h
  rw [hd, Nat.add_sub_cancel_left, pow_add, mul_assoc]
  exact Nat.mul_lt_mul_left (Nat.pow_pos (by norm_num))

theorem total_get (f : List ℕ) : total f.get = f.sum :=
  Fin.sum_univ_getElem f

end Qwt.Entropy
