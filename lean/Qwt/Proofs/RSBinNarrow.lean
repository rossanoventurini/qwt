import Qwt.Proofs.RSBinHolds
import Qwt.Proofs.RSBinHints

/-! `RSNarrow` (rs_narrow.rs): the representation invariant established by `RSNarrow::new`, and
the rank / select queries proved against it.  A block is a 512-bit line, a sub-block a word. -/
namespace Qwt.RSN
open Qwt Qwt.BV Qwt.RSBin Qwt.Extracted

/-- counter `j` of block `q`: ones in its first `j` words -/
def cn (s : List Bool) (q j : Nat) : Nat := R s (64 * (8 * q + j)) - R s (512 * q)

/-- the word of seven nine-bit counters of block `q` -/
def subOf (s : List Bool) (q : Nat) : Nat := packN 9 0 (cn s q) 7

theorem cn_lt (s : List Bool) (q j : Nat) (hj : j ≤ 7) : cn s q j < 2 ^ 9 := by
  have := rank_add_le true s (512 * q) (64 * j)
  unfold cn R
  rw [show 64 * (8 * q + j) = 512 * q + 64 * j by omega]
  omega

theorem packN_cn_lt (s : List Bool) (q r : Nat) (hr : r ≤ 7) : packN 9 0 (cn s q) r < 2 ^ (9 * r) := by
  have := packN_lt 9 0 (cn s q) 0 (by decide) r fun j _ hj => cn_lt s q j (Nat.le_trans hj hr)
  rwa [Nat.zero_add] at this

theorem subOf_fields (s : List Bool) (q : Nat) :
    subOf s q < 2 ^ 63 ∧
    ∀ j, 1 ≤ j → j ≤ 7 → subOf s q / 2 ^ ((7 - j) * 9) % 512 = cn s q j :=
  ⟨packN_cn_lt s q 7 (Nat.le_refl _), (packN_fields 9 0 (cn s q) 7 fun j _ hj => cn_lt s q j hj).2⟩

/-- `buildWord` with the pairs `(s1, hint1)`, `(s0, hint0)` taken apart -/
theorem buildWord_eq (st : BuildSt) (b b1 word : Nat) :
    buildWord st b b1 word =
      let shift := (b * 8 + b1) % 8
      let subranks := if shift ≥ 1 then ((st.subranks <<< 9) % two64) ||| st.curSubrank else st.subranks
      let nextRank := st.nextRank + popc word
      let c1 := nextRank / narrowOnesPerHint > st.hint1
      let zeros := st.zeros + (64 - popc word)
      let c0 := zeros / narrowZerosPerHint > st.hint0
      { brp := if shift = 7 then (st.brp.push subranks).push nextRank else st.brp,
        nextRank,
        curSubrank := if shift = 7 then 0 else st.curSubrank + popc word,
        subranks := if shift = 7 then 0 else subranks,
        s0 := if c0 then st.s0.push b else st.s0,
        s1 := if c1 then st.s1.push b else st.s1,
        hint0 := if c0 then st.hint0 + 1 else st.hint0,
        hint1 := if c1 then st.hint1 + 1 else st.hint1,
        zeros } := by
  unfold buildWord
  by_cases h7 : (b * 8 + b1) % 8 = 7 <;>
    simp only [narrowBlockSize, Nat.reduceSub, beq_iff_eq, h7, if_true, if_false, apply_ite Prod.fst,
      apply_ite Prod.snd] <;> rfl

/-- state of the construction loop after `n` words -/
structure BInv (s : List Bool) (n : Nat) (st : BuildSt) : Prop where
  nextRank : st.nextRank = R s (64 * n)
  curSubrank : st.curSubrank = R s (64 * n) - R s (512 * (n / 8))
  subranks : st.subranks = packN 9 0 (cn s (n / 8)) (n % 8 - 1)
  brpSize : st.brp.size = 2 * (n / 8) + 1
  brpAbs : ∀ q, q ≤ n / 8 → st.brp.getD (2 * q) 0 = R s (512 * q)
  brpSub : ∀ q, q < n / 8 → st.brp.getD (2 * q + 1) 0 = subOf s q
  zeros : st.zeros = Z s (64 * n)
  h1 : HintInv (fun m => C true s (64 * m)) narrowOnesPerHint n st.s1 st.hint1
  h0 : HintInv (fun m => C false s (64 * m)) narrowZerosPerHint n st.s0 st.hint0

theorem BInv.init (s : List Bool) : BInv s 0 {} where
  nextRank := (Spec.rank_zero true s).symm
  curSubrank := (Nat.sub_self _).symm
  subranks := rfl
  brpSize := rfl
  brpAbs := by
    intro q hq
    rw [Nat.le_zero.1 hq]
    exact (Spec.rank_zero true s).symm
  brpSub := fun q hq => absurd hq (Nat.not_lt_zero q)
  zeros := by rw [Z, R, Nat.mul_zero, Spec.rank_zero]
  h1 := HintInv.init _ _ (C_zero _ _)
  h0 := HintInv.init _ _ (C_zero _ _)

theorem BInv.subranks_step {s : List Bool} {n : Nat} {st : BuildSt} (hv : BInv s n st) :
    (if n % 8 ≥ 1 then ((st.subranks <<< 9) % two64) ||| st.curSubrank else st.subranks)
      = packN 9 0 (cn s (n / 8)) (n % 8) := by
  have hsub := hv.subranks
  have hcn : st.curSubrank = cn s (n / 8) (n % 8) := by rw [hv.curSubrank, cn, Nat.div_add_mod]
  have hj := Nat.mod_lt n (by decide : 0 < 8)
  generalize n % 8 = j at *
  cases j with
  | zero => exact hsub
  | succ j =>
    rw [if_pos (Nat.le_add_left 1 j), hsub, hcn]
    exact packN_step 9 64 0 _ j (Nat.lt_of_lt_of_le (packN_cn_lt s _ (j + 1) (by omega))
      (Nat.pow_le_pow_right (by decide) (by omega))) (cn_lt s _ _ (by omega))

theorem getD_push_pair {a : Array Nat} {m : Nat} (hsz : a.size = 2 * m + 1) (x y : Nat) :
    (∀ i, i ≤ 2 * m → ((a.push x).push y).getD i 0 = a.getD i 0) ∧
      ((a.push x).push y).getD (2 * m + 1) 0 = x ∧ ((a.push x).push y).getD (2 * (m + 1)) 0 = y := by
  refine ⟨fun i hi => ?_, ?_, ?_⟩
  · rw [getD_push_lt _ _ _ (by rw [Array.size_push]; omega), getD_push_lt _ _ _ (by omega)]
  · rw [getD_push_lt _ _ _ (by rw [Array.size_push]; omega), ← hsz, getD_push_eq]
  · rw [show 2 * (m + 1) = (a.push x).size by rw [Array.size_push]; omega, getD_push_eq]

theorem BInv.step {b : BitVector} {s : List Bool} (h : Holds b s)
    {n : Nat} {st : BuildSt} (hv : BInv s n st) (hn : n < 8 * nLines b) :
    BInv s (n + 1) (buildWord st (n / 8) (n % 8) (b.data.getD n 0)) := by
  have hword := h.R_word_full n (h.size_eq ▸ hn)
  have hnr : st.nextRank + popc (b.data.getD n 0) = R s (64 * (n + 1)) := by rw [hv.nextRank, hword]
  have hz : st.zeros + (64 - popc (b.data.getD n 0)) = Z s (64 * (n + 1)) := by
    rw [hv.zeros, Nat.mul_succ]
    exact (Z_add s _ 64 _ (Nat.mul_succ 64 n ▸ hword)).symm
  have hsz := hv.brpSize
  simp only [buildWord_eq, Nat.div_add_mod', hv.subranks_step, hnr, hz]
  have hh1 := hv.h1.step_C (c := R s (64 * (n + 1))) (by decide) (by decide) rfl
  have hh0 := hv.h0.step_C (c := Z s (64 * (n + 1))) (by decide) (by decide) rfl
  by_cases h7 : n % 8 = 7
  · -- the word closes block `n / 8`: its counters and the next absolute count are pushed
    obtain ⟨ed, em, e⟩ := succ_last h7
    have e8 : 64 * (n + 1) = 512 * (n / 8 + 1) := by rw [← e, ← Nat.mul_assoc]
    obtain ⟨hold, hx, hy⟩ := getD_push_pair hsz (packN 9 0 (cn s (n / 8)) 7) (R s (64 * (n + 1)))
    simp only [h7, if_true]
    refine ⟨rfl, ?_, ?_, ?_, ?_, ?_, rfl, hh1, hh0⟩
    · rw [ed, e8, Nat.sub_self]
    · rw [em]; rfl
    · rw [ed, Array.size_push, Array.size_push, hsz]; omega
    · intro q hq
      by_cases hql : q ≤ n / 8
      · rw [hold _ (Nat.mul_le_mul_left 2 hql)]
        exact hv.brpAbs q hql
      · obtain rfl : q = n / 8 + 1 := by omega
        rw [hy, e8]
    · intro q hq
      by_cases hql : q < n / 8
      · rw [hold _ (by omega)]
        exact hv.brpSub q hql
      · obtain rfl : q = n / 8 := by omega
        rw [hx]; rfl
  · obtain ⟨ed, em⟩ := succ_mid h7
    have hmono : R s (512 * (n / 8)) ≤ R s (64 * n) :=
      Spec.rank_mono true s (Nat.mul_assoc 64 8 _ ▸ Nat.mul_le_mul_left 64 (Nat.mul_div_le n 8))
    simp only [h7, if_false]
    refine ⟨rfl, ?_, ?_, ?_, ?_, ?_, rfl, hh1, hh0⟩
    · show st.curSubrank + popc (b.data.getD n 0) = _
      rw [ed, hv.curSubrank, hword]; omega
    · rw [ed, em]; rfl
    · rw [ed]; exact hsz
    · rw [ed]; exact hv.brpAbs
    · rw [ed]; exact hv.brpSub

theorem BInv.fold {b : BitVector} {s : List Bool} (h : Holds b s) :
    ∀ n, n ≤ 8 * nLines b →
      BInv s n ((List.range n).foldl (fun st k => buildWord st (k / 8) (k % 8) (b.data.getD k 0)) {}) :=
  foldl_range_inv (BInv s) _ (BInv.init s) fun _ _ hn hv => hv.step h hn

/-- what `RSNarrow::new` does after the loop: the array of rank pairs with the last block closed -/
def finalBrp (bv : BitVector) (st : BuildSt) : Array Nat :=
  let subranks := (List.range (narrowBlockSize - (nLines bv % narrowBlockSize))).foldl
    (fun s _ => ((s <<< 9) % two64) ||| st.curSubrank) st.subranks
  let brp := st.brp.push subranks
  if nLines bv % narrowBlockSize > 0 then (brp.push st.nextRank).push 0 else brp

def buildAll (bv : BitVector) : BuildSt :=
  (List.range (8 * nLines bv)).foldl (fun st k => buildWord st (k / 8) (k % 8) (bv.data.getD k 0)) {}

theorem new_eq (bv : BitVector) (h : 1 ≤ (finalBrp bv (buildAll bv)).size / 2) :
    new bv = .ok
      { bv, blockRankPairs := finalBrp bv (buildAll bv),
        selectSamples := #[(buildAll bv).s0.push ((finalBrp bv (buildAll bv)).size / 2 - 1),
                           (buildAll bv).s1.push ((finalBrp bv (buildAll bv)).size / 2 - 1)] } := by
  unfold new
  simp only [sub, bind, Except.bind, pure, Except.pure]
  unfold finalBrp buildAll at h ⊢
  simp only [] at h ⊢
  rw [if_pos h]

theorem fold_zero (l : List Nat) : l.foldl (fun s _ => ((s <<< 9) % two64) ||| 0) 0 = 0 := by
  induction l with
  | nil => rfl
  | cons x xs ih => simpa [List.foldl_cons] using ih

def per (bit : Bool) : Nat := if bit then narrowOnesPerHint else narrowZerosPerHint

theorem per_pos (bit : Bool) : 0 < per bit := by cases bit <;> decide

/-- index of the sentinel block.  `new` closes a last block and pushes a sentinel pair when
`bv.data.len() % BLOCK_SIZE > 0`; `data` holds 512-bit lines and a block is one line, so this
happens iff the number of *lines* is not a multiple of 8 (the crate counts lines where it means
words; harmless, the block is always complete). -/
def sentN (b : BitVector) : Nat := if nLines b % 8 > 0 then nLines b + 1 else nLines b

/-- `r` represents `s`: absolute counts at every block up to the sentinel, the packed word counts
of every block of `r.bv`, and the hints the build loop recorded with the sentinel index pushed -/
structure Inv (r : RSNarrow) (s : List Bool) : Prop where
  holds : Holds r.bv s
  brpSize : r.blockRankPairs.size = 2 * sentN r.bv + 2
  abs : ∀ q, q ≤ sentN r.bv → r.blockRankPairs.getD (2 * q) 0 = R s (512 * q)
  sub : ∀ q, q < nLines r.bv → r.blockRankPairs.getD (2 * q + 1) 0 = subOf s q
  ssize : r.selectSamples.size = 2
  samples : ∀ bit, ∃ smp hint,
    r.selectSamples.getD (if bit then 1 else 0) #[] = smp.push (sentN r.bv) ∧
    HintInv (fun m => C bit s (64 * m)) (per bit) (8 * nLines r.bv) smp hint

theorem BInv.final {b : BitVector} {s : List Bool} (h : Holds b s) {st : BuildSt}
    (hv : BInv s (8 * nLines b) st) :
    (finalBrp b st).size = 2 * sentN b + 2 ∧
      (∀ q, q ≤ sentN b → (finalBrp b st).getD (2 * q) 0 = R s (512 * q)) ∧
      (∀ q, q < nLines b → (finalBrp b st).getD (2 * q + 1) 0 = subOf s q) := by
  have hcs : st.curSubrank = 0 := by
    rw [hv.curSubrank, Nat.mul_div_cancel_left _ (by decide), ← Nat.mul_assoc]; exact Nat.sub_self _
  have hsr : st.subranks = 0 := by rw [hv.subranks, Nat.mul_mod_right]; rfl
  have hbs := hv.brpSize
  have habs := hv.brpAbs
  have hsub := hv.brpSub
  rw [Nat.mul_div_cancel_left _ (by decide : 0 < 8)] at hbs habs hsub
  unfold finalBrp sentN
  simp only [hcs, hsr, fold_zero, show narrowBlockSize = 8 from rfl]
  by_cases h8 : nLines b % 8 > 0
  · -- a partial last block: its (empty) counter word and the total as a sentinel pair, then a 0
    obtain ⟨hold, _, hy⟩ := getD_push_pair hbs 0 st.nextRank
    simp only [h8, if_true, Array.size_push]
    refine ⟨by omega, fun q hq => ?_, fun q hq => ?_⟩
    · rw [getD_push_lt _ _ _ (by rw [Array.size_push, Array.size_push]; omega)]
      by_cases hql : q ≤ nLines b
      · rw [hold _ (Nat.mul_le_mul_left 2 hql)]; exact habs q hql
      · obtain rfl : q = nLines b + 1 := by omega
        rw [hy, hv.nextRank, R_of_ge s _ (by have := h.len_le; omega), R_of_ge s _ (by have := h.len_le; omega)]
    · rw [getD_push_lt _ _ _ (by rw [Array.size_push, Array.size_push]; omega), hold _ (by omega)]
      exact hsub q hq
  · simp only [h8, if_false, Array.size_push]
    refine ⟨by omega, fun q hq => ?_, fun q hq => ?_⟩
    · rw [getD_push_lt _ _ _ (by omega)]; exact habs q hq
    · rw [getD_push_lt _ _ _ (by omega)]; exact hsub q hq

theorem new_inv {b : BitVector} {s : List Bool} (h : Holds b s) :
    ∃ r, new b = .ok r ∧ r.bv = b ∧ Inv r s := by
  have hv : BInv s (8 * nLines b) (buildAll b) := BInv.fold h (8 * nLines b) (Nat.le_refl _)
  obtain ⟨hsz, habs, hsub⟩ := hv.final h
  refine ⟨_, new_eq b (by omega), rfl, h, hsz, habs, hsub, rfl, fun bit => ?_⟩
  have hsent : (finalBrp b (buildAll b)).size / 2 - 1 = sentN b := by omega
  rw [hsent]
  cases bit
  · exact ⟨_, _, rfl, hv.h0⟩
  · exact ⟨_, _, rfl, hv.h1⟩

/-- `popcount(w << (64 - t))` on a `u64` counts the `t` low bits -/
theorem popc_shl (w t : Nat) (ht1 : 1 ≤ t) (ht : t ≤ 64) :
    popc ((w <<< ((64 - t) % 64)) % two64) = popc (w % 2 ^ t) := by
  by_cases h64 : t = 64
  · subst h64; simp [two64_eq]
  · have e : (64 - t) % 64 = 64 - t := Nat.mod_eq_of_lt (by omega)
    rw [e, Nat.shiftLeft_eq, two64_eq]
    have e2 : (2:Nat) ^ 64 = 2 ^ t * 2 ^ (64 - t) := by rw [← Nat.pow_add]; congr 1; omega
    rw [e2, Nat.mul_mod_mul_right, popc_mul_two_pow]

theorem sentN_ge (b : BitVector) : nLines b ≤ sentN b := by unfold sentN; split <;> omega

theorem R_add_cn (s : List Bool) (j : Nat) : R s (512 * (j / 8)) + cn s (j / 8) (j % 8) = R s (64 * j) := by
  rw [cn, Nat.div_add_mod]
  exact Nat.add_sub_cancel' (Spec.rank_mono true s (Nat.mul_assoc 64 8 _ ▸ Nat.mul_le_mul_left 64 (Nat.mul_div_le j 8)))

namespace Inv
variable {r : RSNarrow} {s : List Bool}

theorem blockRank_eq (hv : Inv r s) (q : Nat) (hq : q ≤ sentN r.bv) : blockRank r q = .ok (R s (512 * q)) := by
  unfold blockRank
  rw [idx_getD 0 (by rw [hv.brpSize]; omega), Nat.mul_comm q 2, hv.abs q hq]

theorem subBlockRank_eq (hv : Inv r s) (j : Nat) (hj : j < 8 * nLines r.bv) :
    subBlockRank r j = .ok (R s (64 * j)) := by
  have hsn := sentN_ge r.bv
  have hf := subOf_fields s (j / 8)
  -- field `j % 8` of the word of counters; there is no field 0, the word is shifted out entirely
  have hfield : (subOf s (j / 8) >>> ((7 - j % 8) * 9)) &&& 0x1FF = cn s (j / 8) (j % 8) := by
    rw [Nat.shiftRight_eq_div_pow, show (0x1FF : Nat) = 2 ^ 9 - 1 from rfl, Nat.and_two_pow_sub_one_eq_mod]
    by_cases h0 : j % 8 = 0
    · rw [h0, Nat.div_eq_of_lt hf.1, cn, Nat.add_zero, ← Nat.mul_assoc]
      exact (Nat.sub_self _).symm
    · exact hf.2 _ (Nat.pos_of_ne_zero h0) (Nat.le_of_lt_succ (Nat.mod_lt j (by decide)))
  simp only [subBlockRank, subBlockRanks, show narrowBlockSize = 8 from rfl]
  rw [hv.blockRank_eq _ (by omega), ok_bind, idx_getD 0 (by rw [hv.brpSize]; omega), ok_bind,
    Nat.mul_comm (j / 8) 2, hv.sub _ (by omega), hfield]
  exact congrArg Except.ok (R_add_cn s j)

theorem rank1Unchecked_eq (hv : Inv r s) (i : Nat) (hi : i ≤ s.length) :
    rank1Unchecked r i = .ok (Spec.rank true i s) := by
  unfold rank1Unchecked
  cases i with
  | zero => rw [Spec.rank_zero]; rfl
  | succ i =>
    have hll := hv.holds.len_le
    have hword : i / 64 < 8 * nLines r.bv := by omega
    have hline : ¬ ((i / 64) >>> 3 ≥ nLines r.bv) := by rw [Nat.shiftRight_eq_div_pow]; omega
    have hw := hv.holds.R_word (i / 64) (hv.holds.size_eq ▸ hword) (i % 64 + 1) (Nat.mod_lt i (by decide))
    rw [← Nat.add_assoc, Nat.div_add_mod] at hw
    simp only [Nat.add_sub_cancel, Nat.succ_ne_zero, beq_iff_eq, if_false, Nat.shiftRight_eq_div_pow i 6,
      show i &&& 63 = i % 64 from Nat.and_two_pow_sub_one_eq_mod i 6, hv.subBlockRank_eq _ hword, ok_bind,
      hline, uidx_getD 0 (hv.holds.size_eq ▸ hword),
      popc_shl _ _ (Nat.le_add_left 1 _) (Nat.mod_lt i (by decide : 0 < 64))]
    exact congrArg Except.ok hw.symm

theorem rank1_eq (hv : Inv r s) (i : Nat) :
    rank1 r i = .ok (if s ≠ [] ∧ i ≤ s.length then some (Spec.rank true i s) else none) :=
  hv.holds.rank1_checked hv.rank1Unchecked_eq i

theorem rank0_eq (hv : Inv r s) (i : Nat) :
    rank0 r i = .ok (if s ≠ [] ∧ i ≤ s.length then some (Spec.rank false i s) else none) :=
  rank0_of_rank1 (hv.rank1_eq i)

theorem get_eq (hv : Inv r s) (i : Nat) : get r i = .ok s[i]? := hv.holds.get_eq i

theorem nOnes_eq (hv : Inv r s) : nOnes r = .ok (s.count true) := by
  unfold nOnes isEmpty
  rw [hv.holds.nBits]
  by_cases hs : s = []
  · subst hs; rfl
  · obtain ⟨n, hn⟩ : ∃ n, s.length = n + 1 := Nat.exists_eq_succ_of_ne_zero (mt List.length_eq_zero_iff.1 hs)
    have hlt : n < s.length := hn ▸ Nat.lt_succ_self n
    -- a rank up to the last bit, plus that bit
    have hlast : R s n + (if s[n] then 1 else 0) = s.count true := by
      rw [← R_of_ge s _ (Nat.le_refl _), hn, R_succ, getD_of_lt hlt]
    rw [hn, if_neg (by simp), sub_ok (Nat.le_add_left 1 n), ok_bind, Nat.add_sub_cancel, hv.rank1_eq,
      if_pos ⟨hs, Nat.le_of_lt hlt⟩]
    simp only [ok_bind, unwrap, hv.holds.get_eq, List.getElem?_eq_getElem hlt]
    exact congrArg Except.ok hlast

theorem nZeros_eq (hv : Inv r s) : nZeros r = .ok (s.count false) := by
  unfold nZeros
  rw [hv.nOnes_eq, ok_bind, hv.holds.nBits, ← count_true_add_false s, sub_ok (Nat.le_add_right _ _), Nat.add_sub_cancel_left]

end Inv

/-- the model loop is `hintScan` over `readC`: unfold both (likewise the next two, and in RSBinWide) -/
theorem hintLoop_eq_scan (r : RSNarrow) (bit : Bool) (i hintEnd : Nat) :
    ∀ f hs, hintLoop r bit i hintEnd f hs = hintScan (readC (blockRank r) (narrowBlockSize * 64) bit) i hintEnd f hs := by
  intro f
  induction f with
  | zero => intro hs; rfl
  | succ f ih => intro hs; cases bit <;>
      simp only [hintLoop, hintScan, readC, ih, Bool.false_eq_true, ↓reduceIte, bind_assoc, pure_bind, bind_pure]

theorem subLoop_eq_scan (r : RSNarrow) (bit : Bool) (i position : Nat) :
    ∀ f j, subLoop r bit i position f j = unitScan (readC (subBlockRank r) (64) bit) i position f j := by
  intro f
  induction f with
  | zero => intro j; rfl
  | succ f ih => intro j; cases bit <;>
      simp only [subLoop, unitScan, readC, ih, Bool.false_eq_true, ↓reduceIte, bind_assoc, pure_bind, bind_pure]

theorem selectSubblock_eq_scan (r : RSNarrow) (bit : Bool) (i : Nat) :
    selectSubblock r bit i = idx r.selectSamples (if bit then 1 else 0) >>= fun samples =>
      selectScan (readC (blockRank r) (narrowBlockSize * 64) bit) (readC (subBlockRank r) (64) bit) samples (per bit) i := by
  cases bit <;>
    simp only [selectSubblock, selectScan, hintLoop_eq_scan, subLoop_eq_scan, readC, Bool.false_eq_true, ↓reduceIte,
      bind_assoc, pure_bind, bind_pure] <;> rfl

namespace Inv
variable {r : RSNarrow} {s : List Bool}

theorem selectSubblock_eq (hv : Inv r s) (bit : Bool) (k : Nat) (hk : k < s.count bit) :
    ∃ l, selectSubblock r bit k = .ok (l, C bit s (64 * l)) ∧ l < 8 * nLines r.bv ∧
      C bit s (64 * l) ≤ k ∧ k < C bit s (64 * (l + 1)) := by
  obtain ⟨smp, hint, hsmp, hh⟩ := hv.samples bit
  obtain ⟨l, hl, hlN⟩ := selectScan_C (U := 64) hh (per_pos bit) (Nat.le_refl _) (sentN_ge r.bv)
    hv.blockRank_eq hv.subBlockRank_eq (by have := hv.holds.len_le; omega) hk
  refine ⟨l, ?_, hlN⟩
  rw [selectSubblock_eq_scan, idx_getD #[] (by rw [hv.ssize]; cases bit <;> decide), hsmp, ok_bind]
  exact hl

theorem selectUnchecked_eq (hsel : SelSpec) (hv : Inv r s) (bit : Bool) (k : Nat) (hk : k < s.count bit) :
    ∃ pos, selectUnchecked r bit k = .ok pos ∧ Spec.select bit k s = some pos := by
  obtain ⟨l, hl, hlN, hl1, hl2⟩ := hv.selectSubblock_eq bit k hk
  have hj : l < r.bv.data.size := hv.holds.size_eq ▸ hlN
  obtain ⟨p, hp, _, hpb, hpc⟩ := hv.holds.word_select hsel bit l hj k hl1 hl2
  refine ⟨l * 64 + p, ?_, select_of_C bit s k _ hk (Nat.mul_comm l 64 ▸ hpb) (Nat.mul_comm l 64 ▸ hpc)⟩
  have hline : ¬ (l >>> 3 ≥ nLines r.bv) := by rw [Nat.shiftRight_eq_div_pow]; omega
  rw [selectUnchecked, hl, ok_bind]
  simp only [hline, if_false]
  rw [idx_getD 0 hj, ok_bind, sub_ok hl1, ok_bind]
  exact congrArg (· >>= _) hp

theorem select1_eq (hsel : SelSpec) (hv : Inv r s) (k : Nat) : select1 r k = .ok (Spec.select true k s) := by
  unfold select1
  rw [hv.nOnes_eq, ok_bind]
  exact select_checked (hv.selectUnchecked_eq hsel true k)

theorem select0_eq (hsel : SelSpec) (hv : Inv r s) (k : Nat) : select0 r k = .ok (Spec.select false k s) := by
  unfold select0
  rw [hv.nZeros_eq, ok_bind]
  exact select_checked (hv.selectUnchecked_eq hsel false k)

end Inv

end Qwt.RSN
