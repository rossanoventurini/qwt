import Qwt.Proofs.WordDigits

/-! The broadword (SWAR) byte popcounts of `select_in_word`: each of the three masking steps acts on
    every byte separately, and what it does to one byte is checked on the 256 bytes. -/
namespace Qwt.Proofs.Word
open Qwt Qwt.Utils Qwt.Extracted

def bstep1 (b : Nat) : Nat := b - (b &&& 0xAA) / 2
def bstep2 (p : Nat) : Nat := (p &&& 0x33) + ((p / 4) &&& 0x33)
def bstep3 (q : Nat) : Nat := (q + q / 16) % 16

theorem and_aa_even : ∀ b, b < 256 → (b &&& 0xAA) % 2 = 0 := by
  decide +kernel

theorem bstep2_nibbles : ∀ b, b < 256 →
    bstep2 (bstep1 b) % 16 ≤ 4 ∧ bstep2 (bstep1 b) / 16 ≤ 4 := by
  decide +kernel

theorem bstep3_eq_pc8 : ∀ b, b < 256 → bstep3 (bstep2 (bstep1 b)) = pc8 b := by
  decide +kernel

theorem and33 : ∀ x, x < 64 → ∀ y, y < 4 → (x + 64 * y) &&& 0x33 = x &&& 0x33 := by
  decide +kernel

theorem and15 (x y : Nat) : (x + 16 * y) &&& 0xF = x % 16 := by
  have h : (0xF : Nat) = 2 ^ 4 - 1 := by decide
  rw [h, Nat.and_two_pow_sub_one_eq_mod]
  omega

theorem mask_aa : wmul64 0xA kOnesStep4 = val (List.replicate 8 0xAA) := by decide +kernel

theorem mask_33 : wmul64 0x3 kOnesStep4 = val (List.replicate 8 0x33) := by decide +kernel

theorem mask_0f : wmul64 0xF kOnesStep8 = val (List.replicate 8 0xF) := by decide +kernel

theorem ones_eq : kOnesStep8 = val (List.replicate 8 1) := by decide +kernel

theorem lambdas_eq : kLambdasStep8 = val (List.replicate 8 0x80) := by decide +kernel

theorem swar_step1 (bs : List Nat) (h : ∀ b ∈ bs, b < 256) :
    ((val bs &&& val (List.replicate bs.length 0xAA)) >>> 1) ≤ val bs ∧
      val bs - ((val bs &&& val (List.replicate bs.length 0xAA)) >>> 1) = val (bs.map bstep1) := by
  -- the masked digits are even, so the shift halves each of them
  have e : bs.map (· &&& 0xAA) = bs.map fun b => 2 * ((b &&& 0xAA) / 2) :=
    List.map_congr_left fun b hb => by
      have := and_aa_even b (h b hb)
      omega
  rw [val_and_replicate 0xAA (by decide) bs h, e, val_map_mul, Nat.shiftRight_eq_div_pow,
    Nat.pow_one, Nat.mul_div_cancel_left _ (by decide)]
  have hs := val_sub_map (fun b => b) (fun b => (b &&& 0xAA) / 2) bs
    fun b _ => Nat.le_trans (Nat.div_le_self _ _) Nat.and_le_left
  rw [List.map_id'] at hs
  exact hs

theorem swar_step2 : ∀ ps : List Nat, (∀ p ∈ ps, p < 256) →
    (val ps &&& val (List.replicate ps.length 0x33)) +
      ((val ps >>> 2) &&& val (List.replicate ps.length 0x33)) = val (ps.map bstep2)
  | [], _ => by decide
  | p :: ps, h => by
    obtain ⟨hp, hps⟩ := List.forall_mem_cons.1 h
    rw [List.length_cons, List.replicate_succ, List.map_cons, val, val, val, ← swar_step2 ps hps]
    -- the two bits that come down from the next digit are masked away
    have e : (p + 256 * val ps) >>> 2 = (p / 4 + 64 * (val ps % 4)) + 256 * (val ps >>> 2) := by
      rw [Nat.shiftRight_eq_div_pow, Nat.shiftRight_eq_div_pow]
      omega
    rw [e, and_split _ _ _ _ hp (by decide), and_split _ _ _ _ (by omega) (by decide),
      and33 _ (by omega) _ (by omega)]
    unfold bstep2
    omega

theorem swar_step3 : ∀ qs : List Nat, (∀ q ∈ qs, q % 16 ≤ 4 ∧ q / 16 ≤ 4) →
    (val qs + (val qs >>> 4)) &&& val (List.replicate qs.length 0xF) = val (qs.map bstep3)
  | [], _ => by decide
  | q :: qs, h => by
    obtain ⟨hq, hqs⟩ := List.forall_mem_cons.1 h
    rw [List.length_cons, List.replicate_succ, List.map_cons, val, val, val, ← swar_step3 qs hqs]
    have hlow : val qs % 16 ≤ 4 := by
      cases qs with
      | nil => decide
      | cons q' qs' =>
        have := (hqs q' List.mem_cons_self).1
        rw [val]
        omega
    -- the nibble that comes down from the next digit is masked away; no carry leaves the digit
    have e : q + 256 * val qs + ((q + 256 * val qs) >>> 4) =
        (q + q / 16 + 16 * (val qs % 16)) + 256 * (val qs + (val qs >>> 4)) := by
      rw [Nat.shiftRight_eq_div_pow, Nat.shiftRight_eq_div_pow]
      omega
    rw [e, and_split _ _ _ _ (by omega) (by decide), and15]
    rfl

end Qwt.Proofs.Word
