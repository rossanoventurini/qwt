import Qwt.Proofs.BinWMSpec

/-!
One level of a binary wavelet matrix on lists (property C03): the stable partition by a bit,
where it sends a position (`mapPos`) and what it does to a contiguous block.  The levels of the
plain matrix (`lvl`) are iterated partitions; a walk down the levels iterates `mapPos`
(`walkPos`).  Generic in the element type and in the family `β k` of bit functions.
Of `lvl` only lengths are proved here: the plain matrix is treated in `BinHWM.lean`, as the
Huffman-shaped matrix whose codes all have one length (`lvlH_const`).
-/

namespace Qwt.BinWM
open Qwt

variable {α : Type}

/-- stable partition by a boolean key: the `false` elements first -/
def part (p : α → Bool) (l : List α) : List α := l.filter (fun x => !p x) ++ l.filter p

/-- the sequence stored (as bits `β k`) at level `k` -/
def lvl (β : Nat → α → Bool) : Nat → List α → List α
  | 0, S => S
  | k + 1, S => part (β k) (lvl β k S)

/-- the bit list of level `k` -/
def bitsAt (β : Nat → α → Bool) (k : Nat) (S : List α) : List Bool := (lvl β k S).map (β k)

/-- where position `j` of a level with bits `bs` goes in the next level when following bit `v` -/
def mapPos (v : Bool) (bs : List Bool) (j : Nat) : Nat :=
  if v then bs.count false + Spec.rank true j bs else Spec.rank false j bs

/-- where position `j` of level 0 has gone at level `k`, following the bits `bit` through
    levels whose bit lists are `B` (the start of a block for `j = 0`; a boundary inside the block
    in the rank walk; the place of the element itself when `bit` are its own bits) -/
def walkPos (bit : Nat → Bool) (B : Nat → List Bool) (j : Nat) : Nat → Nat
  | 0 => j
  | k + 1 => mapPos (bit k) (B k) (walkPos bit B j k)

/-- the upward pass of `select` on bit lists: from an offset `res` in the block of level `k`
    back to a position of level 0 -/
def selUp (bit : Nat → Bool) (B : Nat → List Bool) : Nat → Nat → Option Nat
  | 0, res => some res
  | k + 1, res =>
    match Spec.select (bit k) (Spec.rank (bit k) (walkPos bit B 0 k) (B k) + res) (B k) with
    | none => none
    | some q => selUp bit B k (q - walkPos bit B 0 k)

/-- `x` agrees with `c` on the bits of levels `< k` -/
def agree (β : Nat → α → Bool) (c : α) (k : Nat) (x : α) : Bool :=
  (List.range k).all (fun j => β j x == β j c)

theorem part_length (p : α → Bool) (l : List α) : (part p l).length = l.length := by
  unfold part
  rw [List.length_append, ← List.countP_eq_length_filter, ← List.countP_eq_length_filter]
  have := List.length_eq_countP_add_countP p (l := l)
  have e : (fun x => !p x) = (fun a => decide ¬p a = true) := by
    funext a; cases p a <;> rfl
  rw [e]; omega

theorem mem_part {p : α → Bool} {l : List α} {x : α} : x ∈ part p l ↔ x ∈ l := by
  unfold part
  simp only [List.mem_append, List.mem_filter]
  cases p x <;> simp

theorem lvl_length (β : Nat → α → Bool) (k : Nat) (S : List α) : (lvl β k S).length = S.length := by
  induction k with
  | zero => rfl
  | succ k ih => rw [lvl, part_length, ih]

theorem bitsAt_length (β : Nat → α → Bool) (k : Nat) (S : List α) :
    (bitsAt β k S).length = S.length := by
  rw [bitsAt, List.length_map, lvl_length]

theorem agree_zero (β : Nat → α → Bool) (c x : α) : agree β c 0 x = true := rfl

theorem agree_succ (β : Nat → α → Bool) (c : α) (k : Nat) (x : α) :
    agree β c (k + 1) x = (agree β c k x && (β k x == β k c)) := by
  simp [agree, List.range_succ, List.all_append]

theorem agree_self (β : Nat → α → Bool) (c : α) (k : Nat) : agree β c k c = true := by
  simp [agree]

theorem agree_of_le (β : Nat → α → Bool) (c x : α) {j k : Nat} (h : j ≤ k)
    (hk : agree β c k x = true) : agree β c j x = true := by
  simp only [agree, List.all_eq_true, List.mem_range] at hk ⊢
  intro i hi; exact hk i (Nat.lt_of_lt_of_le hi h)

theorem agree_bit (β : Nat → α → Bool) (c x : α) {j k : Nat} (h : j < k)
    (hk : agree β c k x = true) : β j x = β j c := by
  simp only [agree, List.all_eq_true, List.mem_range] at hk
  simpa using hk j h

theorem take_block_start (A B C : List α) : (A ++ B ++ C).take A.length = A := by
  simp [List.append_assoc]

theorem take_block (A B C : List α) (j : Nat) (hj : j ≤ B.length) :
    (A ++ B ++ C).take (A.length + j) = A ++ B.take j := by
  rw [List.append_assoc, List.take_length_add_append, List.take_append_of_le_length hj]

theorem mapPos_map (p : α → Bool) (v : Bool) (l : List α) (j : Nat) :
    mapPos v (l.map p) j =
      (if v then l.countP (fun x => !p x) else 0) + (l.take j).countP (fun x => p x == v) := by
  unfold mapPos
  cases v
  · simp [rank_map]
  · simp [rank_map, count_map]

/-- block step: a block `B` of `l` is sent to the sub-block of its `v`-elements -/
theorem part_block (p : α → Bool) (v : Bool) (A B C : List α) :
    ∃ A' C', part p (A ++ B ++ C) = A' ++ B.filter (fun x => p x == v) ++ C' ∧
      A'.length = mapPos v ((A ++ B ++ C).map p) A.length := by
  rw [mapPos_map, take_block_start]
  cases v
  · refine ⟨A.filter (fun x => !p x), C.filter (fun x => !p x) ++ (A ++ B ++ C).filter p, ?_, ?_⟩
    · simp [part, List.filter_append, List.append_assoc]
    · simp [List.countP_eq_length_filter]
  · refine ⟨(A ++ B ++ C).filter (fun x => !p x) ++ A.filter p, C.filter p, ?_, ?_⟩
    · simp [part, List.filter_append, List.append_assoc]
    · have e : (fun y => p y == true) = p := by funext y; cases p y <;> rfl
      simp only [e, List.countP_eq_length_filter, List.filter_append, List.length_append, if_true]

theorem mapPos_block (p : α → Bool) (v : Bool) (A B C : List α) (j : Nat) (hj : j ≤ B.length) :
    mapPos v ((A ++ B ++ C).map p) (A.length + j) =
      mapPos v ((A ++ B ++ C).map p) A.length + (B.take j).countP (fun x => p x == v) := by
  rw [mapPos_map, mapPos_map, take_block_start, take_block _ _ _ _ hj,
    List.countP_append (l₁ := A) (l₂ := B.take j)]
  omega

theorem part_getElem (p : α → Bool) (l : List α) (j : Nat) (x : α) (h : l[j]? = some x) :
    (part p l)[mapPos (p x) (l.map p) j]? = some x := by
  rw [mapPos_map]
  unfold part
  cases hv : p x
  · have hq : (fun y => !p y) x = true := by simp [hv]
    have := filter_getElem (fun y => !p y) j l x h hq
    simp only [Bool.false_eq_true, if_false, Nat.zero_add]
    have e : (fun y => p y == false) = (fun y => !p y) := by funext y; cases p y <;> rfl
    rw [e, List.getElem?_append_left (List.getElem?_eq_some_iff.mp this).1]
    exact this
  · have := filter_getElem p j l x h hv
    simp only [if_true]
    have e : (fun y => p y == true) = p := by funext y; cases p y <;> rfl
    rw [e, List.getElem?_append_right (by simp [List.countP_eq_length_filter])]
    simpa [List.countP_eq_length_filter] using this

end Qwt.BinWM
