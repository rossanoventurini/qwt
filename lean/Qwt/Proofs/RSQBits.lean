import Qwt.Model.RSQVector
import Qwt.Proofs.WordBits

/-! Counting below a position (`cntF`) and its link to `Spec.rank`/`Spec.select` and to `popc`; the packed
fields of a superblock word; the arithmetic of positions, blocks and superblocks. -/
namespace Qwt.RSQP
open Qwt

theorem ite_iff_congr {α : Type} {p q : Prop} [Decidable p] [Decidable q] (h : p ↔ q) (a b : α) :
    (if p then a else b) = (if q then a else b) := by
  by_cases hp : p
  · rw [if_pos hp, if_pos (h.mp hp)]
  · rw [if_neg hp, if_neg (fun hq => hp (h.mpr hq))]

theorem lt_succ_iff_of_ne {a m : Nat} (h : a ≠ m) : a < m ↔ a < m + 1 :=
  ⟨Nat.lt_succ_of_lt, fun h' => Nat.lt_of_le_of_ne (Nat.le_of_lt_succ h') h⟩

theorem lt4_cases {x : Nat} (h : x < 4) : x = 0 ∨ x = 1 ∨ x = 2 ∨ x = 3 := by omega

def cntF (f : Nat → Bool) : Nat → Nat
  | 0 => 0
  | n + 1 => cntF f n + (if f n then 1 else 0)

@[simp] theorem cntF_zero (f : Nat → Bool) : cntF f 0 = 0 := rfl
theorem cntF_succ (f : Nat → Bool) (n : Nat) : cntF f (n + 1) = cntF f n + (if f n then 1 else 0) := rfl

theorem cntF_le (f : Nat → Bool) (n : Nat) : cntF f n ≤ n := by
  induction n with
  | zero => exact Nat.le_refl _
  | succ n ih => exact Nat.add_le_add ih (by split <;> decide)

theorem cntF_congr {f g : Nat → Bool} {n : Nat} (h : ∀ j, j < n → f j = g j) : cntF f n = cntF g n := by
  induction n with
  | zero => rfl
  | succ n ih =>
    rw [cntF_succ, cntF_succ, ih (fun j hj => h j (Nat.lt_succ_of_lt hj)), h n (Nat.lt_succ_self n)]

theorem cntF_add (f : Nat → Bool) (m n : Nat) :
    cntF f (m + n) = cntF f m + cntF (fun j => f (m + j)) n := by
  induction n with
  | zero => rfl
  | succ n ih => rw [← Nat.add_assoc, cntF_succ, cntF_succ, ih, Nat.add_assoc]

theorem cntF_eq_countP (f : Nat → Bool) (n : Nat) : cntF f n = (List.range n).countP f := by
  induction n with
  | zero => rfl
  | succ n ih => rw [cntF_succ, ih, List.range_succ, List.countP_append, List.countP_singleton]

theorem cntF_mono (f : Nat → Bool) {m n : Nat} (h : m ≤ n) : cntF f m ≤ cntF f n := by
  rw [← Nat.add_sub_of_le h, cntF_add]; exact Nat.le_add_right _ _

theorem cntF_sub_le (f : Nat → Bool) {m n : Nat} (h : m ≤ n) : cntF f n ≤ cntF f m + (n - m) := by
  have := cntF_add f m (n - m)
  rw [Nat.add_sub_of_le h] at this
  rw [this]; exact Nat.add_le_add_left (cntF_le _ _) _

theorem cntF_lt_of_true {f : Nat → Bool} {p n : Nat} (hp : f p = true) (h : p < n) :
    cntF f p < cntF f n :=
  Nat.lt_of_lt_of_le (by rw [cntF_succ, hp]; exact Nat.lt_succ_self _) (cntF_mono f h)

theorem cntF_inj {f : Nat → Bool} {p q : Nat} (hp : f p = true) (hq : f q = true)
    (h : cntF f p = cntF f q) : p = q := by
  rcases Nat.lt_trichotomy p q with h1 | h1 | h1
  · exact absurd h (Nat.ne_of_lt (cntF_lt_of_true hp h1))
  · exact h1
  · exact absurd h.symm (Nat.ne_of_lt (cntF_lt_of_true hq h1))

theorem cntF_false {f : Nat → Bool} {n : Nat} (h : ∀ j, j < n → f j = false) : cntF f n = 0 := by
  induction n with
  | zero => rfl
  | succ n ih => rw [cntF_succ, ih (fun j hj => h j (Nat.lt_succ_of_lt hj)), h n (Nat.lt_succ_self n)]; rfl

section
variable {α : Type} [BEq α] (c : α) (s : List α)

theorem count_eq_rank_length : s.count c = Spec.rank c s.length s := (Spec.rank_of_ge c s (Nat.le_refl _)).symm

end

theorem lt_length_of_getElem? {α : Type} {s : List α} {p : Nat} {c : α} (hp : s[p]? = some c) :
    p < s.length := by
  rcases Nat.lt_or_ge p s.length with h | h
  · exact h
  · rw [List.getElem?_eq_none h] at hp; cases hp

section lists
variable {α : Type} [BEq α] [LawfulBEq α]

theorem rank_eq_cntF (c : α) (s : List α) (i : Nat) :
    Spec.rank c i s = cntF (fun j => s[j]? == some c) i := by
  induction i with
  | zero => rfl
  | succ i ih =>
    rw [cntF_succ, ← ih, Spec.rank_succ]
    cases h : s[i]? with
    | none => rfl
    | some x =>
      by_cases hx : x = c
      · subst hx; simp
      · simp [hx]

theorem select_some_of_lt (c : α) (s : List α) (k : Nat) (h : k < s.count c) :
    ∃ p, Spec.select c k s = some p ∧ s[p]? = some c ∧ Spec.rank c p s = k := by
  obtain ⟨p, hp, _⟩ := Proofs.Word.select_some c s k h
  exact ⟨p, hp, (Spec.of_select_eq_some hp).2⟩

theorem rank_lt_count (c : α) (s : List α) {p : Nat} (hp : s[p]? = some c) :
    Spec.rank c p s < s.count c := by
  rw [count_eq_rank_length]
  exact Nat.lt_of_lt_of_le (by rw [Spec.rank_succ_of_eq c s hp]; exact Nat.lt_succ_self _)
    (Spec.rank_mono c s (lt_length_of_getElem? hp))

theorem select_eq_some (c : α) (s : List α) {p k : Nat} (hp : s[p]? = some c)
    (hr : Spec.rank c p s = k) : Spec.select c k s = some p :=
  Spec.select_eq_some_iff.mpr ⟨hp, hr⟩

end lists

theorem cnt_line_eq_rank (s : List Nat) (c a m : Nat) (h : a + m ≤ s.length) :
    cntF (fun j => decide (s.getD (a + j) 0 = c)) m = Spec.rank c (a + m) s - Spec.rank c a s := by
  rw [rank_eq_cntF, rank_eq_cntF, cntF_add, Nat.add_sub_cancel_left]
  apply cntF_congr; intro j hj
  rw [List.getD_eq_getElem?_getD, List.getElem?_eq_getElem (by omega)]
  simp only [Option.getD_some, Option.some_beq_some]
  by_cases hx : s[a + j] = c <;> simp [hx]

theorem rank_bitsOf (w n i : Nat) (h : i ≤ n) :
    Spec.rank true i (Spec.bitsOf w n) = cntF (fun j => w.testBit j) i := by
  rw [rank_eq_cntF]; apply cntF_congr; intro j hj
  rw [bitsOf_getElem?, if_pos (Nat.lt_of_lt_of_le hj h)]; simp

theorem count_bitsOf (w n : Nat) : (Spec.bitsOf w n).count true = cntF (fun j => w.testBit j) n := by
  rw [count_eq_rank_length, Proofs.Word.bitsOf_length, rank_bitsOf _ _ _ (Nat.le_refl _)]

theorem popc_of_lt {w k : Nat} (h : w < 2 ^ k) : Qwt.popc w = cntF (fun j => w.testBit j) k := by
  rw [Proofs.Word.popc_eq_count k w h, count_bitsOf]

/-- the hypothesis about `select_in_word_u128` (C17) in the form the select proofs assume it -/
def SelHyp : Prop :=
  ∀ w k, w < 2 ^ 128 → k < 128 → Utils.selectInWordU128 w k =
    .ok (match Spec.select true k (Spec.bitsOf w 128) with | some p => p | none => 128)

theorem sel_spec (hsel : SelHyp) {w k : Nat} (hw : w < 2 ^ 128) (hk : k < Qwt.popc w) :
    ∃ p, Utils.selectInWordU128 w k = .ok p ∧ p < 128 ∧ w.testBit p = true ∧
      cntF (fun j => w.testBit j) p = k := by
  have hpc := popc_of_lt hw
  have hk' : k < (Spec.bitsOf w 128).count true := by rw [count_bitsOf, ← hpc]; exact hk
  have hk128 : k < 128 := Nat.lt_of_lt_of_le (hpc ▸ hk) (cntF_le _ 128)
  obtain ⟨p, h1, h2, h3⟩ := select_some_of_lt true _ k hk'
  have hp : p < 128 := by
    rcases Nat.lt_or_ge p 128 with h | h
    · exact h
    · rw [bitsOf_getElem?, if_neg (Nat.not_lt.2 h)] at h2; cases h2
  refine ⟨p, ?_, hp, ?_, ?_⟩
  · rw [hsel w k hw hk128, h1]
  · rw [bitsOf_getElem?, if_pos hp] at h2; simpa using h2
  · rw [rank_bitsOf _ _ _ (Nat.le_of_lt hp)] at h3; exact h3

/-! ### packed fields

A value shifted left by `a` occupies the bits from `a` on: every field that ends at or below
`a` is empty, and so is everything from `a + w` on when the value has `w` bits. -/

theorem shl_shr_mod_eq_zero {x a s w : Nat} (h : s + w ≤ a) : x <<< a >>> s % 2 ^ w = 0 := by
  obtain ⟨d, rfl⟩ : ∃ d, a = d + w + s := ⟨a - (s + w), by omega⟩
  rw [Nat.shiftLeft_add, Nat.shiftLeft_shiftRight, Nat.shiftLeft_add, Nat.shiftLeft_eq _ w,
    Nat.mul_mod_left]

theorem shl_shr_eq_zero {x a s w : Nat} (hx : x < 2 ^ w) (h : a + w ≤ s) : x <<< a >>> s = 0 := by
  obtain ⟨d, rfl⟩ : ∃ d, s = a + (w + d) := ⟨s - (a + w), by omega⟩
  rw [Nat.shiftRight_add, Nat.shiftLeft_shiftRight, Nat.shiftRight_add, Nat.shiftRight_eq_zero x w hx,
    Nat.zero_shiftRight]

theorem shl_field {w c : Nat} (hc : c < 2 ^ w) (i j : Nat) :
    c <<< (w * i) >>> (w * j) % 2 ^ w = if j = i then c else 0 := by
  rcases Nat.lt_trichotomy j i with h | rfl | h
  · rw [if_neg (by omega), shl_shr_mod_eq_zero (s := w * j) (Nat.mul_le_mul_left w (show j + 1 ≤ i from h))]
  · rw [if_pos rfl, Nat.shiftLeft_shiftRight, Nat.mod_eq_of_lt hc]
  · rw [if_neg (by omega), shl_shr_eq_zero (a := w * i) hc (Nat.mul_le_mul_left w (show i + 1 ≤ j from h)),
      Nat.zero_mod]

/-- the 44-bit absolute counter of a packed superblock word -/
def sbOf (w : Nat) : Nat := w >>> 84
/-- the 12-bit counter of block `b` (`1 ≤ b ≤ 7`) of a packed superblock word -/
def fld (w b : Nat) : Nat := (w >>> (12 * (b - 1))) % 4096

/-- a fresh superblock word `(c << 84) as u128` does not overflow -/
theorem shl84_mod {c : Nat} (h : c < 2 ^ 44) : (c <<< 84) % two128 = c <<< 84 := by
  apply Nat.mod_eq_of_lt
  rw [Nat.shiftLeft_eq]
  exact Nat.mul_lt_mul_of_pos_right h (by decide)

theorem sbOf_init {c : Nat} (h : c < 2 ^ 44) : sbOf ((c <<< 84) % two128) = c := by
  rw [shl84_mod h]; exact Nat.shiftLeft_shiftRight c 84

theorem fld_init {c b : Nat} (h : c < 2 ^ 44) (h1 : 1 ≤ b) (h7 : b ≤ 7) :
    fld ((c <<< 84) % two128) b = 0 := by
  rw [shl84_mod h]; exact shl_shr_mod_eq_zero (w := 12) (by omega)

theorem sbOf_or {w c b : Nat} (hc : c < 4096) (h7 : b ≤ 7) :
    sbOf (w ||| (c <<< ((b - 1) * 12))) = sbOf w := by
  unfold sbOf
  rw [Nat.shiftRight_or_distrib, shl_shr_eq_zero (w := 12) hc (by omega), Nat.or_zero]

theorem fld_shift {c b b' : Nat} (hc : c < 4096) (h1 : 1 ≤ b) (h1' : 1 ≤ b') :
    fld (c <<< ((b - 1) * 12)) b' = if b' = b then c else 0 := by
  unfold fld
  rw [Nat.mul_comm (b - 1) 12]
  exact (shl_field (w := 12) hc (b - 1) (b' - 1)).trans (ite_iff_congr (by omega) c 0)

theorem fld_or {w c b b' : Nat} (hc : c < 4096) (h1 : 1 ≤ b) (h1' : 1 ≤ b') :
    fld (w ||| (c <<< ((b - 1) * 12))) b' = if b' = b then fld w b ||| c else fld w b' := by
  have := fld_shift hc h1 h1'
  unfold fld at this ⊢
  rw [Nat.shiftRight_or_distrib, show (4096 : Nat) = 2 ^ 12 from rfl, Nat.or_mod_two_pow,
    ← show (4096 : Nat) = 2 ^ 12 from rfl, this]
  split
  · subst b'; rfl
  · rw [Nat.or_zero]

/-! ### positions, blocks of `B` symbols, superblocks of `8 * B`

Comparisons of a position with a block start `a * B` are turned into comparisons of `a` with a
quotient, which leaves linear arithmetic whatever `B` is. -/

section blocks
variable {B : Nat}

theorem bsize_pos (hB : B = 256 ∨ B = 512) : 0 < B := by omega
theorem bsize_ge (hB : B = 256 ∨ B = 512) : 256 ≤ B := by omega
/-- a block counter, at most `7 * B`, fits its 12 bits -/
theorem bsize_le (hB : B = 256 ∨ B = 512) : 8 * B ≤ 4096 := by omega

theorem sb_div (p : Nat) : p / (8 * B) = p / B / 8 := by
  rw [Nat.mul_comm, Nat.div_div_eq_div_mul]

theorem sb_mul (j : Nat) : j * (8 * B) = 8 * j * B := by
  rw [Nat.mul_comm 8 j, Nat.mul_assoc]

theorem sb_le_blk (j b : Nat) : j * (8 * B) ≤ (8 * j + b) * B := by
  rw [sb_mul]; exact Nat.mul_le_mul_right B (Nat.le_add_right _ b)

theorem mul_lt_succ_iff (hB : 0 < B) {a p : Nat} : a * B < p + 1 ↔ a ≤ p / B := by
  rw [Nat.lt_succ_iff, Nat.le_div_iff_mul_le hB]

theorem blk_decomp (p : Nat) : 8 * (p / (8 * B)) + p / B % 8 = p / B := by
  rw [sb_div]; omega

theorem blk_inj {j b j' b' : Nat} (hb : b < 8) (hb' : b' < 8) (h : 8 * j + b = 8 * j' + b') :
    j = j' ∧ b = b' := by omega

end blocks

end Qwt.RSQP
