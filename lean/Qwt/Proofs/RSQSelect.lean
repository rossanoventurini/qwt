import Qwt.Proofs.RSQRank

/-! `select`: the superblock search and `block_predecessor` from `RSInv` (`selectBlock_ok`), the scan of the
lines of a block from `Holds` (`selectIntraBlock_ok`), together `select_ok`. -/
namespace Qwt.RSQP
open Qwt Qwt.QV Qwt.RSQ Qwt.Extracted

variable {B : Nat} {rs : RSSupportPlain} {r : RSQVector} {s : List Nat}

theorem getSuperblockCounter_ok (h : RSInv B rs s) (hlen : s.length < 2 ^ 43) {j c : Nat}
    (hj : j ≤ s.length / (8 * B)) (hc : c < 4) :
    getSuperblockCounter rs j c = .ok (Spec.rank c (j * (8 * B)) s) := by
  unfold getSuperblockCounter
  rw [nSuperblocks_eq h, if_neg (Nat.not_le.2 (Nat.lt_succ_of_le hj))]
  simp only []
  rw [if_neg (Nat.not_le.2 hc), sbs_uidx h hj hc]
  simp only [ok_bind]
  rw [sbCounter_eq h hlen hj hc]; rfl

/-- A search loop of `select_block`. The counters being monotone, "counter `< i`" is "index `≤ sj`"
    for the superblock `sj < last` looked for: the loop steps from `first` until it is past `sj`,
    and with enough fuel ends at most `step` past it; nothing from `last` on is read. -/
theorem searchStep_spec {rs : RSSupportPlain} {c i step last sj : Nat} (cntr : Nat → Nat)
    (hcnt : ∀ j, j < last → getSuperblockCounter rs j c = .ok (cntr j))
    (hthr : ∀ j, cntr j < i ↔ j ≤ sj) (hl : sj < last) :
    ∀ fuel first, sj < first + fuel * step →
      ∃ f, searchStep rs c i step last fuel first = .ok f ∧ sj < f ∧
        (f = first ∨ first ≤ sj ∧ first + step ≤ f ∧ f ≤ sj + step) := by
  have hthr' : ∀ j, i ≤ cntr j ↔ sj < j := fun j => by rw [← Nat.not_lt, hthr, Nat.not_le]
  intro fuel
  induction fuel with
  | zero =>
    intro first hf
    rw [Nat.zero_mul] at hf
    exact ⟨first, rfl, hf, Or.inl rfl⟩
  | succ fuel ih =>
    intro first hf
    unfold searchStep
    by_cases hfl : first < last
    · rw [if_pos hfl, hcnt first hfl]
      simp only [ok_bind]
      by_cases hci : cntr first ≥ i
      · rw [if_pos hci]
        exact ⟨first, rfl, (hthr' first).1 hci, Or.inl rfl⟩
      · rw [if_neg hci]
        have hfs := (hthr first).1 (Nat.lt_of_not_le hci)
        rw [Nat.succ_mul, Nat.add_comm (fuel * step), ← Nat.add_assoc] at hf
        obtain ⟨f, e, h1, h2⟩ := ih (first + step) hf
        exact ⟨f, e, h1, by omega⟩
    · rw [if_neg hfl]
      exact ⟨first, rfl, Nat.lt_of_lt_of_le hl (Nat.le_of_not_lt hfl), Or.inl rfl⟩

/-- the two search loops of `select_block` end one past the last superblock whose counter is `< i` -/
theorem search_ok {rs : RSSupportPlain} {c i last first0 st sj : Nat} (cntr : Nat → Nat)
    (hcnt : ∀ j, j < last → getSuperblockCounter rs j c = .ok (cntr j))
    (hthr : ∀ j, cntr j < i ↔ j ≤ sj) (hf : first0 ≤ sj) (hl : sj < last) (hst : 1 ≤ st) :
    ∃ f1 f2, searchStep rs c i st last (last - first0 + 1) first0 = .ok f1 ∧ st ≤ f1 ∧
      searchStep rs c i 1 last (st + 1) (f1 - st) = .ok f2 ∧ 1 ≤ f2 ∧ f2 - 1 = sj := by
  obtain ⟨f1, e1, h1, h1'⟩ := searchStep_spec (step := st) cntr hcnt hthr hl (last - first0 + 1) first0 (by
    have : last - first0 + 1 ≤ (last - first0 + 1) * st := Nat.le_mul_of_pos_right _ hst
    omega)
  obtain ⟨f2, e2, h2, h2'⟩ := searchStep_spec (step := 1) cntr hcnt hthr hl (st + 1) (f1 - st) (by
    rw [Nat.mul_one]; omega)
  have : st ≤ f1 ∧ 1 ≤ f2 ∧ f2 - 1 = sj := by omega
  exact ⟨f1, f2, e1, this.1, e2, this.2⟩

/-- The loop of `block_predecessor` on the word `W`, entered at block `blockId` with `f = 8 - blockId` rounds
    left: it has shifted away the fields of the blocks before `blockId` and carries the field of
    block `blockId - 1` as `prev`. `bs` is the answer: the last block whose field is below `target`. -/
theorem bp_go_ok (W target bs : Nat) (h7 : bs ≤ 7)
    (hlt : ∀ b, 1 ≤ b → b ≤ bs → fld0 W b < target) (hge : bs = 7 ∨ target ≤ fld0 W (bs + 1)) :
    ∀ f blockId, f + blockId = 8 → 1 ≤ blockId → blockId ≤ bs + 1 →
      blockPredecessor.go target f blockId (W >>> (12 * (blockId - 1))) (fld0 W (blockId - 1)) =
        (bs, fld0 W bs) := by
  intro f
  induction f with
  | zero =>
    intro blockId h8 h1 hb
    obtain rfl : blockId = 8 := (Nat.zero_add _).symm.trans h8
    obtain rfl : bs = 7 := Nat.le_antisymm h7 (Nat.le_of_succ_le_succ hb)
    rfl
  | succ f ih =>
    intro blockId h8 h1 hb
    unfold blockPredecessor.go
    have hcurr : ((W >>> (12 * (blockId - 1))) &&& 0xFFF) % two64 = fld0 W blockId := by
      unfold fld0 fld
      rw [if_neg (Nat.ne_of_gt h1), show (0xFFF : Nat) = 2 ^ 12 - 1 from rfl,
        Nat.and_two_pow_sub_one_eq_mod, two64_eq]
      exact Nat.mod_eq_of_lt (Nat.lt_trans (Nat.mod_lt _ (by decide)) (by decide))
    simp only [hcurr]
    by_cases hbb : blockId ≤ bs
    · rw [if_neg (Nat.not_le.2 (hlt blockId h1 hbb))]
      have := ih (blockId + 1) (by omega) (Nat.le_add_left 1 _) (Nat.succ_le_succ hbb)
      rw [Nat.add_sub_cancel] at this
      rw [← Nat.shiftRight_add, show 12 * (blockId - 1) + 12 = 12 * blockId by omega]
      exact this
    · obtain rfl : blockId = bs + 1 := Nat.le_antisymm hb (Nat.lt_of_not_le hbb)
      rw [if_pos (hge.resolve_left (by omega)), Nat.add_sub_cancel]

theorem blockPredecessor_ok (h : RSInv B rs s) {j c target bs : Nat} (hj : j ≤ s.length / (8 * B))
    (hc : c < 4) (h7 : bs ≤ 7)
    (hlt : ∀ b, 1 ≤ b → b ≤ bs → fld0 (rs.superblocks.getD (4 * j + c) 0) b < target)
    (hge : bs = 7 ∨ target ≤ fld0 (rs.superblocks.getD (4 * j + c) 0) (bs + 1)) :
    blockPredecessor rs j c target = .ok (bs, fld0 (rs.superblocks.getD (4 * j + c) 0) bs) := by
  unfold blockPredecessor
  rw [nSuperblocks_eq h, if_neg (Nat.not_le.2 (Nat.lt_succ_of_le hj))]
  simp only []
  rw [if_neg (Nat.not_le.2 hc), sbs_uidx h hj hc]
  simp only [ok_bind]
  exact congrArg Except.ok
    (bp_go_ok _ target bs h7 hlt hge 7 1 rfl (Nat.le_refl _) (Nat.succ_le_succ (Nat.zero_le bs)))

theorem rank_le_iff {c : Nat} {s : List Nat} {p x : Nat} (hp : s[p]? = some c) :
    Spec.rank c x s ≤ Spec.rank c p s ↔ x ≤ p := by
  refine ⟨fun h => ?_, Spec.rank_mono c s⟩
  rcases Nat.lt_or_ge p x with hlt | hge
  · have := Spec.rank_succ_of_eq c s hp
    have := Spec.rank_mono c s (show p + 1 ≤ x from hlt)
    omega
  · exact hge

theorem sample_bracket {s : List Nat} {SB c k p : Nat} {S : Array Nat} (FS : FSInv s SB c S)
    (hp : s[p]? = some c) (hr : Spec.rank c p s = k) :
    ∃ first nxt, idx S (k / rsqSelectNumSamples) = .ok first ∧
      idx S (k / rsqSelectNumSamples + 1) = .ok nxt ∧ first ≤ p / SB ∧ p / SB ≤ nxt ∧
      nxt ≤ s.length / SB := by
  have hpn := lt_length_of_getElem? hp
  have hcnt : k < s.count c := hr ▸ rank_lt_count c s hp
  have ht1 : k / rsqSelectNumSamples * rsqSelectNumSamples ≤ k := Nat.div_mul_le_self _ _
  have ht2 : k < (k / rsqSelectNumSamples + 1) * rsqSelectNumSamples := by
    rw [Nat.mul_comm]; exact Nat.lt_mul_div_succ k P_pos
  generalize k / rsqSelectNumSamples = t at ht1 ht2
  have htc := Nat.lt_of_le_of_lt ht1 hcnt
  obtain ⟨hts, pt, hpt1, hpt2, hpt3⟩ := FS.val t htc
  have hptp : pt ≤ p := (rank_le_iff hp).1 (by rw [hpt2, hr]; exact ht1)
  rw [idx_getD 0 hts, hpt3]
  by_cases hnx : (t + 1) * rsqSelectNumSamples < s.count c
  · obtain ⟨hts', p', hp'1, hp'2, hp'3⟩ := FS.val (t + 1) hnx
    have hpp' : p ≤ p' := (rank_le_iff hp'1).1 (by rw [hp'2, hr]; exact Nat.le_of_lt ht2)
    have hp'n := lt_length_of_getElem? hp'1
    rw [idx_getD 0 hts', hp'3]
    exact ⟨_, _, rfl, rfl, Nat.div_le_div_right hptp, Nat.div_le_div_right hpp',
      Nat.div_le_div_right (Nat.le_of_lt hp'n)⟩
  · obtain ⟨hts', hv⟩ := FS.sentinel t htc (Nat.le_of_not_lt hnx)
    rw [idx_getD 0 hts', hv]
    exact ⟨_, _, rfl, rfl, Nat.div_le_div_right hptp, Nat.div_le_div_right (Nat.le_of_lt hpn),
      Nat.le_refl _⟩

/-- within the superblock of position `p` holding occurrence `k` of `c`, `block_predecessor` finds
    the block of `p`: block starts up to `p` have at most `k` occurrences before them, and the
    next block start (at worst the sentinel) has more -/
theorem blockPredecessor_sel (hB : 0 < B)
    (h : RSInv B rs s) {c k p : Nat} (hc : c < 4) (hp : s[p]? = some c) (hr : Spec.rank c p s = k) :
    ∃ bR, blockPredecessor rs (p / (8 * B)) c (k + 1 - Spec.rank c (p / (8 * B) * (8 * B)) s) =
        .ok (p / B % 8, bR) ∧
      Spec.rank c (p / (8 * B) * (8 * B)) s + bR = Spec.rank c (p / B * B) s := by
  have hpn := lt_length_of_getElem? hp
  have hpsb : p / (8 * B) ≤ s.length / (8 * B) := Nat.div_le_div_right (Nat.le_of_lt hpn)
  have hpb : p / B ≤ s.length / B := Nat.div_le_div_right (Nat.le_of_lt hpn)
  have hdec := blk_decomp (B := B) p
  have hb8 : p / B % 8 < 8 := Nat.mod_lt _ (by decide)
  have hblk : ∀ b, Spec.rank c ((8 * (p / (8 * B)) + b) * B) s < k + 1 ↔ 8 * (p / (8 * B)) + b ≤ p / B :=
    fun b => by rw [← hr, Nat.lt_succ_iff, rank_le_iff hp, ← Nat.le_div_iff_mul_le hB]
  have hfld := fun b (h7 : b ≤ 7) (hb : 8 * (p / (8 * B)) + b ≤ s.length / B + 1) =>
    sb_add_fld0 (c := c) h hpsb hc h7 hb
  -- block `b0` of superblock `j` is block `q` of the sequence
  generalize p / B % 8 = b0 at hdec hb8 ⊢
  generalize p / B = q at hdec hblk hpb ⊢
  generalize p / (8 * B) = j at hdec hblk hfld hpsb ⊢
  have hL : ∀ b, 8 * j + b ≤ q + 1 → 8 * j + b ≤ s.length / B + 1 := fun b hb =>
    Nat.le_trans hb (Nat.succ_le_succ hpb)
  have hq : ∀ b, b ≤ b0 → 8 * j + b ≤ q := fun b hb => hdec ▸ Nat.add_le_add_left hb _
  have hb7 := Nat.le_of_lt_succ hb8
  refine ⟨_, blockPredecessor_ok (bs := b0) h hpsb hc hb7 (fun b h1 hb => ?_) ?_,
    hdec ▸ hfld _ hb7 (hL _ (Nat.le_succ_of_le (hq _ (Nat.le_refl _))))⟩
  · refine Nat.lt_sub_of_add_lt ?_
    rw [Nat.add_comm (fld0 _ _), hfld b (Nat.le_trans hb hb7) (hL _ (Nat.le_succ_of_le (hq b hb)))]
    exact (hblk b).2 (hq b hb)
  · by_cases h7 : b0 = 7
    · exact Or.inl h7
    · refine Or.inr (Nat.sub_le_iff_le_add.2 ?_)
      have hq1 : 8 * j + (b0 + 1) = q + 1 := by rw [← Nat.add_assoc, hdec]
      rw [Nat.add_comm (fld0 _ _), hfld (b0 + 1) (by omega) (hL _ (Nat.le_of_eq hq1))]
      exact Nat.le_of_not_lt (fun hlt => by have := (hblk _).1 hlt; omega)

theorem selectBlock_ok (hB : 0 < B)
    (h : RSInv B rs s) (hlen : s.length < 2 ^ 43) {c k p : Nat} (hc : c < 4) (hp : s[p]? = some c)
    (hr : Spec.rank c p s = k) :
    selectBlock B rs c (k + 1) = .ok (p / B * B, Spec.rank c (p / B * B) s) := by
  have hsub1 : sub (k + 1) 1 = .ok k := sub_ok (Nat.le_add_left 1 k)
  have hsmp := idx_getD #[] (show c < rs.selectSamples.size by rw [h.samples_size]; exact hc)
  obtain ⟨first, nxt, hfirst, hnxt, hf0, hn0, hn1⟩ := sample_bracket
    (h.samples c hc (List.count_pos_iff.2 (List.mem_of_getElem? hp))) hp hr
  have hd := sub_ok (Nat.le_trans hf0 (Nat.le_trans hn0 (Nat.le_add_left nxt 1)))
  -- the superblock of `p` is the last one with fewer than `k + 1` occurrences before it
  have hthr : ∀ j, Spec.rank c (j * (8 * B)) s < k + 1 ↔ j ≤ p / (8 * B) := fun j => by
    rw [← hr, Nat.lt_succ_iff, rank_le_iff hp, Nat.le_div_iff_mul_le (Nat.mul_pos (by decide) hB)]
  obtain ⟨f1, f2, e1, hf1, e2, hf2, hf3⟩ := search_ok (rs := rs) (c := c) (first0 := first)
    (st := Nat.sqrt (1 + nxt - first) + 1) (fun j => Spec.rank c (j * (8 * B)) s)
    (fun j hj => getSuperblockCounter_ok h hlen (by omega) hc) hthr hf0
    (Nat.lt_of_le_of_lt hn0 (Nat.lt_add_of_pos_left Nat.one_pos)) (Nat.le_add_left _ _)
  obtain ⟨bR, e3, hbR⟩ := blockPredecessor_sel hB h hc hp hr
  unfold selectBlock
  simp only [hsub1, hsmp, hfirst, hnxt, hd, e1, sub_ok hf1, e2, sub_ok hf2, hf3,
    getSuperblockCounter_ok h hlen (Nat.le_trans hn0 hn1) hc,
    sub_ok (Nat.le_of_lt ((hthr _).2 (Nat.le_refl _))), e3, ok_bind, blocksInSuperblock_eq]
  rw [hbR, Nat.mul_right_comm, ← Nat.add_mul, Nat.mul_comm _ 8, blk_decomp]
  rfl

/-- One half line (128 positions from `a` on, `w` their indicator word for `f`), with `i` occurrences still
    to skip: the occurrence looked for, at `p`, is in this half. -/
theorem half_found (hsel : SelHyp) {f : Nat → Bool} {w a p i result : Nat} (hw : w < 2 ^ 128)
    (hbits : ∀ j, j < 128 → w.testBit j = f (a + j)) (hap : a ≤ p) (hpa : p < a + 128)
    (hfp : f p = true) (hi : i = cntF (fun j => f (a + j)) (p - a)) :
    selectIntraHalf w i result = .ok (.inl (result + (p - a))) := by
  unfold selectIntraHalf
  have hc : ∀ m, m ≤ 128 → cntF (fun j => w.testBit j) m = cntF (fun j => f (a + j)) m :=
    fun m hm => cntF_congr (fun j hj => hbits j (Nat.lt_of_lt_of_le hj hm))
  have hd : p - a < 128 := Nat.sub_lt_left_of_lt_add hap hpa
  have htb : w.testBit (p - a) = true := by rw [hbits _ hd, Nat.add_sub_of_le hap]; exact hfp
  have hlt : i < Qwt.popc w := by
    rw [hi, ← hc _ (Nat.le_of_lt hd), popc_of_lt hw]
    exact cntF_lt_of_true (f := fun j => w.testBit j) htb hd
  obtain ⟨q, e, hq, hq1, hq2⟩ := sel_spec hsel hw hlt
  have : q = p - a := by
    apply cntF_inj (f := fun j => w.testBit j) hq1 htb
    rw [hq2, hi, hc _ (Nat.le_of_lt hd)]
  subst this
  simp only []
  rw [if_pos hlt, e]
  rfl

/-- … or it is beyond this half, which is skipped with its occurrences. -/
theorem half_skip {f : Nat → Bool} {w a p i result : Nat} (hw : w < 2 ^ 128)
    (hbits : ∀ j, j < 128 → w.testBit j = f (a + j)) (hpa : a + 128 ≤ p)
    (hi : i = cntF (fun j => f (a + j)) (p - a)) :
    selectIntraHalf w i result =
      .ok (.inr (cntF (fun j => f (a + 128 + j)) (p - (a + 128)), result + 128)) := by
  unfold selectIntraHalf
  have hpc : Qwt.popc w = cntF (fun j => f (a + j)) 128 := by
    rw [popc_of_lt hw]; exact cntF_congr (fun j hj => hbits j hj)
  have hsplit := cntF_add (fun j => f (a + j)) 128 (p - (a + 128))
  rw [show 128 + (p - (a + 128)) = p - a by omega] at hsplit
  have e : i - Qwt.popc w = cntF (fun j => f (a + 128 + j)) (p - (a + 128)) := by
    rw [hi, hpc, hsplit, Nat.add_sub_cancel_left]
    apply cntF_congr; intro j _; simp only [Nat.add_assoc]
  simp only []
  rw [if_neg (Nat.not_lt.2 (by rw [hi, hpc, hsplit]; exact Nat.le_add_right _ _)), e]
  rfl

theorem add_sub_shift (r : Nat) {a d p : Nat} (h : a + d ≤ p) : r + d + (p - (a + d)) = r + (p - a) := by
  omega

section
variable {c : Nat}

/-- padded indicator of `c` -/
def ind (s : List Nat) (c : Nat) (j : Nat) : Bool := decide (s.getD j 0 = c)

theorem ind_of_getElem? {p : Nat} (hp : s[p]? = some c) : ind s c p = true := by
  unfold ind; rw [List.getD_eq_getElem?_getD, hp]; simp

/-- the loop over the lines of a block: the occurrence at `p` is in the first or the second half
    of the line at hand, or in one of the `f` lines after it -/
theorem sib_go_ok (hsel : SelHyp) (hq : Holds r.qv s) (hs : ∀ x ∈ s, x < 4) (hc : c < 4)
    {lineId p : Nat} (hp : s[p]? = some c) : ∀ f j i result,
    256 * (lineId + j) ≤ p → p < 256 * (lineId + j) + 256 * f →
    i = cntF (fun t => ind s c (256 * (lineId + j) + t)) (p - 256 * (lineId + j)) →
    selectIntraBlock.go r c lineId f j i result = .ok (result + (p - 256 * (lineId + j))) := by
  have hpn := lt_length_of_getElem? hp
  intro f
  induction f with
  | zero => intro j i result h1 h2; omega
  | succ f ih =>
    intro j i result h1 h2 hi
    have hl : lineId + j < (s.length + 255) / 256 := by omega
    obtain ⟨w0, w1, hn, hw0, hw1, hb0, hb1⟩ := normalize_ok hq hs hl hc
    unfold selectIntraBlock.go
    rw [holds_nLines hq, if_neg (Nat.not_le.2 hl)]
    simp only []
    rw [hn]
    simp only [ok_bind]
    by_cases hh : p < 256 * (lineId + j) + 128
    · rw [half_found hsel (f := ind s c) hw0 hb0 h1 hh (ind_of_getElem? hp) hi]
      rfl
    · rw [half_skip (f := ind s c) hw0 hb0 (Nat.le_of_not_lt hh) hi]
      simp only [ok_bind]
      by_cases hh2 : p < 256 * (lineId + j) + 128 + 128
      · rw [half_found hsel (f := ind s c) hw1 hb1 (Nat.le_of_not_lt hh) hh2 (ind_of_getElem? hp) rfl,
          add_sub_shift result (Nat.le_of_not_lt hh)]
        rfl
      · rw [half_skip (f := ind s c) hw1 hb1 (Nat.le_of_not_lt hh2) rfl]
        simp only [ok_bind]
        have e : 256 * (lineId + (j + 1)) = 256 * (lineId + j) + 128 + 128 := by omega
        rw [ih (j + 1) _ _ (by rw [e]; exact Nat.le_of_not_lt hh2) (by rw [e]; omega) (by rw [e]), e,
          add_sub_shift _ (Nat.le_of_not_lt hh2), add_sub_shift _ (Nat.le_of_not_lt hh)]

end

theorem ind_cnt (s : List Nat) (c a p : Nat) (ha : a ≤ p) (hp : p ≤ s.length) :
    Spec.rank c p s - Spec.rank c a s = cntF (fun t => ind s c (a + t)) (p - a) := by
  have := cnt_line_eq_rank s c a (p - a) (by rw [Nat.add_sub_of_le ha]; exact hp)
  rw [Nat.add_sub_of_le ha] at this
  exact this.symm

theorem selectIntraBlock_ok (hsel : SelHyp) (h : RepInv B r s)
    {c p : Nat} (hc : c < 4) (hp : s[p]? = some c) :
    selectIntraBlock B r c (Spec.rank c p s - Spec.rank c (p / B * B) s + 1) (p / B * B) =
      .ok (p - p / B * B) := by
  have hpn := lt_length_of_getElem? hp
  unfold selectIntraBlock
  rw [sub_ok (Nat.le_add_left 1 _), Nat.add_sub_cancel, Nat.shiftRight_eq_div_pow]
  simp only [ok_bind]
  -- a block is `n = B / 256` lines, and `go` is given that many
  have key : ∀ n, 0 < n → B = 256 * n →
      selectIntraBlock.go r c (p / B * B / 2 ^ 8) n 0 (Spec.rank c p s - Spec.rank c (p / B * B) s) 0 =
        .ok (p - p / B * B) := by
    intro n hn hB
    have hl : 256 * (p / B * B / 2 ^ 8 + 0) = p / B * B := by
      rw [Nat.add_zero, hB, Nat.mul_left_comm (p / (256 * n)) 256 n]
      exact congrArg (256 * ·) (Nat.mul_div_cancel_left _ (by decide : 0 < 256))
    rw [sib_go_ok hsel h.holds h.syms hc hp n 0 _ 0 (by rw [hl]; exact Nat.div_mul_le_self p B)
      (by rw [hl, ← hB]; exact Nat.lt_div_mul_add (by omega))
      (by rw [hl]; exact ind_cnt s c _ p (Nat.div_mul_le_self p B) (Nat.le_of_lt hpn)),
      hl, Nat.zero_add]
  rcases h.hB with rfl | rfl
  · exact key 1 Nat.one_pos rfl
  · exact key 2 (by decide) rfl

theorem select_ok (hsel : SelHyp) {B : Nat} {r : RSQVector} {s : List Nat} (h : RepInv B r s)
    (dbg : Bool) (c k : Nat) :
    RSQ.select dbg B r c k = .ok (if c ≤ 3 then Spec.select c k s else none) := by
  unfold RSQ.select
  by_cases hc : c ≤ 3
  · rw [if_neg (Nat.not_lt.2 hc), if_pos hc, occsUnchecked_ok h dbg hc]
    simp only [ok_bind]
    by_cases hk : s.count c ≤ k
    · rw [if_pos hk, Proofs.Word.select_none c s k hk]; rfl
    · rw [if_neg hk]
      obtain ⟨p, e1, hp, hr⟩ := select_some_of_lt c s k (Nat.lt_of_not_le hk)
      have hle := Nat.div_mul_le_self p B
      rw [selectBlock_ok (bsize_pos h.hB) h.rs h.hlen (Nat.lt_succ_of_le hc) hp hr]
      simp only [ok_bind]
      rw [sub_ok (hr ▸ Spec.rank_mono c s hle)]
      simp only [ok_bind]
      rw [← hr, selectIntraBlock_ok hsel h (Nat.lt_succ_of_le hc) hp]
      simp only [ok_bind]
      rw [hr, e1, Nat.add_sub_of_le hle]
      rfl
  · rw [if_pos (Nat.lt_of_not_le hc), if_neg hc]; rfl

end Qwt.RSQP
