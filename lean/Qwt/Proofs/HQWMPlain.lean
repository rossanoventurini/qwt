import Qwt.Proofs.HQWMSelect

/-!
The plain quad wavelet matrix is the Huffman-shaped one whose codes all have `L` digits: the
rank walk `rankWM` follows `blkStartQ + cntR`, the two passes `selWM` of `select` are `selUpQ`,
and their correctness is that of the Huffman-shaped matrix (`walk_stepQ`, `selUpQ_spec`).
-/
namespace Qwt.WM
open Qwt Qwt.Spec Qwt.HQWM

/-- digit `k` (most significant first) of a number written with `L` base-4 digits -/
def pdig (L k x : Nat) : Nat := dig (2 * (L - 1 - k)) x

theorem pdig_eq {L k f : Nat} (h : k + f + 1 = L) : pdig L k = dig (2 * f) := by
  funext x
  rw [pdig, show L - 1 - k = f by omega]

theorem pdig_inj {L x y : Nat} (hx : x < 4 ^ L) (hy : y < 4 ^ L)
    (h : ∀ j, j < L → pdig L j x = pdig L j y) : x = y := by
  have hmod : ∀ f, f ≤ L → x % 4 ^ f = y % 4 ^ f := by
    intro f
    induction f with
    | zero => intro _; rw [Nat.pow_zero, Nat.mod_one, Nat.mod_one]
    | succ f ih =>
      intro hf
      have hd := h (L - 1 - f) (by omega)
      rw [pdig_eq (f := f) (by omega)] at hd
      exact (mod_pow_succ_eq_iff f x y).mpr ⟨hd, ih (by omega)⟩
  have := hmod L (Nat.le_refl L)
  rwa [Nat.mod_eq_of_lt hx, Nat.mod_eq_of_lt hy] at this

theorem agR_plain {L c x : Nat} (hc : c < 4 ^ L) (hx : x < 4 ^ L) :
    agR (pdig L) (fun _ => L) c L x = (x == c) := by
  rw [agR, decide_eq_true (Nat.le_refl L), Bool.and_true, Bool.eq_iff_iff, beq_iff_eq]
  constructor
  · intro h; exact pdig_inj hx hc (fun j hj => agQ_bit _ c x hj h)
  · rintro rfl; exact agQ_self _ _ _

theorem qok_plain {L : Nat} (hL : L ≠ 0) {S : List Nat} (hs : ∀ x ∈ S, x < 4 ^ L) :
    QOK (pdig L) (fun _ => L) S :=
  qok_const (Nat.pos_of_ne_zero hL) (fun _ _ => dig_lt _ _)
    (fun x hx y hy h => pdig_inj (hs x hx) (hs y hy) h)

/-- every key is as long as every code -/
theorem findable_plain (L : Nat) (S : List Nat) (sym : Nat) : Findable (fun _ => L) S sym :=
  Or.inr (fun _ _ => Nat.le_refl L)

/-- `s` is the list of level `k`; the last partition is not a level of the Huffman-shaped matrix
    and the walk ignores it, hence the guard `f ≠ 0` (same in `selUpQ_eq_selWM`) -/
theorem cntR_eq_rankWM (sym L : Nat) (S : List Nat) (h : QOK (pdig L) (fun _ => L) S) (i : Nat) :
    ∀ (f k : Nat) (s : List Nat), k + f = L → (f ≠ 0 → s = lvlQ (pdig L) (fun _ => L) k S) →
      rankWM sym f s
          (blkStartQ (pdig L) (fun _ => L) sym S k + cntR (pdig L) (fun _ => L) sym S k i)
          (blkStartQ (pdig L) (fun _ => L) sym S k) =
        cntR (pdig L) (fun _ => L) sym S L i := by
  have hc := findable_plain L S sym
  intro f
  induction f with
  | zero =>
    intro k s hkf _
    rw [rankWM, Nat.add_sub_cancel_left, ← hkf, Nat.add_zero]
  | succ f ih =>
    intro k s hkf hs
    have hk : k < L := by omega
    have hw := hc.walk_stepQ h k hk i
    rw [← hc.cntR_eq_cntP h hk, digsQ] at hw
    rw [hs (Nat.succ_ne_zero f), rankWM, ← pdig_eq (L := L) (k := k) (by omega), hw]
    exact ih (k + 1) _ (by omega) (fun hf => (lvlQ_const _ (by omega) S).symm)

theorem rankWM_eq_rank (sym L : Nat) (s : List Nat) (i : Nat) (hL : L ≠ 0) (hi : i ≤ s.length)
    (hs : ∀ x ∈ s, x < 4 ^ L) (hsym : sym < 4 ^ L) :
    rankWM sym L s i 0 = rank sym i s := by
  have hw := cntR_eq_rankWM sym L s (qok_plain hL hs) i L 0 s (Nat.zero_add L) (fun _ => rfl)
  rw [blkStartQ, Nat.zero_add, cntR_zero _ _ _ _ _ hi] at hw
  rw [hw, cntR, rank]
  exact BinWM.countP_eq_count _ _ _
    (fun x hx => agR_plain hsym (hs x (List.mem_of_mem_take hx)))

theorem selUpQ_eq_selWM (sym L : Nat) (S : List Nat) (hlen : S.length < 2 ^ 64) :
    ∀ (f k : Nat) (s : List Nat) (res : Nat), k + f = L →
      (f ≠ 0 → s = lvlQ (pdig L) (fun _ => L) k S) →
      selUpQ (pdig L) (fun _ => L) sym S (k + f) res =
        (selWM sym f s (blkStartQ (pdig L) (fun _ => L) sym S k) res).bind
          (selUpQ (pdig L) (fun _ => L) sym S k) := by
  intro f
  induction f with
  | zero => intro k s res _ _; rfl
  | succ f ih =>
    intro k s res hkf hs
    have hi := ih (k + 1) (stablePart (pdig L k) 4 (lvlQ (pdig L) (fun _ => L) k S)) res (by omega)
      (fun hf => (lvlQ_const _ (by omega) S).symm)
    rw [hs (Nat.succ_ne_zero f), selWM, ← pdig_eq (L := L) (k := k) (by omega),
      show k + (f + 1) = k + 1 + f by omega, hi, blkStartQ, digsQ]
    generalize selWM sym f _ _ res = inner
    cases inner with
    | none => rfl
    | some o =>
      show selUpQ (pdig L) (fun _ => L) sym S (k + 1) o = Option.bind (ite _ _ _) _
      rw [selUpQ, digsQ]
      have hcnt : ((lvlQ (pdig L) (fun _ => L) k S).map (pdig L k)).count (pdig L k sym) < 2 ^ 64 :=
        Nat.lt_of_le_of_lt List.count_le_length (by
          rw [List.length_map]; exact Nat.lt_of_le_of_lt (lvlQ_length_le _ _ _ _) hlen)
      split
      next hq => rw [hq]; split <;> rfl
      next q hq =>
        -- an answer exists only below the number of occurrences: the overflow test does not fire
        rw [hq, if_neg (fun hov => by rw [BinWM.select_none (by omega)] at hq; cases hq)]
        rfl

theorem selWM_eq_select (sym L : Nat) (s : List Nat) (k : Nat) (hL : L ≠ 0)
    (hlen : s.length < 2 ^ 64) (hs : ∀ x ∈ s, x < 4 ^ L) (hsym : sym < 4 ^ L) :
    selWM sym L s 0 k = select sym k s := by
  have hb := selUpQ_eq_selWM sym L s hlen L 0 s k (Nat.zero_add L) (fun _ => rfl)
  rw [Nat.zero_add, blkStartQ, (funext fun _ => rfl : selUpQ (pdig L) (fun _ => L) sym s 0 = some),
    Option.bind_fun_some] at hb
  rw [← hb, selUpQ_spec (qok_plain hL hs) (findable_plain L s sym) L k (Nat.le_refl L)
    (fun h => absurd h hL)]
  exact BinWM.select_map_eq _ sym s (fun x hx => agR_plain hsym (hs x hx)) k

end Qwt.WM
