import Qwt.Proofs.HQWMNew

/-!
Representation invariant `HWM` of the Huffman-shaped quad wavelet tree (`Huff.HQWT`), its
establishment by `Huff.new` from a valid code table, and the query theorems from the invariant.
-/

namespace Qwt.HQWM
open Qwt Qwt.Huff
open Qwt.BinWM (clen DecOK code_lookup lt_two64)
open Qwt.Props.C02 (WMValid digits PfsTotalH)

/-- `max_len` as `HuffQWaveletTree::new` computes it -/
def maxLenOf (codes : Array PrefixCode) : Nat := codes.foldl (fun m x => max m x.len) 0

/-- the representation invariant of a Huffman-shaped quad tree `t` for the non-empty sequence
    `S` and the code table `codes`: level `k` represents the digit list of the live elements
    (`digsQ`), `t.lens[k]` is their number, the decode tables are those of `codes` -/
structure HWM (c : Cfg) (S : List Nat) (codes : Array PrefixCode) (t : HQWT) : Prop where
  n_eq : t.n = S.length
  codes_eq : t.codesEncode = codes
  nLevels_eq : t.nLevels = maxLenOf codes / 2
  dec_eq : t.codesDecode = decodeTables codes (maxLenOf codes)
  dec : DecOK codes t.codesDecode S
  qok : QOK (qdig codes) (qlen codes) S
  levels : LevelsQ c.B codes S t
  mem_in : ∀ x ∈ S, x < codes.size ∧ codes[x]!.len ≠ 0
  nonmem : ∀ x, x ∉ S → codes[x]!.len = 0
  code_bound : ∀ x : Nat, codes[x]!.len ≤ 32 ∧ 2 ∣ codes[x]!.len ∧
    codes[x]!.content < 2 ^ codes[x]!.len
  bound : ∀ x ∈ S, x < 2 ^ c.W
  w64 : c.W ≤ 64
  len_lt : S.length < 2 ^ 43
  ne : S ≠ []
  pfs_none : c.pfs = false → t.pfs = none

theorem new_okQ (c : Cfg) (hW : c.W ≤ 64) (hLaw : LevelLaw c.dbg c.B) (hP : PfsTotalH c)
    (S : List Nat) (hne : S ≠ [])
    (hb : ∀ x ∈ S, x < 2 ^ c.W) (hS : S.length < 2 ^ 43) (lens : List (Nat × Nat))
    (codes : Array PrefixCode)
    (hcraft : Huff.craftWmCodes 4 lens (Utils.asUsize (Spec.maxNat S)) = .ok codes)
    (occ : List Nat) (hv : WMValid 4 codes occ) (hocc : ∀ s, s ∈ occ ↔ s ∈ S) :
    ∃ t, Huff.new c S.toArray lens = .ok t ∧ HWM c S codes t := by
  have hok := qok_of_valid hv hocc
  have hev : ∀ x : Nat, 2 ∣ codes[x]!.len := fun x => (hv.len_le x).2.1
  have hin : ∀ x ∈ S, x < codes.size ∧ codes[x]!.len ≠ 0 :=
    fun x hx => hv.occ_len x ((hocc x).mpr hx)
  have hin' : ∀ s ∈ S, s < codes.size ∧ s < two64 :=
    fun s hs => ⟨(hin s hs).1, lt_two64 hW (hb s hs)⟩
  obtain ⟨qvs, lns, pfs, hloop, hqs, hls, hrs, hlens, -, -⟩ :=
    levels_loopQ c hLaw hP codes S hS hok.pos hin' hev (maxLenOf codes / 2)
  have hemp : S.toArray.isEmpty = false := by
    cases S with
    | nil => exact absurd rfl hne
    | cons _ _ => rfl
  have hfold : S.toArray.foldl max 0 = Spec.maxNat S := by simp [Spec.maxNat]
  have hdec : DecOK codes (Huff.decodeTables codes (maxLenOf codes)) S :=
    BinWM.decOK_of_valid hv S (fun x hx => (hin x hx).2)
  refine ⟨{ n := S.length, nLevels := maxLenOf codes / 2, codesEncode := codes,
            codesDecode := Huff.decodeTables codes (maxLenOf codes),
            qvs := qvs, lens := lns, pfs := if c.pfs then some pfs else none }, ?_, ?_⟩
  · unfold Huff.new
    simp only [hemp, Bool.false_eq_true, if_false, hfold, hcraft, ok_bind]
    unfold maxLenOf at hloop
    simp only [hloop, ok_bind]
    rfl
  · refine ⟨rfl, rfl, rfl, rfl, hdec, hok, ⟨hqs, hls, hrs, hlens, ?_⟩, hin,
      fun x hx => hv.nonocc_len x (fun h => hx ((hocc x).mp h)),
      fun x => ⟨(hv.len_le x).1, hev x, (hv.len_le x).2.2⟩, hb, hW, hS, hne, ?_⟩
    · intro x _
      have := Proofs.Craft.len_le_maxLen codes x
      show codes[x]!.len / 2 ≤ maxLenOf codes / 2
      exact Nat.div_le_div_right this
    · intro hf
      simp [hf]

section inv
variable {c : Cfg} {S : List Nat} {codes : Array PrefixCode} {t : HQWT}

theorem codeOfQ (h : HWM c S codes t) (sym : Nat) :
    codeOf t sym = if sym ∈ S then some codes[sym]! else none := by
  unfold codeOf
  rw [h.codes_eq]
  by_cases hs : sym ∈ S
  · obtain ⟨h1, h2⟩ := h.mem_in sym hs
    have h64 : ¬ sym ≥ two64 := by have := lt_two64 h.w64 (h.bound sym hs); omega
    have hlen : (codes[sym]!.len == 0) = false := by simpa using h2
    rw [if_neg h64, if_pos hs, Array.getElem?_eq_getElem h1, ← getElem!_pos codes sym h1]
    simp only [hlen, Bool.false_eq_true, if_false]
  · rw [if_neg hs]
    have h0 := h.nonmem sym hs
    by_cases h64 : sym ≥ two64
    · rw [if_pos h64]
    · rw [if_neg h64]
      by_cases h1 : sym < codes.size
      · have hlen : (codes[sym]!.len == 0) = true := by simpa using h0
        rw [Array.getElem?_eq_getElem h1, ← getElem!_pos codes sym h1]
        simp only [hlen, if_true]
      · rw [Array.getElem?_eq_none (by omega)]

theorem lookupQ (h : HWM c S codes t) {sym : Nat} (hs : sym ∈ S) :
    idx t.codesEncode (Utils.asUsize sym) = .ok codes[sym]! := by
  rw [h.codes_eq]
  exact (code_lookup (h.mem_in sym hs).1 (lt_two64 h.w64 (h.bound sym hs))).2

theorem inv_getUnchecked (h : HWM c S codes t) (i : Nat) (hi : i < S.length) :
    Huff.getUnchecked c t i = .ok S[i] := by
  have hmem : S[i] ∈ S := List.getElem_mem hi
  exact getUncheckedQ_ok c h.qok h.levels h.dec S[i] i (List.getElem?_eq_getElem hi)
    (h.code_bound _).2.1 (h.code_bound _).2.2 (h.code_bound _).1 (h.bound _ hmem)

theorem inv_get (h : HWM c S codes t) (i : Nat) : Huff.get c t i = .ok S[i]? := by
  unfold Huff.get
  rw [h.n_eq]
  by_cases hi : i < S.length
  · rw [if_neg (by omega), inv_getUnchecked h i hi, List.getElem?_eq_getElem hi]; rfl
  · rw [if_pos (by omega), List.getElem?_eq_none (by omega)]; rfl

theorem inv_rankGo (h : HWM c S codes t) {sym : Nat} (hs : sym ∈ S) (i : Nat)
    (hi : i ≤ S.length) :
    ∃ p, rankUnchecked.go c t codes[sym]! (codes[sym]!.len / 2 + 1) 0
        (Int.ofNat codes[sym]!.len - 2) i 0 = .ok (p + Spec.rank sym i S, p) := by
  have hw := rankGo_ok c h.qok h.levels hs (h.code_bound sym).2.1 i (qlen codes sym) 0
    (Nat.zero_add _)
  rw [two_qlen (h.code_bound sym).2.1, cntR_zero _ _ _ _ _ hi, cntR_full h.qok hs] at hw
  simp only [blkStartQ, Nat.zero_add] at hw
  exact ⟨_, hw⟩

theorem inv_rankUnchecked (h : HWM c S codes t) (sym i : Nat) (hs : sym ∈ S)
    (hi : i ≤ S.length) : Huff.rankUnchecked c t sym i = .ok (Spec.rank sym i S) := by
  obtain ⟨p, hp⟩ := inv_rankGo h hs i hi
  unfold Huff.rankUnchecked
  simp only [lookupQ h hs, ok_bind, hp]
  rw [sub_ok (h := by omega), Nat.add_sub_cancel_left]

theorem inv_rank (h : HWM c S codes t) (sym i : Nat) :
    Huff.rank c t sym i =
      .ok (if sym ∈ S ∧ i ≤ S.length then some (Spec.rank sym i S) else none) := by
  unfold Huff.rank
  rw [h.n_eq, codeOfQ h]
  by_cases hc : sym ∈ S ∧ i ≤ S.length
  · rw [if_neg (Nat.not_lt.mpr hc.2), if_pos hc.1, if_pos hc]
    simp only [inv_rankUnchecked h sym i hc.1 hc.2, ok_bind]
    rfl
  · rw [if_neg hc]
    by_cases hi : i > S.length
    · rw [if_pos hi]; rfl
    · rw [if_neg hi, if_neg (fun hs => hc ⟨hs, Nat.le_of_not_lt hi⟩)]; rfl

theorem inv_select (h : HWM c S codes t) (sym k : Nat) :
    Huff.select c t sym k = .ok (if sym ∈ S then Spec.select sym k S else none) := by
  unfold Huff.select
  rw [codeOfQ h]
  by_cases hs : sym ∈ S
  · have hev := (h.code_bound sym).2.1
    have h2q := two_qlen hev
    have hd := selectDownQ_ok c h.qok h.levels hs hev (qlen codes sym) 0 (Nat.zero_add _)
    rw [h2q] at hd
    have hlen : S.length < two64 := Nat.lt_trans h.len_lt (by unfold two64; omega)
    have hu := selectUpQ_ok c h.levels hlen hs hev (qlen codes sym) 0 k (Nat.add_zero _)
    have hL1 : qlen codes sym ≠ 0 := by
      have := (h.mem_in sym hs).2; omega
    rw [selUpQ_spec h.qok (Or.inl hs) _ _ (Nat.le_refl _) (fun h0 => absurd h0 hL1),
      BinWM.select_map_eq _ sym S (fun x hx => agR_full h.qok hs hx)] at hu
    have hd' : selectDown c t codes[sym]! (codes[sym]!.len / 2 + 1) 0 0
        (Int.ofNat codes[sym]!.len - 2) [] =
        .ok (some (pathOfQ (qdig codes) (qlen codes) sym S (qlen codes sym))) := hd
    simp only [if_pos hs, hd', ok_bind, pathOfQ_length, hu]
  · simp only [if_neg hs]
    rfl

theorem inv_phase2 (h : HWM c S codes t) {sym : Nat} (hs : sym ∈ S) (i : Nat)
    (hi : i ≤ S.length) : pfsPhase2 c t codes[sym]! i = .ok () := by
  have hev := (h.code_bound sym).2.1
  have h2q := two_qlen hev
  have hL1 : 0 < qlen codes sym := by
    have := (h.mem_in sym hs).2; omega
  have h0 : 0 < t.qvs.size := by
    rw [h.levels.size_eq]; exact Nat.lt_of_lt_of_le hL1 (h.levels.len_le sym hs)
  have hcnt : cntP (qdig codes) (qlen codes) sym S 0 i = i := by
    rw [← cntR_eq_cntP h.qok hs hL1, cntR_zero _ _ _ _ _ hi]
  unfold pfsPhase2
  rw [idx_ok (h := h0), ok_bind]
  obtain ⟨m, hm⟩ : ∃ m, qlen codes sym = m + 1 := ⟨_, (Nat.succ_pred_eq_of_pos hL1).symm⟩
  have hgo := phase2Go_ok c h.qok h.levels hs hev i (qlen codes sym + 1) m 0 0 i
    (by rw [hm, Nat.zero_add]) (Nat.zero_le _) (by rw [hcnt]; exact Nat.le_add_left _ _)
  rw [← hm, h2q] at hgo
  exact hgo

/-- `rank_prefetch` answers like `rank` as soon as estimation phase 1 (the sampled counters of
    `PrefetchSupport`, only run when `pfs = true`) does not fault; phase 2 never faults -/
theorem inv_rankPrefetch_partial (h : HWM c S codes t) (sym i : Nat)
    (hph1 : c.pfs = true → sym ∈ S → i ≤ S.length → pfsPhase1 c t codes[sym]! i = .ok ()) :
    Huff.rankPrefetch c t sym i = Huff.rank c t sym i := by
  unfold Huff.rankPrefetch Huff.rank
  rw [h.n_eq, codeOfQ h]
  by_cases hi : i > S.length
  · rw [if_pos hi, if_pos hi]
  · rw [if_neg hi, if_neg hi]
    by_cases hs : sym ∈ S
    · simp only [if_pos hs]
      unfold Huff.rankPrefetchUnchecked
      simp only [lookupQ h hs, ok_bind, inv_phase2 h hs i (Nat.le_of_not_lt hi)]
      by_cases hp : c.pfs = true
      · simp only [hp, if_true, hph1 hp hs (Nat.le_of_not_lt hi), ok_bind]
      · simp only [hp, Bool.false_eq_true, if_false]
    · simp only [if_neg hs]

end inv

end Qwt.HQWM
