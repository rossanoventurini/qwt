import Qwt.Proofs.Codec

/-!
Property C11, structure level (leaves): for every serialisable leaf structure of the model a
schema `xTy`, an inverse `xOfVal` of `xVal`, a well-formedness predicate `xWF`, and
`xVal_hasTy`, `x_ofVal_toVal`.
-/
namespace Qwt.Codec
open Qwt

/-- fixed array `[T; n]` -/
def Ty.arr (n : Nat) (t : Ty) : Ty := .tup (List.replicate n t)

abbrev u64Ty : Ty := .num 8

theorem hasTy_num (b n : Nat) : HasTy (.num b n) (.num b) ↔ n < 256 ^ b := by
  simp [HasTy]

theorem hasTyAll_map (f : α → Val) (t : Ty) (l : List α) :
    HasTyAll (l.map f) t ↔ ∀ x ∈ l, HasTy (f x) t := by
  induction l with
  | nil => simp [HasTyAll]
  | cons x xs ih => simp [HasTyAll, ih]

theorem hasTyList_replicate (t : Ty) : ∀ (n : Nat) (vs : List Val),
    HasTyList vs (List.replicate n t) ↔ vs.length = n ∧ HasTyAll vs t
  | 0, [] => by simp [HasTyList, HasTyAll]
  | 0, _ :: _ => by simp [HasTyList]
  | n + 1, [] => by simp [HasTyList, List.replicate_succ]
  | n + 1, v :: vs => by
    simp [HasTyList, HasTyAll, List.replicate_succ, hasTyList_replicate t n vs, and_left_comm]

theorem hasTy_seq_map (f : α → Val) (t : Ty) (l : List α) :
    HasTy (.seq (l.map f)) (.seq t) ↔ (∀ x ∈ l, HasTy (f x) t) ∧ l.length < 2 ^ 64 := by
  simp [HasTy, hasTyAll_map, lengthVals_eq]

theorem hasTy_arr_map (f : α → Val) (t : Ty) (n : Nat) (l : List α) :
    HasTy (.tup (l.map f)) (Ty.arr n t) ↔ l.length = n ∧ ∀ x ∈ l, HasTy (f x) t := by
  simp [HasTy, Ty.arr, hasTyList_replicate, hasTyAll_map]

theorem hasTy_opt_map (f : α → Val) (t : Ty) (o : Option α) :
    HasTy (.opt (o.map f)) (.opt t) ↔ ∀ x, o = some x → HasTy (f x) t := by
  cases o with
  | none => exact ⟨fun _ _ e => (nomatch e), fun _ => trivial⟩
  | some a => exact ⟨fun h x e => by cases e; exact h, fun h => h a rfl⟩

theorem getD_lt_of_all {a : Array Nat} {B : Nat} (h : ∀ x ∈ a.toList, x < B) (hB : 0 < B)
    (i : Nat) : a.getD i 0 < B := by
  by_cases hi : i < a.size
  · have : a.getD i 0 = a[i] := by simp [Array.getD, hi]
    rw [this]; exact h _ (by simp)
  · have : a.getD i 0 = 0 := by simp [Array.getD, hi]
    rw [this]; exact hB

/-- `linesVal` with the name of the single field of the line struct as a parameter
    (`words` for the two `DataLine`s, `counters` for `SuperblockPlain`) -/
def linesValN (name : String) (wbytes k : Nat) (data : Array Nat) : Val :=
  .seq ((List.range (data.size / k)).map (fun l =>
    .struct [(name, .tup ((List.range k).map (fun w => .num wbytes (data.getD (k * l + w) 0))))]))

theorem linesVal_eq (wbytes k : Nat) (data : Array Nat) :
    linesVal wbytes k data = linesValN "words" wbytes k data := rfl

def lineTy (name : String) (wbytes k : Nat) : Ty := .struct [(name, Ty.arr k (.num wbytes))]
def linesTy (name : String) (wbytes k : Nat) : Ty := .seq (lineTy name wbytes k)

theorem linesValN_hasTy (name : String) (wbytes k : Nat) (data : Array Nat)
    (hb : ∀ x ∈ data.toList, x < 256 ^ wbytes)
    (hn : data.size / k < 2 ^ 64) :
    HasTy (linesValN name wbytes k data) (linesTy name wbytes k) := by
  unfold linesValN linesTy lineTy
  rw [hasTy_seq_map]
  refine ⟨?_, by simpa using hn⟩
  intro l _
  simp only [HasTy, HasTyFields, true_and, and_true]
  rw [hasTy_arr_map]
  refine ⟨by simp, ?_⟩
  intro w _
  rw [hasTy_num]
  exact getD_lt_of_all hb (Nat.pow_pos (by decide)) _

def mapOpt (f : Val → Option α) : List Val → Option (List α)
  | [] => some []
  | v :: vs =>
    match f v with
    | none => none
    | some x =>
      match mapOpt f vs with
      | none => none
      | some xs => some (x :: xs)

theorem mapOpt_map (f : Val → Option β) (g : α → Val) (h : α → β) (l : List α)
    (hh : ∀ x ∈ l, f (g x) = some (h x)) : mapOpt f (l.map g) = some (l.map h) := by
  induction l with
  | nil => rfl
  | cons x xs ih =>
    simp only [List.map_cons, mapOpt, hh x (by simp), ih (fun y hy => hh y (by simp [hy]))]

theorem mapOpt_map_id (f : Val → Option α) (g : α → Val) (l : List α)
    (hh : ∀ x ∈ l, f (g x) = some x) : mapOpt f (l.map g) = some l := by
  simpa using mapOpt_map f g id l hh

def numOf : Val → Option Nat
  | .num _ n => some n
  | _ => none

def intOf : Val → Option Int
  | .i64 i => some i
  | _ => none

def unitOf : Val → Option Unit
  | .unit => some ()
  | _ => none

/-- `Vec<T>` / `Box<[T]>` -/
def seqOf (f : Val → Option α) : Val → Option (Array α)
  | .seq vs => (mapOpt f vs).map List.toArray
  | _ => none

/-- `[T; n]` -/
def arrOf (n : Nat) (f : Val → Option α) : Val → Option (Array α)
  | .tup vs => if vs.length = n then (mapOpt f vs).map List.toArray else none
  | _ => none

def optOf (f : Val → Option α) : Val → Option (Option α)
  | .opt none => some none
  | .opt (some v) => (f v).map some
  | _ => none

/-- the field values of a struct whose field names are exactly `names` -/
def fieldsOf (names : List String) : Val → Option (List Val)
  | .struct fs => if fs.map (·.1) = names then some (fs.map (·.2)) else none
  | _ => none

theorem seqOf_map (f : Val → Option α) (g : α → Val) (a : Array α)
    (h : ∀ x ∈ a.toList, f (g x) = some x) : seqOf f (.seq (a.toList.map g)) = some a := by
  simp [seqOf, mapOpt_map_id f g _ h]

theorem arrOf_map (n : Nat) (f : Val → Option α) (g : α → Val) (a : Array α) (hn : a.size = n)
    (h : ∀ x ∈ a.toList, f (g x) = some x) : arrOf n f (.tup (a.toList.map g)) = some a := by
  simp [arrOf, mapOpt_map_id f g _ h, hn]

theorem optOf_map (f : Val → Option α) (g : α → Val) (o : Option α)
    (h : ∀ x, o = some x → f (g x) = some x) : optOf f (.opt (o.map g)) = some o := by
  cases o with
  | none => rfl
  | some x => simp [optOf, h x rfl]

theorem range_regroup {α : Type} (f : Nat → α) (k : Nat) : ∀ n : Nat,
    ((List.range n).map (fun l => (List.range k).map (fun w => f (k * l + w)))).flatten =
      (List.range (k * n)).map f
  | 0 => rfl
  | n + 1 => by
    rw [List.range_succ, List.map_append, List.flatten_append, range_regroup f k n, Nat.mul_succ,
      List.range_add, List.map_append, List.map_map]
    simp [Function.comp_def]

theorem map_getD_range (d : List Nat) : (List.range d.length).map (fun i => d.getD i 0) = d := by
  apply List.ext_getElem
  · simp
  · intro i h1 h2
    simp [List.getD, List.getElem?_eq_getElem h2]

theorem array_getD_toList (a : Array Nat) (i : Nat) : a.getD i 0 = a.toList.getD i 0 := by
  by_cases h : i < a.size <;> simp [Array.getD, List.getD, h]

/-- one line struct `{ name: [_; k] }` (`DataLine.words`, `SuperblockPlain.counters`) -/
def lineOf (name : String) (k : Nat) (v : Val) : Option (List Nat) :=
  match fieldsOf [name] v with
  | some [w] => (arrOf k numOf w).map Array.toList
  | _ => none

/-- `Box<[DataLine]>` → flat word array -/
def linesOf (name : String) (k : Nat) : Val → Option (Array Nat)
  | .seq ls => (mapOpt (lineOf name k) ls).map (fun xs => xs.flatten.toArray)
  | _ => none

/-- regrouping is invertible exactly because the flat array consists of whole lines -/
theorem linesOf_linesValN (name : String) (wbytes k : Nat) (data : Array Nat)
    (h : data.size % k = 0) : linesOf name k (linesValN name wbytes k data) = some data := by
  unfold linesValN linesOf
  have hm := mapOpt_map (lineOf name k)
    (fun l => Val.struct [(name, Val.tup ((List.range k).map
      (fun w => Val.num wbytes (data.getD (k * l + w) 0))))])
    (fun l => (List.range k).map (fun w => data.getD (k * l + w) 0))
    (List.range (data.size / k)) (by
      intro l _
      have := mapOpt_map numOf (fun w => Val.num wbytes (data.getD (k * l + w) 0))
        (fun w => data.getD (k * l + w) 0) (List.range k)
        (by intro w _; rfl)
      simpa [lineOf, fieldsOf, arrOf] using this)
  simp only [hm, Option.map_some]
  have hs : data.toList.length = k * (data.size / k) := by
    have := Nat.div_add_mod data.size k
    simp only [Array.length_toList]; omega
  simp only [array_getD_toList]
  rw [range_regroup (fun i => data.toList.getD i 0), ← hs, map_getD_range]

/-! The typing lemmas for arrays of numbers are stated for `Val.num b`: `u64`, `u32`, … unfold to
it when a lemma is applied with `exact`.  The inverses are used as rewrite rules, which do not
unfold, so `samples_ofVal` keeps the constructor `g` as a parameter. -/

theorem numSeq_hasTy (b : Nat) (a : Array Nat) (hn : a.size < 2 ^ 64)
    (hb : ∀ x ∈ a.toList, x < 256 ^ b) :
    HasTy (.seq (a.toList.map (.num b))) (.seq (.num b)) := by
  rw [hasTy_seq_map]
  exact ⟨fun x hx => (hasTy_num b x).2 (hb x hx), hn⟩

theorem numArr_hasTy (b n : Nat) (a : Array Nat) (hn : a.size = n)
    (hb : ∀ x ∈ a.toList, x < 256 ^ b) :
    HasTy (.tup (a.toList.map (.num b))) (Ty.arr n (.num b)) := by
  rw [hasTy_arr_map]
  exact ⟨hn, fun x hx => (hasTy_num b x).2 (hb x hx)⟩

/-- `[Box<[uN]>; n]` (the select samples): `n` boxed slices of numbers below `bound` -/
def samplesWF (n bound : Nat) (a : Array (Array Nat)) : Prop :=
  a.size = n ∧ ∀ s ∈ a.toList, s.size < 2 ^ 64 ∧ ∀ x ∈ s.toList, x < bound

instance (n bound : Nat) (a : Array (Array Nat)) : Decidable (samplesWF n bound a) := by
  unfold samplesWF; infer_instance

theorem samples_hasTy (b n : Nat) (a : Array (Array Nat)) (h : samplesWF n (256 ^ b) a) :
    HasTy (.tup (a.toList.map (fun s => Val.seq (s.toList.map (.num b)))))
      (Ty.arr n (.seq (.num b))) := by
  rw [hasTy_arr_map]
  exact ⟨h.1, fun s hs => numSeq_hasTy b s (h.2 s hs).1 (h.2 s hs).2⟩

theorem samples_ofVal (g : Nat → Val) (n : Nat) (hg : ∀ x, numOf (g x) = some x)
    (a : Array (Array Nat)) (hn : a.size = n) :
    arrOf n (seqOf numOf) (.tup (a.toList.map (fun s => Val.seq (s.toList.map g)))) = some a :=
  arrOf_map n (seqOf numOf) _ a hn (fun s _ => seqOf_map numOf g s (fun x _ => hg x))

def qvTy : Ty := .struct [("data", linesTy "words" 16 4), ("position", u64Ty)]

def qvOfVal (v : Val) : Option QV.QVector :=
  match fieldsOf ["data", "position"] v with
  | some [d, p] =>
    match linesOf "words" 4 d, numOf p with
    | some data, some position => some { data, position }
    | _, _ => none
  | _ => none

/-- the part of the representation invariant of `QVector` the codec needs: whole lines of
    four `u128` words, `usize` position -/
def qvWF (q : QV.QVector) : Prop :=
  q.data.size % 4 = 0 ∧ q.data.size / 4 < 2 ^ 64 ∧ (∀ x ∈ q.data.toList, x < 2 ^ 128) ∧
    q.position < 2 ^ 64

instance (q : QV.QVector) : Decidable (qvWF q) := by unfold qvWF; infer_instance

theorem qvVal_hasTy (q : QV.QVector) (h : qvWF q) : HasTy (qvVal q) qvTy := by
  obtain ⟨_, h2, h3, h4⟩ := h
  simp only [qvVal, qvTy, HasTy, HasTyFields, true_and, and_true, u64, u64Ty, linesVal_eq]
  -- here and in the structures below: the bounds `256 ^ b` of `HasTy` and the `2 ^ (8 * b)` of
  -- the `WF` predicates are the same numeral
  exact ⟨linesValN_hasTy _ 16 4 _ h3 h2, h4⟩

theorem qv_ofVal_toVal (q : QV.QVector) (h : qvWF q) : qvOfVal (qvVal q) = some q := by
  simp [qvOfVal, qvVal, fieldsOf, linesVal_eq, linesOf_linesValN _ 16 4 q.data h.1, numOf, u64]

def bvTy : Ty := .struct [("data", linesTy "words" 8 8), ("n_bits", u64Ty), ("n_ones", u64Ty)]

def bvOfVal (v : Val) : Option BV.BitVector :=
  match fieldsOf ["data", "n_bits", "n_ones"] v with
  | some [d, a, b] =>
    match linesOf "words" 8 d, numOf a, numOf b with
    | some data, some nBits, some nOnes => some { data, nBits, nOnes }
    | _, _, _ => none
  | _ => none

/-- whole lines of eight `u64` words, `usize` counters -/
def bvWF (b : BV.BitVector) : Prop :=
  b.data.size % 8 = 0 ∧ b.data.size / 8 < 2 ^ 64 ∧ (∀ x ∈ b.data.toList, x < 2 ^ 64) ∧
    b.nBits < 2 ^ 64 ∧ b.nOnes < 2 ^ 64

instance (b : BV.BitVector) : Decidable (bvWF b) := by unfold bvWF; infer_instance

theorem bvVal_hasTy (b : BV.BitVector) (h : bvWF b) : HasTy (bvVal b) bvTy := by
  obtain ⟨_, h2, h3, h4, h5⟩ := h
  simp only [bvVal, bvTy, HasTy, HasTyFields, true_and, and_true, u64, u64Ty, linesVal_eq]
  exact ⟨linesValN_hasTy _ 8 8 _ h3 h2, h4, h5⟩

theorem bv_ofVal_toVal (b : BV.BitVector) (h : bvWF b) : bvOfVal (bvVal b) = some b := by
  simp [bvOfVal, bvVal, fieldsOf, linesVal_eq, linesOf_linesValN _ 8 8 b.data h.1, numOf, u64]

def rssTy : Ty :=
  .struct [("superblocks", linesTy "counters" 16 4),
           ("select_samples", Ty.arr 4 (.seq (.num 4)))]

def rssOfVal (v : Val) : Option RSQ.RSSupportPlain :=
  match fieldsOf ["superblocks", "select_samples"] v with
  | some [s, t] =>
    match linesOf "counters" 4 s, arrOf 4 (seqOf numOf) t with
    | some superblocks, some selectSamples => some { superblocks, selectSamples }
    | _, _ => none
  | _ => none

/-- whole superblocks of four `u128` counters; four boxed slices of `u32` samples -/
def rssWF (rs : RSQ.RSSupportPlain) : Prop :=
  rs.superblocks.size % 4 = 0 ∧ rs.superblocks.size / 4 < 2 ^ 64 ∧
    (∀ x ∈ rs.superblocks.toList, x < 2 ^ 128) ∧ samplesWF 4 (2 ^ 32) rs.selectSamples

instance (rs : RSQ.RSSupportPlain) : Decidable (rssWF rs) := by unfold rssWF; infer_instance

theorem rsSupportVal_eq (rs : RSQ.RSSupportPlain) : rsSupportVal rs =
    .struct [("superblocks", linesValN "counters" 16 4 rs.superblocks),
             ("select_samples", .tup (rs.selectSamples.toList.map
                (fun s => Val.seq (s.toList.map u32))))] := rfl

theorem rsSupportVal_hasTy (rs : RSQ.RSSupportPlain) (h : rssWF rs) :
    HasTy (rsSupportVal rs) rssTy := by
  obtain ⟨_, h2, h3, h4⟩ := h
  simp only [rsSupportVal_eq, rssTy, HasTy, HasTyFields, true_and, and_true]
  exact ⟨linesValN_hasTy _ 16 4 _ h3 h2, samples_hasTy 4 4 _ h4⟩

theorem rss_ofVal_toVal (rs : RSQ.RSSupportPlain) (h : rssWF rs) :
    rssOfVal (rsSupportVal rs) = some rs := by
  obtain ⟨h1, _, _, ⟨h4, _⟩⟩ := h
  simp [rssOfVal, rsSupportVal_eq, fieldsOf, linesOf_linesValN _ 16 4 rs.superblocks h1,
    samples_ofVal u32 4 (fun _ => rfl) rs.selectSamples h4]

def rsqTy : Ty :=
  .struct [("qv", qvTy), ("rs_support", rssTy), ("n_occs_smaller", Ty.arr 5 u64Ty)]

def rsqOfVal (v : Val) : Option RSQ.RSQVector :=
  match fieldsOf ["qv", "rs_support", "n_occs_smaller"] v with
  | some [a, b, c] =>
    match qvOfVal a, rssOfVal b, arrOf 5 numOf c with
    | some qv, some rs, some nOccsSmaller => some { qv, rs, nOccsSmaller }
    | _, _, _ => none
  | _ => none

def rsqWF (r : RSQ.RSQVector) : Prop :=
  qvWF r.qv ∧ rssWF r.rs ∧ r.nOccsSmaller.size = 5 ∧ ∀ x ∈ r.nOccsSmaller.toList, x < 2 ^ 64

instance (r : RSQ.RSQVector) : Decidable (rsqWF r) := by unfold rsqWF; infer_instance

theorem rsqVal_hasTy (r : RSQ.RSQVector) (h : rsqWF r) : HasTy (rsqVal r) rsqTy := by
  obtain ⟨h1, h2, h3, h4⟩ := h
  simp only [rsqVal, rsqTy, HasTy, HasTyFields, true_and, and_true]
  exact ⟨qvVal_hasTy _ h1, rsSupportVal_hasTy _ h2, numArr_hasTy 8 5 _ h3 h4⟩

theorem rsq_ofVal_toVal (r : RSQ.RSQVector) (h : rsqWF r) : rsqOfVal (rsqVal r) = some r := by
  obtain ⟨h1, h2, h3, _⟩ := h
  simp [rsqOfVal, rsqVal, fieldsOf, qv_ofVal_toVal _ h1, rss_ofVal_toVal _ h2,
    arrOf_map 5 numOf u64 r.nOccsSmaller h3 (fun _ _ => rfl)]

def rsnTy : Ty :=
  .struct [("bv", bvTy), ("block_rank_pairs", .seq u64Ty),
           ("select_samples", Ty.arr 2 (.seq u64Ty))]

def rsnOfVal (v : Val) : Option RSN.RSNarrow :=
  match fieldsOf ["bv", "block_rank_pairs", "select_samples"] v with
  | some [a, b, c] =>
    match bvOfVal a, seqOf numOf b, arrOf 2 (seqOf numOf) c with
    | some bv, some blockRankPairs, some selectSamples =>
      some { bv, blockRankPairs, selectSamples }
    | _, _, _ => none
  | _ => none

def rsnWF (r : RSN.RSNarrow) : Prop :=
  bvWF r.bv ∧ r.blockRankPairs.size < 2 ^ 64 ∧ (∀ x ∈ r.blockRankPairs.toList, x < 2 ^ 64) ∧
    samplesWF 2 (2 ^ 64) r.selectSamples

instance (r : RSN.RSNarrow) : Decidable (rsnWF r) := by unfold rsnWF; infer_instance

theorem rsnVal_hasTy (r : RSN.RSNarrow) (h : rsnWF r) : HasTy (rsnVal r) rsnTy := by
  obtain ⟨h1, h2, h3, h4⟩ := h
  simp only [rsnVal, rsnTy, HasTy, HasTyFields, true_and, and_true]
  exact ⟨bvVal_hasTy _ h1, numSeq_hasTy 8 _ h2 h3, samples_hasTy 8 2 _ h4⟩

theorem rsn_ofVal_toVal (r : RSN.RSNarrow) (h : rsnWF r) : rsnOfVal (rsnVal r) = some r := by
  obtain ⟨h1, _, _, ⟨h4, _⟩⟩ := h
  simp [rsnOfVal, rsnVal, fieldsOf, bv_ofVal_toVal _ h1,
    seqOf_map numOf u64 r.blockRankPairs (fun _ _ => rfl),
    samples_ofVal u64 2 (fun _ => rfl) r.selectSamples h4]

def rswTy : Ty :=
  .struct [("bv", bvTy), ("superblock_metadata", .seq (.num 16)),
           ("select_samples", Ty.arr 2 (.seq u64Ty)), ("n_zeros", u64Ty)]

def rswOfVal (v : Val) : Option RSW.RSWide :=
  match fieldsOf ["bv", "superblock_metadata", "select_samples", "n_zeros"] v with
  | some [a, b, c, d] =>
    match bvOfVal a, seqOf numOf b, arrOf 2 (seqOf numOf) c, numOf d with
    | some bv, some superblockMetadata, some selectSamples, some nZeros =>
      some { bv, superblockMetadata, selectSamples, nZeros }
    | _, _, _, _ => none
  | _ => none

def rswWF (r : RSW.RSWide) : Prop :=
  bvWF r.bv ∧ r.superblockMetadata.size < 2 ^ 64 ∧
    (∀ x ∈ r.superblockMetadata.toList, x < 2 ^ 128) ∧
    samplesWF 2 (2 ^ 64) r.selectSamples ∧ r.nZeros < 2 ^ 64

instance (r : RSW.RSWide) : Decidable (rswWF r) := by unfold rswWF; infer_instance

theorem rswVal_hasTy (r : RSW.RSWide) (h : rswWF r) : HasTy (rswVal r) rswTy := by
  obtain ⟨h1, h2, h3, h4, h5⟩ := h
  simp only [rswVal, rswTy, HasTy, HasTyFields, true_and, and_true, u64]
  exact ⟨bvVal_hasTy _ h1, numSeq_hasTy 16 _ h2 h3, samples_hasTy 8 2 _ h4, h5⟩

theorem rsw_ofVal_toVal (r : RSW.RSWide) (h : rswWF r) : rswOfVal (rswVal r) = some r := by
  obtain ⟨h1, _, _, ⟨h4, _⟩, _⟩ := h
  simp [rswOfVal, rswVal, fieldsOf, bv_ofVal_toVal _ h1,
    seqOf_map numOf u128v r.superblockMetadata (fun _ _ => rfl),
    samples_ofVal u64 2 (fun _ => rfl) r.selectSamples h4, numOf, u64]

end Qwt.Codec
