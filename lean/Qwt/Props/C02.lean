import Qwt.Props.C02Craft
import Qwt.Proofs.HQWMBits
import Qwt.Proofs.NewInv

/-!
# C02 — the Huffman-shaped quad wavelet matrix `HuffQWaveletTree` (`src/quadwt/huffqwt.rs`,
model `Qwt.Huff.HQWT`) answers `get` / `rank` / `select` like the plain sequence

The code-construction half of the property (`craft_wm_codes` never faults on near-complete
lengths and returns a table that is `WMValid 4`) is in `Qwt/Props/C02Craft.lean`.  This file is
the tree half: for EVERY valid code table (`WMValid 4 codes occ`, `occ` = the symbols of `S`)
`Huff.new` succeeds and the tree answers every query like the list specification; composed
with `craft_no_fault` / `craft_valid` this gives `hqwt_correct` for every order of the length
table `lens` (every `HashMap` iteration order, every tie order) and every near-complete table.

Hypotheses (`c : Cfg`, `S : List Nat`):

* `hW   : c.W ≤ 64`                      the model narrows symbols with `as usize`
* `hb   : ∀ x ∈ S, x < 2 ^ c.W`          the elements fit the element type
* `hS   : S.length < 2 ^ 43`             the documented length limit of `RSQVector`
* `hL   : LevelLaw c.dbg c.B`            every level constructor yields a representing
                                         rank/select quad vector (C05/C13)
* `hP   : PfsTotalH c`                   only when `c.pfs = true`: `PrefetchSupport::new` is
                                         total on vectors produced by pushes (trivial for
                                         `c.pfs = false`: `pfsTotalH_of_false`)
* `hcraft`, `hv`, `hocc`                 the crafted table is valid for the symbols of `S`
-/

namespace Qwt.Props.C02
open Qwt Qwt.Huff
open Qwt.HQWM (HWM)

section main
variable (c : Cfg) (hW : c.W ≤ 64) (hL : LevelLaw c.dbg c.B) (hP : PfsTotalH c) (S : List Nat)
  (hne : S ≠ []) (hb : ∀ x ∈ S, x < 2 ^ c.W) (hS : S.length < 2 ^ 43) (lens : List (Nat × Nat))
  (codes : Array PrefixCode)
  (hcraft : Huff.craftWmCodes 4 lens (Utils.asUsize (Spec.maxNat S)) = .ok codes)
  (occ : List Nat) (hv : WMValid 4 codes occ) (hocc : ∀ s, s ∈ occ ↔ s ∈ S)
include hW hL hP hne hb hS hcraft hv hocc

/-- construction succeeds on every valid code table and establishes the invariant `HWM`
    (level `k` represents the digit list of the live elements, `t.lens[k]` is their number,
    the decode tables are `decodeTables codes maxLen`); the tree stores that table -/
theorem hqwt_new_ok :
    ∃ t, Huff.new c S.toArray lens = .ok t ∧ HWM c S codes t ∧ t.n = S.length ∧
      t.codesEncode = codes := by
  obtain ⟨t, h1, h2⟩ := HQWM.new_okQ c hW hL hP S hne hb hS lens codes hcraft occ hv hocc
  exact ⟨t, h1, h2, h2.n_eq, h2.codes_eq⟩

variable {t : HQWT} (ht : Huff.new c S.toArray lens = .ok t)
include ht

/-- the invariant holds for *the* tree returned by `new` -/
theorem hqwt_inv : HWM c S codes t :=
  of_exists_ok (HQWM.new_okQ c hW hL hP S hne hb hS lens codes hcraft occ hv hocc) ht

theorem hqwt_shape :
    t.nLevels = HQWM.maxLenOf codes / 2 ∧ t.qvs.size = t.nLevels ∧ t.lens.size = t.nLevels ∧
      t.codesDecode = decodeTables codes (HQWM.maxLenOf codes) ∧ (c.pfs = false → t.pfs = none) := by
  have h := hqwt_inv c hW hL hP S hne hb hS lens codes hcraft occ hv hocc ht
  exact ⟨h.nLevels_eq, h.levels.size_eq, h.levels.lens_size, h.dec_eq, h.pfs_none⟩

theorem hqwt_get_ok (i : Nat) : Huff.get c t i = .ok S[i]? :=
  HQWM.inv_get (hqwt_inv c hW hL hP S hne hb hS lens codes hcraft occ hv hocc ht) i

theorem hqwt_getUnchecked_ok (i : Nat) (hi : i < S.length) :
    Huff.getUnchecked c t i = .ok S[i] :=
  HQWM.inv_getUnchecked (hqwt_inv c hW hL hP S hne hb hS lens codes hcraft occ hv hocc ht) i hi

/-- `rank`, for every `sym` (also `sym ≥ 2^64`) and every `i`: `none` exactly for the symbols
    that do not occur (they have no code) and for `i > n` -/
theorem hqwt_rank_ok (sym i : Nat) :
    Huff.rank c t sym i =
      .ok (if sym ∈ S ∧ i ≤ S.length then some (Spec.rank sym i S) else none) :=
  HQWM.inv_rank (hqwt_inv c hW hL hP S hne hb hS lens codes hcraft occ hv hocc ht) sym i

theorem hqwt_rankUnchecked_ok (sym i : Nat) (hs : sym ∈ S) (hi : i ≤ S.length) :
    Huff.rankUnchecked c t sym i = .ok (Spec.rank sym i S) :=
  HQWM.inv_rankUnchecked (hqwt_inv c hW hL hP S hne hb hS lens codes hcraft occ hv hocc ht)
    sym i hs hi

theorem hqwt_select_ok (sym k : Nat) :
    Huff.select c t sym k = .ok (if sym ∈ S then Spec.select sym k S else none) :=
  HQWM.inv_select (hqwt_inv c hW hL hP S hne hb hS lens codes hcraft occ hv hocc ht) sym k

/-- a symbol that does not occur is never confused with another one (whatever its size) -/
theorem hqwt_no_confusion (sym k : Nat) (hs : sym ∉ S) :
    Huff.select c t sym k = .ok none := by
  rw [hqwt_select_ok c hW hL hP S hne hb hS lens codes hcraft occ hv hocc ht, if_neg hs]

theorem hqwt_selectUnchecked_ok (sym k p : Nat) (hp : Spec.select sym k S = some p) :
    Huff.selectUnchecked c t sym k = .ok p := by
  have hs : sym ∈ S := by
    apply Classical.byContradiction
    intro hns
    have : S.count sym = 0 := List.count_eq_zero.mpr hns
    rw [BinWM.select_none (by omega)] at hp
    cases hp
  unfold Huff.selectUnchecked
  rw [hqwt_select_ok c hW hL hP S hne hb hS lens codes hcraft occ hv hocc ht, if_pos hs, hp]
  rfl

/-- the levels store, in total, one two-bit symbol per element and code fragment:
    `2 · Σ_k lens[k] = Σ_{x ∈ S} len(code x)` (in bits) -/
theorem hqwt_level_bits :
    2 * t.lens.toList.sum = (S.map (fun x => codes[x]!.len)).sum :=
  HQWM.inv_level_bits (hqwt_inv c hW hL hP S hne hb hS lens codes hcraft occ hv hocc ht)

/-- With prefetch support: `rank_prefetch` answers like `rank` provided estimation phase 1 — the
    sampled counters of `PrefetchSupport` — does not fault on in-range arguments
    (`Props/C09Huff.lean` proves that it does not).  Phase 2 (block counters) is proved fault-free here. -/
theorem hqwt_rankPrefetch_eq_rank_partial (sym i : Nat)
    (hph1 : c.pfs = true → sym ∈ S → i ≤ S.length →
      Huff.pfsPhase1 c t codes[sym]! i = .ok ()) :
    Huff.rankPrefetch c t sym i = Huff.rank c t sym i :=
  HQWM.inv_rankPrefetch_partial
    (hqwt_inv c hW hL hP S hne hb hS lens codes hcraft occ hv hocc ht) sym i hph1

/-- without prefetch support `rank_prefetch` runs only estimation phase 2, which never faults,
    and then answers like `rank` -/
theorem hqwt_rankPrefetch_eq_rank (hpfs : c.pfs = false) (sym i : Nat) :
    Huff.rankPrefetch c t sym i = Huff.rank c t sym i :=
  hqwt_rankPrefetch_eq_rank_partial c hW hL hP S hne hb hS lens codes hcraft occ hv hocc ht sym i
    (fun h => by rw [hpfs] at h; cases h)

theorem hqwt_rankPrefetch_ok (hpfs : c.pfs = false) (sym i : Nat) :
    Huff.rankPrefetch c t sym i =
      .ok (if sym ∈ S ∧ i ≤ S.length then some (Spec.rank sym i S) else none) := by
  rw [hqwt_rankPrefetch_eq_rank c hW hL hP S hne hb hS lens codes hcraft occ hv hocc ht hpfs]
  exact hqwt_rank_ok c hW hL hP S hne hb hS lens codes hcraft occ hv hocc ht sym i

end main

/-- on the empty sequence every query answers `None` -/
theorem hqwt_empty (c : Cfg) (lens : List (Nat × Nat)) {t : HQWT}
    (ht : Huff.new c #[] lens = .ok t) (sym i : Nat) :
    t.n = 0 ∧ t.nLevels = 0 ∧ Huff.get c t i = .ok none ∧ Huff.rank c t sym i = .ok none ∧
      Huff.rankPrefetch c t sym i = .ok none ∧ Huff.select c t sym i = .ok none := by
  obtain ⟨d, _, rfl⟩ := Huff.new_inv_empty rfl ht
  have hcode : codeOf { n := 0, nLevels := 0, qvs := #[d], lens := #[0] } sym = none := by
    unfold codeOf
    split
    · rfl
    · simp
  refine ⟨rfl, rfl, rfl, ?_, ?_, ?_⟩
  · unfold Huff.rank
    by_cases hi : i > 0
    · simp only [hi, if_true]; rfl
    · simp only [hi, if_false, hcode]; rfl
  · unfold Huff.rankPrefetch
    by_cases hi : i > 0
    · simp only [hi, if_true]; rfl
    · simp only [hi, if_false, hcode]; rfl
  · unfold Huff.select
    simp only [hcode]
    rfl

/-- under `LevelLaw` the construction on the empty sequence succeeds -/
theorem hqwt_empty_new_ok (c : Cfg) (hL : LevelLaw c.dbg c.B) (lens : List (Nat × Nat)) :
    ∃ t, Huff.new c #[] lens = .ok t := by
  refine ⟨{ n := 0, nLevels := 0, qvs := #[QWTree.dfltRSQ], lens := #[0] }, ?_⟩
  simp [Huff.new, QWTree.default_ok (QWTree.levelLaw_B hL), bind, Except.bind, pure, Except.pure]

/-- For EVERY near-complete length table `lens` (`LensOK 4`, in particular duplicate-free) that
    enumerates exactly the symbols of `S` — in any order, hence for every `HashMap` iteration
    order and every tie order of the stable sort — `craft_wm_codes` succeeds, `new` succeeds
    and the tree answers `get` / `rank` / `select` like the list specification. -/
theorem hqwt_correct (c : Cfg) (hW : c.W ≤ 64) (hL : LevelLaw c.dbg c.B) (hP : PfsTotalH c)
    (S : List Nat) (hne : S ≠ []) (hb : ∀ x ∈ S, x < 2 ^ c.W) (hS : S.length < 2 ^ 43)
    (lens : List (Nat × Nat)) (hlens : LensOK 4 lens)
    (hsyms : ∀ s, s ∈ lens.map (·.1) ↔ s ∈ S) :
    ∃ codes t, Huff.craftWmCodes 4 lens (Utils.asUsize (Spec.maxNat S)) = .ok codes ∧
      WMValid 4 codes (lens.map (·.1)) ∧
      Huff.new c S.toArray lens = .ok t ∧ HWM c S codes t ∧
      (∀ i, Huff.get c t i = .ok S[i]?) ∧
      (∀ sym i, Huff.rank c t sym i =
        .ok (if sym ∈ S ∧ i ≤ S.length then some (Spec.rank sym i S) else none)) ∧
      (∀ sym k, Huff.select c t sym k = .ok (if sym ∈ S then Spec.select sym k S else none)) ∧
      (∀ p ∈ lens, codes[p.1]!.len = 2 * p.2) ∧
      2 * t.lens.toList.sum = (S.map (fun x => codes[x]!.len)).sum := by
  have hmax : Spec.maxNat S < two64 := BinWM.lt_two64 hW (Spec.maxNat_lt (Nat.two_pow_pos _) hb)
  have hsig : Utils.asUsize (Spec.maxNat S) = Spec.maxNat S := Nat.mod_eq_of_lt hmax
  have hs : ∀ p ∈ lens, p.1 ≤ Utils.asUsize (Spec.maxNat S) := by
    intro p hp
    rw [hsig]
    exact Spec.le_maxNat ((hsyms p.1).mp (List.mem_map.mpr ⟨p, hp, rfl⟩))
  obtain ⟨codes, hcraft⟩ := craft_no_fault (Or.inl rfl) hlens hs
  have hv := craft_valid (Or.inl rfl) hlens hs hcraft
  have hlen := (craft_lens (Or.inl rfl) hlens hs hcraft).2.1
  obtain ⟨t, ht, hinv, _, _⟩ :=
    hqwt_new_ok c hW hL hP S hne hb hS lens codes hcraft _ hv hsyms
  refine ⟨codes, t, hcraft, hv, ht, hinv,
    fun i => HQWM.inv_get hinv i, fun sym i => HQWM.inv_rank hinv sym i,
    fun sym k => HQWM.inv_select hinv sym k, ?_, HQWM.inv_level_bits hinv⟩
  intro p hp
  rw [hlen p hp]; rfl

section examples

/-- a 3-level Huffman-shaped example over `u8`: ten symbols with code lengths (in fragments)
    1,1,1,2,2,2,3,3,3,3 (a complete quad tree), given in an order that interleaves them -/
def exS : List Nat := [0, 1, 2, 3, 4, 5, 6, 7, 8, 9, 0, 3, 1, 0, 2, 9]
def exLens : List (Nat × Nat) :=
  [(0,1), (1,2), (2,3), (3,1), (4,2), (5,3), (6,1), (7,2), (8,3), (9,3)]
def exC : Cfg := { W := 8 }
def exCodes : Array PrefixCode :=
  #[⟨3, 2⟩, ⟨3, 4⟩, ⟨3, 6⟩, ⟨2, 2⟩, ⟨2, 4⟩, ⟨2, 6⟩, ⟨1, 2⟩, ⟨1, 4⟩, ⟨1, 6⟩, ⟨0, 6⟩]

/-- the hypotheses of `hqwt_correct` (other than `LevelLaw`) hold for it -/
theorem exLensOK : LensOK 4 exLens := ⟨by decide, by decide, by decide, by decide, by decide⟩

theorem exSyms : ∀ s, s ∈ exLens.map (·.1) ↔ s ∈ exS := by
  intro s
  simp only [exLens, exS, List.map_cons, List.map_nil, List.mem_cons, List.not_mem_nil, or_false]
  omega

example : exC.W ≤ 64 ∧ exS ≠ [] ∧ (∀ x ∈ exS, x < 2 ^ exC.W) ∧ exS.length < 2 ^ 43 ∧
    PfsTotalH exC := ⟨by decide, by decide, by decide, by decide, pfsTotalH_of_false rfl⟩

/-- the table `craft_wm_codes` returns for it (evaluated) … -/
theorem exCraft : Huff.craftWmCodes 4 exLens (Utils.asUsize (Spec.maxNat exS)) = .ok exCodes := by
  decide +kernel

/-- … is valid, through the theorem of `C02Craft` -/
theorem exCodes_valid : WMValid 4 exCodes (exLens.map (·.1)) :=
  craft_valid (Or.inl rfl) exLensOK (by decide) exCraft

/-- the theorems instantiate on it: a tree with three levels holding 16, 10 and 6 symbols -/
example (hL : LevelLaw exC.dbg exC.B) : ∃ t, Huff.new exC exS.toArray exLens = .ok t ∧
    t.codesEncode = exCodes ∧ t.nLevels = 3 ∧ 2 * t.lens.toList.sum = 64 ∧
    Huff.get exC t 8 = .ok (some 8) ∧
    Huff.rank exC t 0 14 = .ok (some 3) ∧
    Huff.rank exC t 10 3 = .ok none ∧
    Huff.select exC t 9 1 = .ok (some 15) ∧
    Huff.select exC t 9 2 = .ok none ∧
    Huff.select exC t (2 ^ 64 + 1) 0 = .ok none ∧
    Huff.rankPrefetch exC t 3 12 = .ok (some 2) := by
  obtain ⟨t, ht, h, -, hc⟩ := hqwt_new_ok exC (by decide) hL (pfsTotalH_of_false rfl) exS (by decide)
    (by decide) (by decide) exLens exCodes exCraft _ exCodes_valid exSyms
  refine ⟨t, ht, hc, ?_, ?_, ?_, ?_, ?_, ?_, ?_, ?_, ?_⟩
  · rw [h.nLevels_eq]; decide
  · rw [HQWM.inv_level_bits h]; decide
  · rw [HQWM.inv_get h]; rfl
  · rw [HQWM.inv_rank h]; exact congrArg Except.ok (by decide)
  · rw [HQWM.inv_rank h]; exact congrArg Except.ok (by decide)
  · rw [HQWM.inv_select h]; exact congrArg Except.ok (by decide)
  · rw [HQWM.inv_select h]; exact congrArg Except.ok (by decide)
  · rw [HQWM.inv_select h]; exact congrArg Except.ok (by decide)
  · rw [HQWM.inv_rankPrefetch_partial h _ _ (fun hp => by cases hp), HQWM.inv_rank h]
    exact congrArg Except.ok (by decide)

/-- the composed corollary instantiates on it (no hypothesis on the code table left) -/
example (hL : LevelLaw exC.dbg exC.B) : ∃ codes t,
    Huff.craftWmCodes 4 exLens (Utils.asUsize (Spec.maxNat exS)) = .ok codes ∧
    Huff.new exC exS.toArray exLens = .ok t ∧ ∀ i, Huff.get exC t i = .ok exS[i]? := by
  obtain ⟨codes, t, h1, -, h2, -, h3, -⟩ := hqwt_correct exC (by decide) hL
    (pfsTotalH_of_false rfl) exS (by decide) (by decide) (by decide) exLens exLensOK exSyms
  exact ⟨codes, t, h1, h2, h3⟩

/-- the list-level matrix of the example: live elements and digit lists of the three levels -/
example : (List.range 3).map (fun k => HQWM.digsQ (HQWM.qdig exCodes) (HQWM.qlen exCodes) k exS) =
    [[3, 0, 0, 2, 0, 0, 1, 0, 0, 0, 3, 2, 0, 3, 0, 0],
     [3, 0, 2, 0, 1, 0, 0, 3, 0, 0],
     [3, 2, 1, 0, 3, 0]] := by decide +kernel

example : (List.range 3).map (fun k => HQWM.lvlQ (HQWM.qdig exCodes) (HQWM.qlen exCodes) k exS) =
    [[0, 1, 2, 3, 4, 5, 6, 7, 8, 9, 0, 3, 1, 0, 2, 9], [1, 2, 4, 5, 7, 8, 9, 1, 2, 9],
     [2, 5, 8, 9, 2, 9]] := by decide +kernel

/-- the model itself, evaluated (no hypothesis): every `get`, `rank`, `select`, `rank_prefetch`
    on the tiny tree agrees with the list specification, including symbols without a code -/
example : (List.range 18).all (fun i =>
    Out.ofOpt (do let t ← Huff.new exC exS.toArray exLens; Huff.get exC t i)
      == Out.ofOpt (.ok exS[i]?)) = true := by decide +kernel

example : (List.range 12).all (fun sym => (List.range 18).all (fun i =>
    Out.ofOpt (do let t ← Huff.new exC exS.toArray exLens; Huff.rank exC t sym i)
      == Out.ofOpt (.ok (if sym ∈ exS ∧ i ≤ exS.length
            then some (Spec.rank sym i exS) else none)))) = true := by decide +kernel

example : (List.range 12).all (fun sym => (List.range 18).all (fun i =>
    Out.ofOpt (do let t ← Huff.new exC exS.toArray exLens; Huff.rankPrefetch exC t sym i)
      == Out.ofOpt (.ok (if sym ∈ exS ∧ i ≤ exS.length
            then some (Spec.rank sym i exS) else none)))) = true := by decide +kernel

example : (List.range 12).all (fun sym => (List.range 5).all (fun k =>
    Out.ofOpt (do let t ← Huff.new exC exS.toArray exLens; Huff.select exC t sym k)
      == Out.ofOpt (.ok (if sym ∈ exS then Spec.select sym k exS else none)))) = true := by
  decide +kernel

/-- a different order of the same length table (another `HashMap` iteration order) gives a
    different code table but the same answers -/
example : (List.range 18).all (fun i =>
    Out.ofOpt (do let t ← Huff.new exC exS.toArray exLens.reverse; Huff.get exC t i)
      == Out.ofOpt (.ok exS[i]?)) = true := by decide +kernel

/-- the empty tree -/
example : (do let t ← Huff.new exC #[] []; Huff.select exC t 0 0) = .ok none := by decide +kernel

end examples

end Qwt.Props.C02
