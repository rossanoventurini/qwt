import Qwt.Proofs.PfsTree
import Qwt.Proofs.PfsHuff
import Qwt.Props.C05
import Qwt.Props.C17

/-!
# C09 — prefetching never changes an answer or causes a fault (quad wavelet trees)

Model under verification: `Qwt.PFS` (`src/quadwt/prefetch_support.rs`) and
`QWTree.pfsPhase1 / pfsPhase2 / rankPrefetch` (`src/quadwt/mod.rs`).

## The sampling structure

`rate = 2 ^ pfsSampleShift` (`PfsP.rate`; the crate has `pfsSampleShift = 11`, `rate = 2048`: the
`…_2048` corollaries are the literal forms).  `nb n`, `cov n j` (`PfsP.nbOf`, `PfsP.covered`, explained
in `Qwt/Proofs/PfsArith.lean`) are the number of bits of a sample vector and the number of elements the
first `j` bits cover; the number of ones among the first `j` bits of the vector of symbol `k` is
`⌊rank k (cov n j) / rate⌋` (`PfsInv`).  Consequently

  `approx_rank(tb, p) = rate · ⌊rank tb (cov n (⌊p/rate⌋+1)) / rate⌋`
                     `≤ rank tb (min (p+1) n) ≤ min (rank tb p + 1) (count tb)`.

## Why phase 1 cannot fault

`approx_rank(tb, p)` unwraps `rank1(sample, ⌊p/rate⌋ + 1)`, which is `Some` iff the level is
non-empty and `⌊p/rate⌋ + 1 ≤ nb n`; this holds for every `p ≤ n` (`approx_rank_in_range`).
The estimated range `(s, e)` of phase 1 satisfies `s ≤ e ≤ n` at every level:
`approx(tb, e) + occs_smaller(tb) ≤ count tb + occs_smaller tb ≤ n` (all levels of the plain
tree have the same length `n = |S| ≥ 1`), and `approx` is monotone (so the final
`range.end - range.start` does not underflow).

## Hypotheses

The sampling structure is built from the vector produced by the push loop, which satisfies the C13
invariant, so no totality premise on `PrefetchSupport::new` is needed (`PfsTotal` of
`Qwt/Proofs/QWT.lean` cannot be met for `c.pfs = true`); `LevelLaw` is discharged by C05 + C17.
The hypotheses of the theorems on the tree are about the configuration and the input only.
-/
namespace Qwt.Props.C09
open Qwt Qwt.QWTree Qwt.Spec Qwt.PfsP

abbrev nb (n : Nat) : Nat := PfsP.nbOf n
abbrev cov (n j : Nat) : Nat := PfsP.covered n j

theorem rate_def : rate = 2 ^ Extracted.pfsSampleShift := rfl

theorem nb_def (n : Nat) : nb n = if n = 0 then 0 else
    (n + 2 ^ Extracted.pfsSampleShift - 2) / 2 ^ Extracted.pfsSampleShift + 1 := rfl
theorem cov_def (n j : Nat) : cov n j = if j = 0 then 0 else
    min (2 ^ Extracted.pfsSampleShift * (j - 1) + 1) n := rfl

/-- the literal forms, for the shift `11` (`rate = 2048`, `PfsP.rate_2048`) -/
theorem nb_def_2048 (h11 : Extracted.pfsSampleShift = 11) (n : Nat) :
    nb n = if n = 0 then 0 else (n + 2046) / 2048 + 1 := by
  rw [nb, nbOf, rate_2048 h11, Nat.add_sub_assoc (by decide : 2 ≤ 2048)]
theorem cov_def_2048 (h11 : Extracted.pfsSampleShift = 11) (n j : Nat) :
    cov n j = if j = 0 then 0 else min (2048 * (j - 1) + 1) n := by
  rw [cov, covered, rate_2048 h11]

/-- the invariant established by `PrefetchSupport::new qv pfsSampleShift`: shift, four sample vectors, each
    an `RSNarrow` over a bit list `bits` of length `nb n` whose prefix ranks are the sampled
    prefix ranks of the level -/
def PfsInv (qv : QV.QVector) (p : PFS.PrefetchSupport) : Prop := PfsRep (QV.abs qv) p

theorem pfsInv_iff (qv : QV.QVector) (p : PFS.PrefetchSupport) :
    PfsInv qv p ↔ (p.sampleRateShift = Extracted.pfsSampleShift ∧ p.samples.size = 4 ∧
      ∀ k, k < 4 → ∃ r bits, p.samples[k]? = some r ∧ RSN.Inv r bits ∧
        bits.length = nb (QV.abs qv).length ∧
        ∀ j, j ≤ nb (QV.abs qv).length →
          Spec.rank true j bits = Spec.rank k (cov (QV.abs qv).length j) (QV.abs qv) / rate) :=
  ⟨fun h => ⟨h.shift, h.size, h.sample⟩, fun ⟨a, b, c⟩ => ⟨a, b, c⟩⟩

/-- totality of `PrefetchSupport::new` on every well-formed quad vector below the length limit -/
theorem pfs_new_ok (qv : QV.QVector) (h : QV.Inv qv) (hl : QV.len qv < 2 ^ 43) :
    ∃ p, PFS.new qv Extracted.pfsSampleShift = .ok p ∧ PfsInv qv p :=
  PfsP.new_ok_of_len qv h hl

/-- (the bound actually needed is `len + 1 < 2^64`) -/
theorem pfs_new_ok' (qv : QV.QVector) (h : QV.Inv qv) (hl : (QV.abs qv).length + 1 < two64) :
    ∃ p, PFS.new qv Extracted.pfsSampleShift = .ok p ∧ PfsInv qv p := PfsP.new_ok qv h hl

theorem pfs_new_ok'_11 (h11 : Extracted.pfsSampleShift = 11) (qv : QV.QVector) (h : QV.Inv qv)
    (hl : (QV.abs qv).length + 1 < two64) : ∃ p, PFS.new qv 11 = .ok p ∧ PfsInv qv p := by
  have := pfs_new_ok' qv h hl
  rwa [h11] at this

/-- the meaning of a single sample bit: bit `j` of the vector of symbol `k` is set iff the
    running count of `k` passes a multiple of rate inside the chunk covered by bit `j` -/
theorem pfs_sample_bit {qv : QV.QVector} {p : PFS.PrefetchSupport} (h : PfsInv qv p) (k : Nat)
    (hk : k < 4) : ∃ r bits, p.samples[k]? = some r ∧ RSN.Inv r bits ∧
      bits.length = nb (QV.abs qv).length ∧
      ∀ j, j < nb (QV.abs qv).length →
        bits[j]? = some (decide (Spec.rank k (cov (QV.abs qv).length j) (QV.abs qv) / rate <
          Spec.rank k (cov (QV.abs qv).length (j + 1)) (QV.abs qv) / rate)) := by
  obtain ⟨r, bits, h1, h2, hlen, hpre⟩ := h.sample k hk
  refine ⟨r, bits, h1, h2, hlen, fun j hj => ?_⟩
  have hj' : j < bits.length := hlen ▸ hj
  have h := RSBin.rank_succ true bits j
  rw [hpre j (Nat.le_of_lt hj), hpre (j + 1) hj, List.getElem?_eq_getElem hj'] at h
  rw [List.getElem?_eq_getElem hj', h]
  cases bits[j] <;> simp

/-- inside the sample vectors `approx_rank_unchecked` does not fault; its value is the sampled
    rank at the end of the chunk of `pos`, a lower estimate of `rank tb pos` up to one element,
    and never more than the number of occurrences of `tb` -/
theorem approx_rank_ok {qv : QV.QVector} {p : PFS.PrefetchSupport} (h : PfsInv qv p)
    {tb pos : Nat} (htb : tb < 4) (hpos : pos / rate + 1 ≤ nb (QV.abs qv).length) :
    ∃ v, PFS.approxRankUnchecked p tb pos = .ok v ∧
      v = Spec.rank tb (cov (QV.abs qv).length (pos / rate + 1)) (QV.abs qv) / rate * rate ∧
      v ≤ Spec.rank tb (cov (QV.abs qv).length (pos / rate + 1)) (QV.abs qv) ∧
      v ≤ Spec.rank tb pos (QV.abs qv) + 1 ∧ v ≤ (QV.abs qv).count tb :=
  ⟨_, approx_ok h htb hpos, rfl, approxSpec_le_rank _ _ _, approxSpec_le_succ _ _ _,
    approxSpec_le_count _ _ _⟩

/-- every position `pos ≤ len` of a non-empty level is inside the sample vectors -/
theorem approx_rank_in_range {n pos : Nat} (hn : 0 < n) (hpos : pos ≤ n) : pos / rate + 1 ≤ nb n :=
  block_in_range hn hpos

theorem approx_rank_in_range_2048 (h11 : Extracted.pfsSampleShift = 11) {n pos : Nat} (hn : 0 < n)
    (hpos : pos ≤ n) : pos / 2048 + 1 ≤ nb n := by
  have := approx_rank_in_range hn hpos
  rwa [rate_2048 h11] at this

/-- outside, it faults: the `unwrap` of `rank1 = None` (sharpness of the range condition) -/
theorem approx_rank_fault {qv : QV.QVector} {p : PFS.PrefetchSupport} (h : PfsInv qv p)
    {tb pos : Nat} (htb : tb < 4) (hpos : ¬ pos / rate + 1 ≤ nb (QV.abs qv).length) :
    PFS.approxRankUnchecked p tb pos = .error .unwrapNone := by
  rw [approx_eq h htb, if_neg hpos]

/-- `approx_rank_ok` in literal form, for the shift `11` -/
theorem approx_rank_ok_2048 (h11 : Extracted.pfsSampleShift = 11) {qv : QV.QVector}
    {p : PFS.PrefetchSupport} (h : PfsInv qv p)
    {tb pos : Nat} (htb : tb < 4) (hpos : pos / 2048 + 1 ≤ nb (QV.abs qv).length) :
    ∃ v, PFS.approxRankUnchecked p tb pos = .ok v ∧
      v = Spec.rank tb (cov (QV.abs qv).length (pos / 2048 + 1)) (QV.abs qv) / 2048 * 2048 ∧
      v ≤ Spec.rank tb (cov (QV.abs qv).length (pos / 2048 + 1)) (QV.abs qv) ∧
      v ≤ Spec.rank tb pos (QV.abs qv) + 1 ∧ v ≤ (QV.abs qv).count tb := by
  have := approx_rank_ok h htb (pos := pos) (by rw [rate_2048 h11]; exact hpos)
  rwa [rate_2048 h11] at this

theorem approx_rank_mono (L : List Nat) (tb : Nat) {p q : Nat} (h : p ≤ q) :
    approxSpec L tb p ≤ approxSpec L tb q := approxSpec_mono L tb h

/-- C05 + C17: the level contract holds for both block sizes -/
theorem levelLaw (dbg : Bool) {B : Nat} (hB : B = 256 ∨ B = 512) : LevelLaw dbg B :=
  C05.levelLaw (fun w k hw hk => C17.select_in_word_u128_ok w k hw hk) dbg hB

theorem pfsTotal' (c : Cfg) : PfsTotal' c := fun _ qv hq hl =>
  (PfsP.new_ok_of_len qv hq hl).imp fun _ h => h.1

section tree
variable {c : Cfg} {S : List Nat} {t : QWT}

/-- construction never faults (both `pfs` settings) and establishes the invariants `WM`
    (levels) and `PfsLevels` (one `PfsRep` per level, when `c.pfs = true`) -/
theorem new_ok (c : Cfg) (S : List Nat) (hB : c.B = 256 ∨ c.B = 512) (hW : 0 < c.W)
    (hS : ∀ x ∈ S, x < 2 ^ c.W) (hlen : S.length < 2 ^ 43) :
    ∃ t, QWTree.new c S.toArray = .ok t ∧ t.n = S.length ∧
      (S ≠ [] → t.sigma = Spec.maxNat S ∧
        t.nLevels = (Spec.bitlen (Spec.maxNat S) + 1) / 2) ∧
      (c.pfs = true → S ≠ [] → ∃ pfs, t.pfs = some pfs ∧ PfsLevels pfs 0 t.nLevels S) ∧
      WMP c S t := by
  obtain ⟨t, ht, h⟩ := new_wmp c hW S hS hlen (levelLaw c.dbg hB)
  exact ⟨t, ht, h.wm.n_eq, fun hne => ⟨h.wm.sigma_eq, h.wm.nLevels_eq hne⟩, h.pfs, h⟩

theorem wmp_of_new (hB : c.B = 256 ∨ c.B = 512) (hW : 0 < c.W) (hS : ∀ x ∈ S, x < 2 ^ c.W)
    (hlen : S.length < 2 ^ 43) (hnew : QWTree.new c S.toArray = .ok t) : WMP c S t :=
  of_exists_ok (new_wmp c hW S hS hlen (levelLaw c.dbg hB)) hnew

/-- what `PfsLevels` says: the sampling structure of level `k` describes the `k`-th digit list
    of the wavelet matrix -/
theorem pfsLevels_wmLevels {pfs : Array PFS.PrefetchSupport} :
    ∀ (f level : Nat) (s : List Nat), PfsLevels pfs level f s →
      ∀ (k : Nat) (D : List Nat), (WM.wmLevels f s)[k]? = some D →
        ∃ p, pfs[level + k]? = some p ∧ PfsRep D p := by
  intro f
  induction f with
  | zero => intro level s _ k D hD; cases hD
  | succ f ih =>
    intro level s h k D hD
    obtain ⟨⟨p, hp, hP⟩, hrest⟩ := h
    cases k with
    | zero => cases hD; exact ⟨p, hp, hP⟩
    | succ k =>
      obtain ⟨p', hp', hP'⟩ := ih (level + 1) _ hrest k D hD
      exact ⟨p', by rw [← Nat.add_assoc, Nat.add_right_comm]; exact hp', hP'⟩

/-- estimation phase 1 (`rank_prefetch_superblocks_unchecked`) never faults: every symbol
    (valid or not), every position `i ≤ |S|`, both `pfs` settings, the empty tree included -/
theorem pfsPhase1_ok (hB : c.B = 256 ∨ c.B = 512) (hW : 0 < c.W) (hS : ∀ x ∈ S, x < 2 ^ c.W)
    (hlen : S.length < 2 ^ 43) (hnew : QWTree.new c S.toArray = .ok t) (sym i : Nat)
    (hi : i ≤ S.length) : QWTree.pfsPhase1 c t sym i = .ok () :=
  (wmp_of_new hB hW hS hlen hnew).pfsPhase1_ok hW hS sym i hi

theorem get_ok (hB : c.B = 256 ∨ c.B = 512) (hW : 0 < c.W) (hS : ∀ x ∈ S, x < 2 ^ c.W)
    (hlen : S.length < 2 ^ 43) (hnew : QWTree.new c S.toArray = .ok t) (i : Nat) :
    QWTree.get c t i = .ok S[i]? :=
  (wmp_of_new hB hW hS hlen hnew).wm.get_eq hS i

theorem rank_ok (hB : c.B = 256 ∨ c.B = 512) (hW : 0 < c.W) (hS : ∀ x ∈ S, x < 2 ^ c.W)
    (hlen : S.length < 2 ^ 43) (hnew : QWTree.new c S.toArray = .ok t) (sym i : Nat) :
    QWTree.rank c t sym i =
      .ok (if S ≠ [] ∧ sym ≤ Spec.maxNat S ∧ i ≤ S.length then some (Spec.rank sym i S)
           else none) :=
  (wmp_of_new hB hW hS hlen hnew).wm.rank_eq hW hS sym i

theorem select_ok (hB : c.B = 256 ∨ c.B = 512) (hW : 0 < c.W) (hS : ∀ x ∈ S, x < 2 ^ c.W)
    (hlen : S.length < 2 ^ 43) (hnew : QWTree.new c S.toArray = .ok t) (sym k : Nat) :
    QWTree.select c t sym k =
      .ok (if S ≠ [] ∧ sym ≤ Spec.maxNat S then Spec.select sym k S else none) :=
  (wmp_of_new hB hW hS hlen hnew).wm.select_eq hW hS hlen sym k

/-- `rank_prefetch` = `rank`, for every configuration, every symbol and every position (valid
    or not): neither estimation phase faults and the answer is computed by `rank_unchecked` -/
theorem rankPrefetch_eq_rank (hB : c.B = 256 ∨ c.B = 512) (hW : 0 < c.W)
    (hS : ∀ x ∈ S, x < 2 ^ c.W) (hlen : S.length < 2 ^ 43)
    (hnew : QWTree.new c S.toArray = .ok t) (sym i : Nat) :
    QWTree.rankPrefetch c t sym i = QWTree.rank c t sym i :=
  (wmp_of_new hB hW hS hlen hnew).wm.rankPrefetch_eq_partial hW hS sym i
    fun _ _ _ hi => pfsPhase1_ok hB hW hS hlen hnew sym i hi

theorem rankPrefetch_ok (hB : c.B = 256 ∨ c.B = 512) (hW : 0 < c.W)
    (hS : ∀ x ∈ S, x < 2 ^ c.W) (hlen : S.length < 2 ^ 43)
    (hnew : QWTree.new c S.toArray = .ok t) (sym i : Nat) :
    QWTree.rankPrefetch c t sym i =
      .ok (if S ≠ [] ∧ sym ≤ Spec.maxNat S ∧ i ≤ S.length then some (Spec.rank sym i S)
           else none) := by
  rw [rankPrefetch_eq_rank hB hW hS hlen hnew, rank_ok hB hW hS hlen hnew]

/-- `rank_prefetch_unchecked` inside its precondition -/
theorem rankPrefetchUnchecked_ok (hB : c.B = 256 ∨ c.B = 512) (hW : 0 < c.W)
    (hS : ∀ x ∈ S, x < 2 ^ c.W) (hlen : S.length < 2 ^ 43)
    (hnew : QWTree.new c S.toArray = .ok t) (sym i : Nat) (hne : S ≠ [])
    (hsym : sym ≤ Spec.maxNat S) (hi : i ≤ S.length) :
    QWTree.rankPrefetchUnchecked c t sym i = .ok (Spec.rank sym i S) := by
  have h := wmp_of_new hB hW hS hlen hnew
  have h1 := pfsPhase1_ok hB hW hS hlen hnew sym i hi
  have h2 := QWTree.pfsPhase2_ok c t sym i S (h.wm.nLevels_ne hne) (h.wm.levels hne)
    (h.wm.shift_lt hW hS hne) hi
  have h3 := h.wm.rankUnchecked_eq hW hS sym i hne hsym hi
  unfold QWTree.rankPrefetchUnchecked
  rw [h1, h2, h3]
  cases c.pfs <;> rfl

end tree

/-- the hypotheses are satisfiable with `pfs = true` -/
example : (({ pfs := true, W := 8 } : Cfg).B = 256 ∨ ({ pfs := true, W := 8 } : Cfg).B = 512) ∧
    0 < ({ pfs := true, W := 8 } : Cfg).W ∧ (∀ x ∈ [1, 0, 1, 0, 2, 4, 5, 3], x < 2 ^ 8) := by
  decide

/-- the doc-test of `rank_prefetch`, on the model with prefetch support, by evaluation … -/
example : (do let t ← QWTree.new { pfs := true, W := 8 } #[1, 0, 1, 0, 2, 4, 5, 3]
              QWTree.rankPrefetch { pfs := true, W := 8 } t 1 2) = .ok (some 1) := by
  decide +kernel

example : (do let t ← QWTree.new { pfs := true, W := 8 } #[1, 0, 1, 0, 2, 4, 5, 3]
              QWTree.pfsPhase1 { pfs := true, W := 8 } t 5 8) = .ok () := by
  decide +kernel

example : (do let t ← QWTree.new { pfs := true, W := 8 } #[1, 0, 1, 0, 2, 4, 5, 3]
              pure (t.pfs.map Array.size)) = .ok (some 2) := by
  decide +kernel

/-- … and by the theorem -/
example (t : QWT) (h : QWTree.new { pfs := true, W := 8 } [1, 0, 1, 0, 2, 4, 5, 3].toArray = .ok t) :
    QWTree.rankPrefetch { pfs := true, W := 8 } t 3 8 = .ok (some 1) := by
  rw [rankPrefetch_ok (Or.inl rfl) (by decide) (by decide) (by decide) h]
  decide

/-- the sample vector sizes: 1 bit for one element, 2 up to `rate + 1`, 3 from `rate + 2` -/
example : nb 0 = 0 ∧ nb 1 = 1 ∧ nb 2 = 2 ∧ nb (rate + 1) = 2 ∧ nb (rate + 2) = 3 ∧
    nb (2 * rate + 1) = 3 ∧ nb (2 * rate + 2) = 4 := by
  decide

example : cov (2 * rate + 904) 0 = 0 ∧ cov (2 * rate + 904) 1 = 1 ∧
    cov (2 * rate + 904) 2 = rate + 1 ∧ cov (2 * rate + 904) 3 = 2 * rate + 1 ∧
    cov (2 * rate + 904) 4 = 2 * rate + 904 := by decide

/-- for the shift `11`: 1 bit for one element, 2 up to 2049, 3 from 2050 -/
example (h11 : Extracted.pfsSampleShift = 11) : nb 2049 = 2 ∧ nb 2050 = 3 ∧ nb 4097 = 3 ∧ nb 4098 = 4 := by
  simp only [nb_def_2048 h11]; decide

/-- `PrefetchSupport::new` on a concrete vector: `[1, 3, 2, 3]` gives four 2-bit vectors -/
example : (do let q ← QV.fromIter [5, -1, 2, 7]
              let p ← PFS.new q 11
              pure (p.samples.map (fun (r : RSN.RSNarrow) => r.bv.nBits))) = .ok #[2, 2, 2, 2] := by
  decide +kernel

/-- the range condition is sharp: one block too far is the `unwrap` fault -/
example : (do let q ← QV.fromIter [5, -1, 2, 7]
              let p ← PFS.new q 11
              PFS.approxRankUnchecked p 3 4096) = .error .unwrapNone := by
  decide +kernel

example : (do let q ← QV.fromIter [5, -1, 2, 7]
              let p ← PFS.new q 11
              PFS.approxRankUnchecked p 3 4) = .ok 0 := by
  decide +kernel

/-! ## the Huffman-shaped quad wavelet tree (`HuffQWaveletTree`), given its level invariant

The levels of the Huffman tree shrink, so the invariant is `estimate_k ≤ true_k + k` (one
element lost per level, `approx_rank(tb, p) ≤ rank(tb, p) + 1`), with
`p ≤ ℓ + rate - 2 → ⌊p/rate⌋ + 1 ≤ nb ℓ` for every non-empty level.  The HQWT level invariant
enters here as the explicit hypothesis `Huff.WalkHyp` (`D k` = digit list of level `k`, `T k` = true
position of the walk at level `k`); `HQWM.walkHyp` (`Qwt/Proofs/PfsHuffTree.lean`) instantiates it
with `T k = blkStartQ k + cntP k i`, and `Props/C09Huff.lean` has the theorems without it. -/

/-- totality of `PrefetchSupport::new` on every vector produced by a push loop, in the form
    the Huffman level constructor needs it (no length hypothesis) -/
theorem pfs_new_of_pushes (digits : List Nat) (hd : ∀ d ∈ digits, d < 4)
    (qvb : QV.QVectorBuilder)
    (h : digits.foldlM (fun (b : QV.QVectorBuilder) d => QV.push b d) {} = .ok qvb) :
    ∃ p, PFS.new (QV.build qvb) Extracted.pfsSampleShift = .ok p ∧ PfsRep digits p :=
  PfsP.new_of_pushes digits hd qvb h

/-- the arithmetic fact: an estimate at most `rate - 2` beyond a position of a non-empty level is
    inside the sample vectors -/
theorem est_in_range {n T p k : Nat} (hn : 0 < n) (hT : T ≤ n) (hp : p ≤ T + k) (hk : k + 2 ≤ rate) :
    p / rate + 1 ≤ nb n := PfsP.est_in_range hn hT hp hk

theorem est_in_range_2048 (h11 : Extracted.pfsSampleShift = 11) {n T p k : Nat} (hn : 0 < n)
    (hT : T ≤ n) (hp : p ≤ T + k) (hk : k ≤ 2046) : p / 2048 + 1 ≤ nb n := by
  have := est_in_range hn hT hp (k := k) (by rw [rate_2048 h11]; exact Nat.add_le_add_right hk 2)
  rwa [rate_2048 h11] at this

/-- the room needed on the Huffman tree: at most 16 levels (codes of at most 32 bits) -/
theorem rate_ge_16 : 16 ≤ rate := PfsP.rate_ge_16

/-- … and it is sharp: at distance `rate - 1` the block is outside (`n = 1`, `p = rate`) -/
example : ¬ (rate / rate + 1 ≤ nb 1) := by decide

theorem approx_track (L : List Nat) (tb : Nat) {e T k : Nat} (he : e ≤ T + k) :
    approxSpec L tb e ≤ Spec.rank tb T L + (k + 1) := approxSpec_le_track L tb he

/-- phase 1 on the Huffman tree never faults, given the level invariant `WalkHyp` -/
theorem huff_pfsPhase1_ok_partial {c : Cfg} {t : Huff.HQWT} {code : Huff.PrefixCode}
    {pfs : Array PFS.PrefetchSupport} {D : Nat → List Nat} {T : Nat → Nat}
    (hpfs : t.pfs = some pfs) (h : Huff.WalkHyp c t code pfs D T) (hlen : 2 ≤ code.len) (i : Nat)
    (hi : i ≤ T 0) : Huff.pfsPhase1 c t code i = .ok () :=
  Huff.pfsPhase1_of_walk hpfs h hlen i hi

/-- `rank_prefetch = rank` on the Huffman tree as soon as the two estimation phases do
    not fault on valid arguments (phase 1: `huff_pfsPhase1_ok_partial`; phase 2: `HQWM.inv_phase2`,
    `Proofs/HQWMInv.lean`) -/
theorem huff_rankPrefetch_eq_rank_partial (c : Cfg) (t : Huff.HQWT) (symbol i : Nat)
    (hph : ∀ code, Huff.codeOf t symbol = some code → i ≤ t.n →
      (c.pfs = true → Huff.pfsPhase1 c t code i = .ok ()) ∧ Huff.pfsPhase2 c t code i = .ok ()) :
    Huff.rankPrefetch c t symbol i = Huff.rank c t symbol i := by
  unfold Huff.rankPrefetch Huff.rank
  by_cases hi : i > t.n
  · rw [if_pos hi, if_pos hi]
  · rw [if_neg hi, if_neg hi]
    cases hco : Huff.codeOf t symbol with
    | none => rfl
    | some code =>
      obtain ⟨h1, h2⟩ := hph code hco (Nat.le_of_not_lt hi)
      -- `codeOf` returned the entry of the encode table at `symbol < 2^64`
      have hidx : idx t.codesEncode (Utils.asUsize symbol) = .ok code := by
        unfold Huff.codeOf at hco
        split at hco
        · cases hco
        · rename_i h64
          rw [show Utils.asUsize symbol = symbol from Nat.mod_eq_of_lt (Nat.lt_of_not_le h64)]
          split at hco
          · rename_i cd hget
            split at hco <;> cases hco
            exact idx_of_some hget
          · cases hco
      show (do let v ← Huff.rankPrefetchUnchecked c t symbol i; pure (some v)) = _
      unfold Huff.rankPrefetchUnchecked
      rw [hidx, ok_bind, h2]
      cases hc : c.pfs
      · rfl
      · rw [h1 hc]; rfl

/-- `WalkHyp` is satisfiable (two levels of lengths 12 and 5, the walk of the code `0,3`) -/
example : ∃ (t : Huff.HQWT) (pfs : Array PFS.PrefetchSupport) (D : Nat → List Nat) (T : Nat → Nat),
    t.pfs = some pfs ∧ Huff.WalkHyp { pfs := true, W := 8 } t ⟨3, 4⟩ pfs D T ∧ 12 ≤ T 0 := by
  let D0 : List Nat := [3, 3, 3, 2, 2, 1, 0, 0, 0, 0, 3, 0]
  let D1 : List Nat := [3, 2, 1, 0, 3]
  obtain ⟨r0, _, hR0⟩ := levelLaw false (B := 256) (Or.inl rfl) D0 (by decide) (by decide)
  obtain ⟨r1, _, hR1⟩ := levelLaw false (B := 256) (Or.inl rfl) D1 (by decide) (by decide)
  obtain ⟨q0, hq0, _⟩ := RSQP.pushes_ok D0 {} QV.empty_inv.1 (by decide)
  obtain ⟨p0, _, hP0⟩ := pfs_new_of_pushes D0 (by decide) q0 hq0
  -- the code `⟨3, 4⟩` has two levels, only level `0` is estimated
  have k0 : ∀ k, k + 1 < 4 / 2 → k = 0 := fun k hk =>
    Nat.le_zero.mp (Nat.le_of_lt_succ (Nat.lt_of_succ_lt_succ hk))
  refine ⟨{ qvs := #[r0, r1], pfs := some #[p0] }, #[p0], fun k => if k = 0 then D0 else D1,
    fun k => if k = 0 then 12 else 5, rfl, ⟨by decide, ?_, ?_, ?_, ?_, ?_⟩, by decide⟩
  · intro k hk
    rcases Nat.le_one_iff_eq_zero_or_eq_one.mp (Nat.le_of_lt_succ hk) with rfl | rfl
    · exact ⟨r0, rfl, hR0⟩
    · exact ⟨r1, rfl, hR1⟩
  · intro k hk
    cases k0 k hk
    exact ⟨p0, rfl, hP0⟩
  · intro k hk
    cases k0 k hk
    decide
  · intro k hk
    cases k0 k hk
    decide
  · intro k hk
    cases k0 k hk
    decide

/-- the model itself on a two-level Huffman tree with prefetch support, by evaluation -/
example : (do let t ← Huff.new { pfs := true, W := 8 } #[0, 0, 0, 1, 1, 2, 3, 4, 5, 6, 0, 3]
                [(0, 1), (1, 1), (2, 1), (3, 2), (4, 2), (5, 2), (6, 2)]
              Huff.rankPrefetch { pfs := true, W := 8 } t 3 12) = .ok (some 2) := by
  decide +kernel

example : (do let t ← Huff.new { pfs := true, W := 8 } #[0, 0, 0, 1, 1, 2, 3, 4, 5, 6, 0, 3]
                [(0, 1), (1, 1), (2, 1), (3, 2), (4, 2), (5, 2), (6, 2)]
              pure (t.lens, t.pfs.map Array.size)) = .ok (#[12, 5], some 2) := by
  decide +kernel

end Qwt.Props.C09
