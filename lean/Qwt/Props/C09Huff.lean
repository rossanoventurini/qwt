import Qwt.Props.C02
import Qwt.Props.C09
import Qwt.Proofs.PfsHuffTree

/-!
# C09 (Huffman-shaped quad wavelet tree) — `rank_prefetch = rank`

The phase-1 estimate at level `k` is at most `true position + k`, and the true position
`blkStartQ k + cntP k i` is inside the (non-empty) level, so every `approx_rank_unchecked` unwraps a
`Some`; hence `rank_prefetch = rank` for every symbol and position, both `pfs` settings.
The premises of `Qwt/Props/C02.lean` are discharged: `PfsTotalH c` holds for every configuration,
`LevelLaw` by C05 + C17.  The hypotheses left are about the configuration (`B ∈ {256, 512}`,
`W ≤ 64`) and the input (`S`, the code table).
-/
namespace Qwt.Props.C09
open Qwt Qwt.Huff
open Qwt.HQWM (HWM PfsLevelsQ)
open Qwt.Props.C02 (WMValid PfsTotalH LensOK)

theorem pfsTotalH (c : Cfg) : PfsTotalH c := HQWM.pfsTotalH c

section huff
variable (c : Cfg) (hB : c.B = 256 ∨ c.B = 512) (hW : c.W ≤ 64) (S : List Nat)
  (hne : S ≠ []) (hb : ∀ x ∈ S, x < 2 ^ c.W) (hS : S.length < 2 ^ 43) (lens : List (Nat × Nat))
  (codes : Array PrefixCode)
  (hcraft : Huff.craftWmCodes 4 lens (Utils.asUsize (Spec.maxNat S)) = .ok codes)
  (occ : List Nat) (hv : WMValid 4 codes occ) (hocc : ∀ s, s ∈ occ ↔ s ∈ S)
include hB hW hne hb hS hcraft hv hocc

/-- construction with or without prefetch support: no totality premise left -/
theorem hqwt_new_ok :
    ∃ t, Huff.new c S.toArray lens = .ok t ∧ HWM c S codes t ∧
      (c.pfs = true → PfsLevelsQ codes S t) := by
  obtain ⟨t, h1, h2, _, _⟩ := C02.hqwt_new_ok c hW (levelLaw c.dbg hB) (pfsTotalH c) S hne hb hS
    lens codes hcraft occ hv hocc
  exact ⟨t, h1, h2, fun hp => HQWM.new_pfsQ c hW (levelLaw c.dbg hB) S hne hb hS lens codes hcraft
    occ hv hocc h1 hp⟩

variable {t : HQWT} (ht : Huff.new c S.toArray lens = .ok t)
include ht

theorem hqwt_inv : HWM c S codes t :=
  C02.hqwt_inv c hW (levelLaw c.dbg hB) (pfsTotalH c) S hne hb hS lens codes hcraft occ hv hocc ht

/-- the sampling structures: one per level, `pfs[k]` describes the digit list of level `k` -/
theorem hqwt_pfs_levels (hp : c.pfs = true) :
    ∃ pfs, t.pfs = some pfs ∧ pfs.size = t.nLevels ∧
      ∀ j (h : j < pfs.size),
        PfsP.PfsRep (HQWM.digsQ (HQWM.qdig codes) (HQWM.qlen codes) j S) pfs[j] :=
  HQWM.new_pfsQ c hW (levelLaw c.dbg hB) S hne hb hS lens codes hcraft occ hv hocc ht hp

/-- estimation phase 1 never faults (every occurring symbol, every position `i ≤ |S|`) -/
theorem hqwt_pfsPhase1_ok (sym i : Nat) (hs : sym ∈ S) (hi : i ≤ S.length) :
    Huff.pfsPhase1 c t codes[sym]! i = .ok () :=
  HQWM.inv_phase1 (hqwt_inv c hB hW S hne hb hS lens codes hcraft occ hv hocc ht)
    (hqwt_pfs_levels c hB hW S hne hb hS lens codes hcraft occ hv hocc ht) hs i hi

/-- `rank_prefetch = rank`: every configuration, every symbol, every position -/
theorem hqwt_rankPrefetch_eq_rank (sym i : Nat) :
    Huff.rankPrefetch c t sym i = Huff.rank c t sym i :=
  HQWM.inv_rankPrefetch_partial (hqwt_inv c hB hW S hne hb hS lens codes hcraft occ hv hocc ht) sym i
    fun _ hs hi => hqwt_pfsPhase1_ok c hB hW S hne hb hS lens codes hcraft occ hv hocc ht sym i hs hi

theorem hqwt_rankPrefetch_ok (sym i : Nat) :
    Huff.rankPrefetch c t sym i =
      .ok (if sym ∈ S ∧ i ≤ S.length then some (Spec.rank sym i S) else none) := by
  rw [hqwt_rankPrefetch_eq_rank c hB hW S hne hb hS lens codes hcraft occ hv hocc ht]
  exact C02.hqwt_rank_ok c hW (levelLaw c.dbg hB) (pfsTotalH c) S hne hb hS lens codes hcraft occ
    hv hocc ht sym i

end huff

/-- the composed corollary: for every near-complete length table enumerating the symbols of
    `S` (every order), construction succeeds and `rank_prefetch` answers like the list
    specification — with prefetch support as well -/
theorem hqwt_prefetch_correct (c : Cfg) (hB : c.B = 256 ∨ c.B = 512) (hW : c.W ≤ 64)
    (S : List Nat) (hne : S ≠ []) (hb : ∀ x ∈ S, x < 2 ^ c.W) (hS : S.length < 2 ^ 43)
    (lens : List (Nat × Nat)) (hlens : LensOK 4 lens)
    (hsyms : ∀ s, s ∈ lens.map (·.1) ↔ s ∈ S) :
    ∃ t, Huff.new c S.toArray lens = .ok t ∧
      (∀ sym i, Huff.rankPrefetch c t sym i = Huff.rank c t sym i) ∧
      (∀ sym i, Huff.rankPrefetch c t sym i =
        .ok (if sym ∈ S ∧ i ≤ S.length then some (Spec.rank sym i S) else none)) := by
  obtain ⟨codes, t, hcraft, hv, ht, _⟩ := C02.hqwt_correct c hW (levelLaw c.dbg hB) (pfsTotalH c) S
    hne hb hS lens hlens hsyms
  exact ⟨t, ht,
    fun sym i => hqwt_rankPrefetch_eq_rank c hB hW S hne hb hS lens codes hcraft _ hv hsyms ht sym i,
    fun sym i => hqwt_rankPrefetch_ok c hB hW S hne hb hS lens codes hcraft _ hv hsyms ht sym i⟩

/-- the empty sequence (no sampling structure is built; `rank_prefetch` answers `None`) -/
theorem hqwt_prefetch_empty (c : Cfg) (lens : List (Nat × Nat)) {t : HQWT}
    (ht : Huff.new c #[] lens = .ok t) (sym i : Nat) :
    Huff.rankPrefetch c t sym i = Huff.rank c t sym i := by
  obtain ⟨_, _, _, h1, h2, _⟩ := C02.hqwt_empty c lens ht sym i
  rw [h1, h2]

theorem mem_iff_of_subset {α} {a b : List α} (hab : a ⊆ b) (hba : b ⊆ a) (s : α) : s ∈ a ↔ s ∈ b :=
  ⟨@hab s, @hba s⟩

/-- the hypotheses of `hqwt_prefetch_correct` are satisfiable with `pfs = true`: the 7-symbol
    table with three one-digit and four two-digit codes … -/
example : LensOK 4 [(0, 1), (1, 1), (2, 1), (3, 2), (4, 2), (5, 2), (6, 2)] :=
  ⟨by decide, by decide, by decide, by decide, by decide⟩

example : ∀ s, s ∈ [(0, 1), (1, 1), (2, 1), (3, 2), (4, 2), (5, 2), (6, 2)].map (·.1) ↔
    s ∈ [0, 0, 0, 1, 1, 2, 3, 4, 5, 6, 0, 3] :=
  mem_iff_of_subset (by decide +kernel) (by decide +kernel)

/-- … instantiating the theorem on it (the tree of the evaluation examples in `C09.lean`) -/
example : ∃ t, Huff.new { pfs := true, W := 8 } [0, 0, 0, 1, 1, 2, 3, 4, 5, 6, 0, 3].toArray
      [(0, 1), (1, 1), (2, 1), (3, 2), (4, 2), (5, 2), (6, 2)] = .ok t ∧
    Huff.rankPrefetch { pfs := true, W := 8 } t 3 12 = .ok (some 2) := by
  obtain ⟨t, ht, _, h⟩ := hqwt_prefetch_correct { pfs := true, W := 8 } (Or.inl rfl) (by decide)
    [0, 0, 0, 1, 1, 2, 3, 4, 5, 6, 0, 3] (by decide) (by decide) (by decide)
    [(0, 1), (1, 1), (2, 1), (3, 2), (4, 2), (5, 2), (6, 2)]
    ⟨by decide, by decide, by decide, by decide, by decide⟩
    (mem_iff_of_subset (by decide +kernel) (by decide +kernel))
  refine ⟨t, ht, ?_⟩
  rw [h]; decide

end Qwt.Props.C09
