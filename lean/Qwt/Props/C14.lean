import Qwt.Proofs.Space

/-! C14 — plain trees and rank/select vectors stay within their stated space overhead.

The bounds are stated on the model's `heap` numbers (requested bytes) under the size facts
`RSQSize` / `RSWSize` (lines, superblocks and samples as functions of the length) that the
constructors establish; `space` requests compare `heap` with the live bytes of the real
crate on every generated case.  Allocator rounding is outside the model. -/
namespace Qwt.Props.C14
open Qwt Qwt.Space

/-- one level, block size 256: at most `2n·(1 + 1/8 + 1/100)` bits plus 2600 -/
theorem level_bits_256 (n : Nat) (r : RSQ.RSQVector) (h : RSQSize 256 n r) :
    800 * ((rsq r).heap + (rsq r).self_) ≤ 227 * n + 260000 :=
  Space.level_bits_256 h.lines h.sbs (Nat.le_trans h.samples
    (Nat.add_le_add_right (Nat.div_le_div_left (by decide) (by decide)) 8))

/-- one level, block size 512: at most `2n·(1 + 1/16 + 1/100)` bits plus 2600 (`429`; the proof
    gives `428`, `Space.level_bits_512`, which the bound with prefetch support uses up) -/
theorem level_bits_512 (n : Nat) (r : RSQ.RSQVector) (h : RSQSize 512 n r) :
    1600 * ((rsq r).heap + (rsq r).self_) ≤ 429 * n + 520000 :=
  Nat.le_trans (Space.level_bits_512 h.lines h.sbs (Nat.le_trans h.samples
    (Nat.add_le_add_right (Nat.div_le_div_left (by decide) (by decide)) 8)))
    (Nat.add_le_add_right (Nat.mul_le_mul_right n (by decide)) _)

/-- one level of the binary tree: at most `n·(1 + 3/64)` bits (< 1.05 n) plus 6000 -/
theorem rsw_level_bits (n : Nat) (r : RSW.RSWide) (h : RSWSize n r) :
    512 * ((rsw r).heap + (rsw r).self_) ≤ 67 * n + 384000 :=
  Space.rsw_bits h.lines h.sm (Nat.le_trans h.samples (by omega))

theorem scaled_sum_le {α : Type} (f : α → Sp) (a c K : Nat) (l : List α)
    (h : ∀ r ∈ l, a * ((f r).heap + c) ≤ K) :
    a * (c * l.length + ((l.map f).map (·.heap)).sum) ≤ l.length * K := by
  induction l with
  | nil => simp
  | cons x xs ih =>
    have hx := h x (by simp)
    have ih' := ih (fun y hy => h y (by simp [hy]))
    simp only [List.map_cons, List.sum_cons, List.length_cons, Nat.mul_add, Nat.add_mul, Nat.mul_one,
      Nat.one_mul] at hx ih' ⊢
    omega

theorem qwt_space_of_levels (a K : Nat) (t : QWTree.QWT)
    (h : ∀ r ∈ t.qvs.toList, a * ((rsq r).heap + (rsq r).self_) ≤ K) :
    a * (qwt t).heap ≤ t.qvs.size * K + a * (pfsOpt t.nLevels t.pfs).heap := by
  rw [qwt_heap, Nat.mul_add]
  exact Nat.add_le_add_right (scaled_sum_le rsq a 144 K t.qvs.toList h) _

/-- the 8 bytes per level are its entry of `lens` -/
theorem wt_space_of_levels (a K : Nat) (t : BinWT.WT) (hl : t.lens.size = t.bvs.size)
    (h : ∀ r ∈ t.bvs.toList, a * ((rsw r).heap + (rsw r).self_) ≤ K) :
    a * (wt false t).heap ≤ t.bvs.size * K + a * 8 * t.bvs.size := by
  have := scaled_sum_le rsw a 88 K t.bvs.toList h
  rw [wt_heap, hl, Nat.mul_add, Nat.mul_add, Nat.add_right_comm, ← Nat.mul_add, Nat.mul_assoc]
  exact Nat.add_le_add_right this _

theorem heaps_256 (n : Nat) (l : List RSQ.RSQVector) (h : ∀ r ∈ l, RSQSize 256 n r) :
    ∀ r ∈ l, 800 * ((rsq r).heap + (rsq r).self_) ≤ 227 * n + 260000 :=
  fun r hr => level_bits_256 n r (h r hr)

theorem heaps_512 (n : Nat) (l : List RSQ.RSQVector) (h : ∀ r ∈ l, RSQSize 512 n r) :
    ∀ r ∈ l, 1600 * ((rsq r).heap + (rsq r).self_) ≤ 429 * n + 520000 :=
  fun r hr => level_bits_512 n r (h r hr)

theorem heaps_wt (n : Nat) (l : List RSW.RSWide) (h : ∀ r ∈ l, RSWSize n r) :
    ∀ r ∈ l, 512 * ((rsw r).heap + (rsw r).self_) ≤ 67 * n + 384000 :=
  fun r hr => rsw_level_bits n r (h r hr)

/-- quad tree, block size 256, no prefetch support, `L` levels over `n` symbols:
    `heap bits ≤ L·(2.27 n + 2600)`, i.e. `(1 + 0.135)·2nL` plus a per-level constant;
    `heap` counts capacities, so no buffer keeps slack beyond this -/
theorem qwt256_space (n : Nat) (t : QWTree.QWT) (hp : t.pfs = none)
    (h : ∀ r ∈ t.qvs.toList, RSQSize 256 n r) :
    800 * (qwt t).heap ≤ t.qvs.size * (227 * n + 260000) := by
  have := qwt_space_of_levels 800 _ t (heaps_256 n _ h)
  rwa [hp, show (pfsOpt t.nLevels none).heap = 0 from rfl, Nat.mul_zero, Nat.add_zero] at this

theorem qwt512_space (n : Nat) (t : QWTree.QWT) (hp : t.pfs = none)
    (h : ∀ r ∈ t.qvs.toList, RSQSize 512 n r) :
    1600 * (qwt t).heap ≤ t.qvs.size * (429 * n + 520000) := by
  have := qwt_space_of_levels 1600 _ t (heaps_512 n _ h)
  rwa [hp, show (pfsOpt t.nLevels none).heap = 0 from rfl, Nat.mul_zero, Nat.add_zero] at this

/-- binary tree with `L` levels: `heap bits ≤ L·(1.047 n + 6064)` -/
theorem wt_space (n : Nat) (t : BinWT.WT) (hl : t.lens.size = t.bvs.size)
    (h : ∀ r ∈ t.bvs.toList, RSWSize n r) :
    512 * (wt false t).heap ≤ t.bvs.size * (67 * n + 384000) + 4096 * t.bvs.size :=
  wt_space_of_levels 512 _ t hl (heaps_wt n _ h)

-- non-vacuity: the size facts hold for the empty vector built by the model
example : RSQSize 256 0 { qv := {}, rs := { superblocks := #[0,0,0,0], selectSamples := #[#[0,0],#[0,0],#[0,0],#[0,0]] }, nOccsSmaller := #[0,0,0,0,0] } :=
  ⟨by decide +kernel, by decide +kernel, by decide +kernel⟩

end Qwt.Props.C14
