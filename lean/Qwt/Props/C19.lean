import Qwt.Props.C10
import Qwt.Props.C11

/-!
# C19 — all construction paths and copies build the same structure

"For every sequence, building a wavelet tree with `new` on a mutable slice, `From<Vec>`, or
`collect` from an iterator gives values that answer all queries identically (and, for the plain
trees and all non-Huffman structures, compare equal); `Clone` yields an equal value; values built
from different sequences never compare equal.  Building from the same numbers carried in a wider
or narrower integer type gives the same answers."

## What is a theorem and what is a modelling identity

* In the Rust code `From<Vec<T>>` and `FromIterator` collect into a `Vec` and call
  `new(&mut [T])`; the model has ONE function per type (`QWTree.new`, `Huff.new`, `BinWT.new`,
  `RSQ.new` = `RSQ.fromQV ∘ QV.fromIter`, `RSW.new`, `RSN.new`, `DA.new`).  That the three real
  entry points agree is checked by the correspondence harness at run time (it builds through
  all three and compares); here the statement is determinism of the model function (§3) and,
  for `RSQVector`, the definitional identity `new = from ∘ collect` (`rsq_new_eq_from`).
* `Clone` (derived) copies every field: it is the identity on model states.  The bincode
  round trip is the identity by C11 (`roundtrip_*`); §4 composes it with the query theorems.
* The derived `PartialEq` is structural equality of the model state; it is decidable (§3).
-/
namespace Qwt.Props.C19
open Qwt
open Qwt.Props.C02 (LensOK WMValid)

/-! On the empty sequence the constructors ignore the length table, so the table hypotheses are
asked only for `S ≠ []` (here and in the `hqwt` / `hwt` sections of §1). -/

theorem hqwt_get_any (c : Cfg) (hB : c.B = 256 ∨ c.B = 512) (hW : c.W ≤ 64) (S : List Nat)
    (hb : ∀ x ∈ S, x < 2 ^ c.W) (hS : S.length < 2 ^ 43) (lens : List (Nat × Nat))
    (hlens : S ≠ [] → LensOK 4 lens) (hsyms : S ≠ [] → ∀ s, s ∈ lens.map (·.1) ↔ s ∈ S)
    {t : Huff.HQWT} (ht : Huff.new c S.toArray lens = .ok t) (i : Nat) :
    Huff.get c t i = .ok S[i]? := by
  by_cases hne : S = []
  · subst hne
    rw [(C02.hqwt_empty c lens ht 0 i).2.2.1]; rfl
  · exact C10.hqwt_get_ok c hB hW S hne hb hS lens (hlens hne) (hsyms hne) ht i

theorem hwt_get_any (c : Cfg) (hW : c.W ≤ 64) (S : List Nat)
    (hb : ∀ x ∈ S, x < 2 ^ c.W) (hS : S.length < 2 ^ 43) (lens : List (Nat × Nat))
    (hlens : S ≠ [] → LensOK 2 lens) (hocc : S ≠ [] → ∀ s, s ∈ lens.map (·.1) ↔ s ∈ S)
    {t : BinWT.WT} (ht : BinWT.new c true S.toArray lens = .ok t) (i : Nat) :
    BinWT.get c true t i = .ok S[i]? := by
  by_cases hne : S = []
  · subst hne
    rw [(C03.hwt_empty c lens ht 0 i).2.1]; rfl
  · exact Closed.hwt_get c hW S hne hb hS lens (hlens hne) (hocc hne) ht i

/-! ## 1. injectivity: values built from different sequences never compare equal

Each constructor is injective because the built value determines the answers of `get`, and these
spell out the sequence (`Cor.list_eq_of_get2`).  The rest is the same for every type: -/

theorem eq_iff_of_inj {α β : Type} {f : β → M α} {S S' : β} {t t' : α} (h : f S = .ok t)
    (h' : f S' = .ok t') (inj : t = t' → S = S') : t = t' ↔ S = S' :=
  ⟨inj, fun e => Cor.ok_inj (h.symm.trans (e ▸ h'))⟩

theorem beq_false_of_inj {α β : Type} [BEq α] [LawfulBEq α] {t t' : α} {S S' : β}
    (inj : t = t' → S = S') (hne : S ≠ S') : (t == t') = false :=
  beq_eq_false_iff_ne.mpr fun e => hne (inj e)

section qwt
variable {c : Cfg} (hB : c.B = 256 ∨ c.B = 512) (hW : 0 < c.W) {S S' : List Nat}
  (hS : ∀ x ∈ S, x < 2 ^ c.W) (hS' : ∀ x ∈ S', x < 2 ^ c.W)
  (hlen : S.length < 2 ^ 43) (hlen' : S'.length < 2 ^ 43)
include hB hW hS hS' hlen hlen'

theorem qwt_inj_of_get {t t' : QWTree.QWT} (h : QWTree.new c S.toArray = .ok t)
    (h' : QWTree.new c S'.toArray = .ok t') (hg : ∀ i, QWTree.get c t i = QWTree.get c t' i) :
    S = S' :=
  Cor.list_eq_of_get2 (C09.get_ok hB hW hS hlen h) (C09.get_ok hB hW hS' hlen' h') hg

theorem qwt_inj {t : QWTree.QWT} (h : QWTree.new c S.toArray = .ok t)
    (h' : QWTree.new c S'.toArray = .ok t) : S = S' :=
  qwt_inj_of_get hB hW hS hS' hlen hlen' h h' (fun _ => rfl)

/-- `PartialEq` on values built by `new`: equal iff the sequences are equal -/
theorem qwt_eq_iff {t t' : QWTree.QWT} (h : QWTree.new c S.toArray = .ok t)
    (h' : QWTree.new c S'.toArray = .ok t') : t = t' ↔ S = S' :=
  eq_iff_of_inj (f := fun S : List Nat => QWTree.new c S.toArray) (S := S) (S' := S') h h'
    fun e => qwt_inj hB hW hS hS' hlen hlen' h (e ▸ h')

theorem qwt_ne {t t' : QWTree.QWT} (h : QWTree.new c S.toArray = .ok t)
    (h' : QWTree.new c S'.toArray = .ok t') (hne : S ≠ S') : (t == t') = false :=
  beq_false_of_inj (qwt_eq_iff hB hW hS hS' hlen hlen' h h').mp hne

end qwt

section hqwt
variable (c : Cfg) (hB : c.B = 256 ∨ c.B = 512) (hW : c.W ≤ 64) {S S' : List Nat}
  (hb : ∀ x ∈ S, x < 2 ^ c.W) (hb' : ∀ x ∈ S', x < 2 ^ c.W)
  (hS : S.length < 2 ^ 43) (hS' : S'.length < 2 ^ 43) (lens lens' : List (Nat × Nat))
  (hlens : S ≠ [] → LensOK 4 lens) (hsyms : S ≠ [] → ∀ s, s ∈ lens.map (·.1) ↔ s ∈ S)
  (hlens' : S' ≠ [] → LensOK 4 lens') (hsyms' : S' ≠ [] → ∀ s, s ∈ lens'.map (·.1) ↔ s ∈ S')
include hB hW hb hb' hS hS' hlens hsyms hlens' hsyms'

/-- (whatever the two length tables) -/
theorem hqwt_inj_of_get {t t' : Huff.HQWT} (h : Huff.new c S.toArray lens = .ok t)
    (h' : Huff.new c S'.toArray lens' = .ok t') (hg : ∀ i, Huff.get c t i = Huff.get c t' i) :
    S = S' :=
  Cor.list_eq_of_get2 (hqwt_get_any c hB hW S hb hS lens hlens hsyms h)
    (hqwt_get_any c hB hW S' hb' hS' lens' hlens' hsyms' h') hg

theorem hqwt_inj {t : Huff.HQWT} (h : Huff.new c S.toArray lens = .ok t)
    (h' : Huff.new c S'.toArray lens' = .ok t) : S = S' :=
  hqwt_inj_of_get c hB hW hb hb' hS hS' lens lens' hlens hsyms hlens' hsyms' h h' (fun _ => rfl)

theorem hqwt_ne {t t' : Huff.HQWT} (h : Huff.new c S.toArray lens = .ok t)
    (h' : Huff.new c S'.toArray lens' = .ok t') (hne : S ≠ S') : (t == t') = false :=
  beq_false_of_inj
    (fun e => hqwt_inj c hB hW hb hb' hS hS' lens lens' hlens hsyms hlens' hsyms' h (e ▸ h')) hne

end hqwt

section wt
variable (c : Cfg) (hW : 0 < c.W) {S S' : List Nat}
  (hb : ∀ x ∈ S, x < 2 ^ c.W) (hb' : ∀ x ∈ S', x < 2 ^ c.W)
  (hS : S.length < 2 ^ 43) (hS' : S'.length < 2 ^ 43)
include hW hb hb' hS hS'

theorem wt_inj_of_get {t t' : BinWT.WT} (h : BinWT.new c false S.toArray [] = .ok t)
    (h' : BinWT.new c false S'.toArray [] = .ok t')
    (hg : ∀ i, BinWT.get c false t i = BinWT.get c false t' i) : S = S' :=
  Cor.list_eq_of_get2 (Closed.wt_get c hW S hb hS h) (Closed.wt_get c hW S' hb' hS' h') hg

theorem wt_inj {t : BinWT.WT} (h : BinWT.new c false S.toArray [] = .ok t)
    (h' : BinWT.new c false S'.toArray [] = .ok t) : S = S' :=
  wt_inj_of_get c hW hb hb' hS hS' h h' (fun _ => rfl)

theorem wt_eq_iff {t t' : BinWT.WT} (h : BinWT.new c false S.toArray [] = .ok t)
    (h' : BinWT.new c false S'.toArray [] = .ok t') : t = t' ↔ S = S' :=
  eq_iff_of_inj (f := fun S : List Nat => BinWT.new c false S.toArray []) (S := S) (S' := S') h h'
    fun e => wt_inj c hW hb hb' hS hS' h (e ▸ h')

theorem wt_ne {t t' : BinWT.WT} (h : BinWT.new c false S.toArray [] = .ok t)
    (h' : BinWT.new c false S'.toArray [] = .ok t') (hne : S ≠ S') : (t == t') = false :=
  beq_false_of_inj (wt_eq_iff c hW hb hb' hS hS' h h').mp hne

end wt

section hwt
variable (c : Cfg) (hW : c.W ≤ 64) {S S' : List Nat}
  (hb : ∀ x ∈ S, x < 2 ^ c.W) (hb' : ∀ x ∈ S', x < 2 ^ c.W)
  (hS : S.length < 2 ^ 43) (hS' : S'.length < 2 ^ 43) (lens lens' : List (Nat × Nat))
  (hlens : S ≠ [] → LensOK 2 lens) (hocc : S ≠ [] → ∀ s, s ∈ lens.map (·.1) ↔ s ∈ S)
  (hlens' : S' ≠ [] → LensOK 2 lens') (hocc' : S' ≠ [] → ∀ s, s ∈ lens'.map (·.1) ↔ s ∈ S')
include hW hb hb' hS hS' hlens hocc hlens' hocc'

theorem hwt_inj_of_get {t t' : BinWT.WT} (h : BinWT.new c true S.toArray lens = .ok t)
    (h' : BinWT.new c true S'.toArray lens' = .ok t')
    (hg : ∀ i, BinWT.get c true t i = BinWT.get c true t' i) : S = S' :=
  Cor.list_eq_of_get2 (hwt_get_any c hW S hb hS lens hlens hocc h)
    (hwt_get_any c hW S' hb' hS' lens' hlens' hocc' h') hg

theorem hwt_inj {t : BinWT.WT} (h : BinWT.new c true S.toArray lens = .ok t)
    (h' : BinWT.new c true S'.toArray lens' = .ok t) : S = S' :=
  hwt_inj_of_get c hW hb hb' hS hS' lens lens' hlens hocc hlens' hocc' h h' (fun _ => rfl)

theorem hwt_ne {t t' : BinWT.WT} (h : BinWT.new c true S.toArray lens = .ok t)
    (h' : BinWT.new c true S'.toArray lens' = .ok t') (hne : S ≠ S') : (t == t') = false :=
  beq_false_of_inj
    (fun e => hwt_inj c hW hb hb' hS hS' lens lens' hlens hocc hlens' hocc' h (e ▸ h')) hne

end hwt

/-! ### the vectors themselves: the state is a function of the stored sequence -/

/-- `BitVector` / `BitVectorMut` (C08): equal iff the same bits, whatever the histories -/
theorem bv_eq_iff_abs (s t : BV.BitVector) (hs : BV.Inv s) (ht : BV.Inv t) :
    s = t ↔ BV.abs s = BV.abs t := C08.eq_iff_abs s t hs ht

/-- `QVector`: equal iff the same symbols, whatever the push / extend histories -/
theorem qv_eq_iff_abs (s t : QV.QVector) (hs : QV.Inv s) (ht : QV.Inv t) :
    s = t ↔ QV.abs s = QV.abs t := QV.eq_iff_abs s t hs ht

theorem qv_beq_iff_abs (s t : QV.QVector) (hs : QV.Inv s) (ht : QV.Inv t) :
    (s == t) = true ↔ QV.abs s = QV.abs t := by
  rw [beq_iff_eq]; exact QV.eq_iff_abs s t hs ht

theorem qv_fromIter_eq_iff (vals vals' : List Int) (hn : 2 * vals.length < two64)
    (hn' : 2 * vals'.length < two64) {q q' : QV.QVector} (h : QV.fromIter vals = .ok q)
    (h' : QV.fromIter vals' = .ok q') :
    q = q' ↔ vals.map (fun v => (v % 4).toNat) = vals'.map (fun v => (v % 4).toNat) := by
  obtain ⟨i1, a1⟩ := of_exists_ok (C13.fromIter_ok vals hn) h
  obtain ⟨i2, a2⟩ := of_exists_ok (C13.fromIter_ok vals' hn') h'
  rw [QV.eq_iff_abs q q' i1 i2, a1, a2]

/-- `From<QVector>`: the quad vector is stored, so the same structure ⇒ the same vector
    (the two builds may even differ) -/
theorem rsq_inj {B : Nat} (dbg dbg' : Bool) (hB : B = 256 ∨ B = 512) {qv qv' : QV.QVector}
    (hq : QV.Inv qv) (hq' : QV.Inv qv') (hl : (QV.abs qv).length < 2 ^ 43)
    (hl' : (QV.abs qv').length < 2 ^ 43) {r : RSQ.RSQVector}
    (h : RSQ.fromQV dbg B qv = .ok r) (h' : RSQ.fromQV dbg' B qv' = .ok r) : qv = qv' := by
  have i1 := C10.rsq_fromQV_repInv dbg hB hq hl h
  have i2 := C10.rsq_fromQV_repInv dbg' hB hq' hl' h'
  rw [QV.eq_iff_abs qv qv' hq hq']
  exact Cor.list_eq_of_get (g := RSQ.get false r) (C05.get_ok i1 false) (C05.get_ok i2 false)

theorem rsq_inj_abs {B : Nat} (dbg dbg' : Bool) (hB : B = 256 ∨ B = 512) {qv qv' : QV.QVector}
    (hq : QV.Inv qv) (hq' : QV.Inv qv') (hl : (QV.abs qv).length < 2 ^ 43)
    (hl' : (QV.abs qv').length < 2 ^ 43) {r : RSQ.RSQVector}
    (h : RSQ.fromQV dbg B qv = .ok r) (h' : RSQ.fromQV dbg' B qv' = .ok r) :
    QV.abs qv = QV.abs qv' := by
  rw [rsq_inj dbg dbg' hB hq hq' hl hl' h h']

/-- `new` / `collect`: the same structure ⇒ the same symbols -/
theorem rsq_new_inj {B : Nat} (dbg dbg' : Bool) (hB : B = 256 ∨ B = 512) (vals vals' : List Int)
    (hl : vals.length < 2 ^ 43) (hl' : vals'.length < 2 ^ 43) {r : RSQ.RSQVector}
    (h : RSQ.new dbg B vals = .ok r) (h' : RSQ.new dbg' B vals' = .ok r) :
    vals.map (fun v => (v % 4).toNat) = vals'.map (fun v => (v % 4).toNat) :=
  Cor.list_eq_of_get (g := RSQ.get false r)
    (C05.get_ok (C10.rsq_new_repInv dbg hB vals hl h) false)
    (C05.get_ok (C10.rsq_new_repInv dbg' hB vals' hl' h') false)

/-- the construction paths of `RSQVector`: `new(&[T])` and `collect()` are
    `From<QVector>` after collecting into a `QVector` — by definition of the model -/
theorem rsq_new_eq_from (dbg : Bool) (B : Nat) (vals : List Int) :
    RSQ.new dbg B vals = (QV.fromIter vals >>= fun qv => RSQ.fromQV dbg B qv) := rfl

/-- … hence `new` and `from` of the collected vector give equal values -/
theorem rsq_paths_equal (dbg : Bool) (B : Nat) (vals : List Int) {q : QV.QVector}
    (hq : QV.fromIter vals = .ok q) : RSQ.new dbg B vals = RSQ.fromQV dbg B q := by
  rw [rsq_new_eq_from, hq]; rfl

/-! ### `RSWide`, `RSNarrow`, `DArray`: the bit vector is stored -/

theorem rsw_inj {b b' : BV.BitVector} (hb : BV.Inv b) (hb' : BV.Inv b')
    (hl : (BV.abs b).length < 2 ^ 43) (hl' : (BV.abs b').length < 2 ^ 43) {r : RSW.RSWide}
    (h : RSW.new b = .ok r) (h' : RSW.new b' = .ok r) : b = b' :=
  (of_exists_ok (C06.rsw_new_inv (C06.holds_of_inv hb) hl) h).1.symm.trans
    (of_exists_ok (C06.rsw_new_inv (C06.holds_of_inv hb') hl') h').1

theorem rsw_inj_abs {b b' : BV.BitVector} (hb : BV.Inv b) (hb' : BV.Inv b')
    (hl : (BV.abs b).length < 2 ^ 43) (hl' : (BV.abs b').length < 2 ^ 43) {r : RSW.RSWide}
    (h : RSW.new b = .ok r) (h' : RSW.new b' = .ok r) : BV.abs b = BV.abs b' := by
  rw [rsw_inj hb hb' hl hl' h h']

theorem rsn_inj {b b' : BV.BitVector} (hb : BV.Inv b) (hb' : BV.Inv b') {r : RSN.RSNarrow}
    (h : RSN.new b = .ok r) (h' : RSN.new b' = .ok r) : b = b' :=
  (of_exists_ok (C06.rsn_new_inv (C06.holds_of_inv hb)) h).1.symm.trans
    (of_exists_ok (C06.rsn_new_inv (C06.holds_of_inv hb')) h').1

theorem rsn_inj_abs {b b' : BV.BitVector} (hb : BV.Inv b) (hb' : BV.Inv b') {r : RSN.RSNarrow}
    (h : RSN.new b = .ok r) (h' : RSN.new b' = .ok r) : BV.abs b = BV.abs b' := by
  rw [rsn_inj hb hb' h h']

/-- (the two `SELECT0_SUPPORT` settings are different Rust types; even across them) -/
theorem da_inj (s0 s0' : Bool) {b b' : BV.BitVector} (h : DA.new s0 b = DA.new s0' b') : b = b' :=
  congrArg DA.DArray.bv h

theorem da_eq_iff (s0 : Bool) (b b' : BV.BitVector) : DA.new s0 b = DA.new s0 b' ↔ b = b' :=
  ⟨da_inj s0 s0, fun e => by rw [e]⟩

/-- composed with C08: on well-formed bit vectors, equal `DArray`s iff equal bit sequences -/
theorem da_eq_iff_abs (s0 : Bool) (b b' : BV.BitVector) (hb : BV.Inv b) (hb' : BV.Inv b') :
    DA.new s0 b = DA.new s0 b' ↔ BV.abs b = BV.abs b' := by
  rw [da_eq_iff, C08.eq_iff_abs b b' hb hb']

theorem rsw_eq_iff_abs {b b' : BV.BitVector} (hb : BV.Inv b) (hb' : BV.Inv b')
    (hl : (BV.abs b).length < 2 ^ 43) (hl' : (BV.abs b').length < 2 ^ 43) {r r' : RSW.RSWide}
    (h : RSW.new b = .ok r) (h' : RSW.new b' = .ok r') : r = r' ↔ BV.abs b = BV.abs b' :=
  (eq_iff_of_inj (f := RSW.new) h h' fun e => rsw_inj hb hb' hl hl' h (e ▸ h')).trans
    (C08.eq_iff_abs b b' hb hb')

theorem rsn_eq_iff_abs {b b' : BV.BitVector} (hb : BV.Inv b) (hb' : BV.Inv b')
    {r r' : RSN.RSNarrow} (h : RSN.new b = .ok r) (h' : RSN.new b' = .ok r') :
    r = r' ↔ BV.abs b = BV.abs b' :=
  (eq_iff_of_inj (f := RSN.new) h h' fun e => rsn_inj hb hb' h (e ▸ h')).trans
    (C08.eq_iff_abs b b' hb hb')

/-! ## 2. width irrelevance: the same numbers in a wider or narrower integer type -/

theorem fits_mono {W₁ W₂ : Nat} (h : W₁ ≤ W₂) {S : List Nat} (hS : ∀ x ∈ S, x < 2 ^ W₁) :
    ∀ x ∈ S, x < 2 ^ W₂ :=
  fun x hx => Nat.lt_of_lt_of_le (hS x hx) (Nat.pow_le_pow_right (by decide) h)

/-- `QWaveletTree<T₁, …>` and `QWaveletTree<T₂, …>` over the same numbers: every query, every
    argument, the same answer — whatever the two configurations (element widths in which the
    numbers fit, block sizes, prefetch settings, build profiles), since the answers are those of
    the list specification, which mentions none of them -/
theorem qwt_width (c₁ c₂ : Cfg) (hB₁ : c₁.B = 256 ∨ c₁.B = 512) (hB₂ : c₂.B = 256 ∨ c₂.B = 512)
    (h1 : 0 < c₁.W) (h2 : 0 < c₂.W) {S : List Nat} (hS₁ : ∀ x ∈ S, x < 2 ^ c₁.W)
    (hS₂ : ∀ x ∈ S, x < 2 ^ c₂.W) (hlen : S.length < 2 ^ 43) {t₁ t₂ : QWTree.QWT}
    (ht₁ : QWTree.new c₁ S.toArray = .ok t₁) (ht₂ : QWTree.new c₂ S.toArray = .ok t₂) :
    (∀ i, QWTree.get c₁ t₁ i = QWTree.get c₂ t₂ i) ∧
    (∀ sym i, QWTree.rank c₁ t₁ sym i = QWTree.rank c₂ t₂ sym i) ∧
    (∀ sym k, QWTree.select c₁ t₁ sym k = QWTree.select c₂ t₂ sym k) ∧
    (∀ sym i, QWTree.rankPrefetch c₁ t₁ sym i = QWTree.rankPrefetch c₂ t₂ sym i) := by
  refine ⟨fun i => ?_, fun sym i => ?_, fun sym k => ?_, fun sym i => ?_⟩
  · rw [C09.get_ok hB₁ h1 hS₁ hlen ht₁, C09.get_ok hB₂ h2 hS₂ hlen ht₂]
  · rw [C09.rank_ok hB₁ h1 hS₁ hlen ht₁, C09.rank_ok hB₂ h2 hS₂ hlen ht₂]
  · rw [C09.select_ok hB₁ h1 hS₁ hlen ht₁, C09.select_ok hB₂ h2 hS₂ hlen ht₂]
  · rw [C09.rankPrefetch_ok hB₁ h1 hS₁ hlen ht₁, C09.rankPrefetch_ok hB₂ h2 hS₂ hlen ht₂]

/-- one configuration, two element widths -/
theorem qwt_width' (c : Cfg) (hB : c.B = 256 ∨ c.B = 512) {W₁ W₂ : Nat} (h1 : 0 < W₁)
    (h12 : W₁ ≤ W₂) {S : List Nat} (hS : ∀ x ∈ S, x < 2 ^ W₁) (hlen : S.length < 2 ^ 43)
    {t₁ t₂ : QWTree.QWT} (ht₁ : QWTree.new { c with W := W₁ } S.toArray = .ok t₁)
    (ht₂ : QWTree.new { c with W := W₂ } S.toArray = .ok t₂) :
    (∀ i, QWTree.get { c with W := W₁ } t₁ i = QWTree.get { c with W := W₂ } t₂ i) ∧
    (∀ sym i, QWTree.rank { c with W := W₁ } t₁ sym i = QWTree.rank { c with W := W₂ } t₂ sym i) ∧
    (∀ sym k,
      QWTree.select { c with W := W₁ } t₁ sym k = QWTree.select { c with W := W₂ } t₂ sym k) ∧
    (∀ sym i, QWTree.rankPrefetch { c with W := W₁ } t₁ sym i =
      QWTree.rankPrefetch { c with W := W₂ } t₂ sym i) :=
  qwt_width { c with W := W₁ } { c with W := W₂ } hB hB h1 (Nat.lt_of_lt_of_le h1 h12) hS
    (fits_mono h12 hS) hlen ht₁ ht₂

theorem wt_width (c₁ c₂ : Cfg) (h1 : 0 < c₁.W) (h12 : c₁.W ≤ c₂.W) {S : List Nat}
    (hS : ∀ x ∈ S, x < 2 ^ c₁.W) (hlen : S.length < 2 ^ 43) {t₁ t₂ : BinWT.WT}
    (ht₁ : BinWT.new c₁ false S.toArray [] = .ok t₁)
    (ht₂ : BinWT.new c₂ false S.toArray [] = .ok t₂) :
    (∀ i, BinWT.get c₁ false t₁ i = BinWT.get c₂ false t₂ i) ∧
    (∀ sym i, BinWT.rank c₁ false t₁ sym i = BinWT.rank c₂ false t₂ sym i) ∧
    (∀ sym k, BinWT.select c₁ false t₁ sym k = BinWT.select c₂ false t₂ sym k) := by
  have h2 : 0 < c₂.W := Nat.lt_of_lt_of_le h1 h12
  have hS₂ := fits_mono h12 hS
  refine ⟨fun i => ?_, fun sym i => ?_, fun sym k => ?_⟩
  · rw [Closed.wt_get c₁ h1 S hS hlen ht₁, Closed.wt_get c₂ h2 S hS₂ hlen ht₂]
  · rw [Closed.wt_rank c₁ h1 S hS hlen ht₁, Closed.wt_rank c₂ h2 S hS₂ hlen ht₂]
  · rw [Closed.wt_select c₁ h1 S hS hlen ht₁, Closed.wt_select c₂ h2 S hS₂ hlen ht₂]

/-! ### 2b. the Huffman-shaped trees: two widths AND two orders of the length table

`lens₁`, `lens₂` are two admissible length tables for the symbols of `S` — e.g. the same
`HashMap` iterated in two orders, or the tables computed for the two element types. -/

theorem hqwt_width (c₁ c₂ : Cfg) (hB₁ : c₁.B = 256 ∨ c₁.B = 512) (hB₂ : c₂.B = 256 ∨ c₂.B = 512)
    (h1 : c₁.W ≤ 64) (h2 : c₂.W ≤ 64) {S : List Nat} (hne : S ≠ [])
    (hS₁ : ∀ x ∈ S, x < 2 ^ c₁.W) (hS₂ : ∀ x ∈ S, x < 2 ^ c₂.W) (hlen : S.length < 2 ^ 43)
    (lens₁ lens₂ : List (Nat × Nat))
    (hl₁ : LensOK 4 lens₁) (hs₁ : ∀ s, s ∈ lens₁.map (·.1) ↔ s ∈ S)
    (hl₂ : LensOK 4 lens₂) (hs₂ : ∀ s, s ∈ lens₂.map (·.1) ↔ s ∈ S) {t₁ t₂ : Huff.HQWT}
    (ht₁ : Huff.new c₁ S.toArray lens₁ = .ok t₁) (ht₂ : Huff.new c₂ S.toArray lens₂ = .ok t₂) :
    (∀ i, Huff.get c₁ t₁ i = Huff.get c₂ t₂ i) ∧
    (∀ sym i, Huff.rank c₁ t₁ sym i = Huff.rank c₂ t₂ sym i) ∧
    (∀ sym k, Huff.select c₁ t₁ sym k = Huff.select c₂ t₂ sym k) ∧
    (∀ sym i, Huff.rankPrefetch c₁ t₁ sym i = Huff.rankPrefetch c₂ t₂ sym i) := by
  obtain ⟨_, i₁⟩ := C10.hqwt_inv c₁ hB₁ h1 S hne hS₁ hlen lens₁ hl₁ hs₁ ht₁
  obtain ⟨_, i₂⟩ := C10.hqwt_inv c₂ hB₂ h2 S hne hS₂ hlen lens₂ hl₂ hs₂ ht₂
  exact ⟨fun i => (HQWM.inv_get i₁ i).trans (HQWM.inv_get i₂ i).symm,
    fun sym i => (HQWM.inv_rank i₁ sym i).trans (HQWM.inv_rank i₂ sym i).symm,
    fun sym k => (HQWM.inv_select i₁ sym k).trans (HQWM.inv_select i₂ sym k).symm,
    fun sym i =>
      (C10.hqwt_rankPrefetch_ok c₁ hB₁ h1 S hne hS₁ hlen lens₁ hl₁ hs₁ ht₁ sym i).trans
        (C10.hqwt_rankPrefetch_ok c₂ hB₂ h2 S hne hS₂ hlen lens₂ hl₂ hs₂ ht₂ sym i).symm⟩

/-- the three construction paths of `HuffQWaveletTree` may see different `HashMap` orders:
    same configuration, two orders of the length table, identical answers -/
theorem hqwt_paths_same_answers (c : Cfg) (hB : c.B = 256 ∨ c.B = 512) (hW : c.W ≤ 64)
    {S : List Nat} (hne : S ≠ []) (hS : ∀ x ∈ S, x < 2 ^ c.W) (hlen : S.length < 2 ^ 43)
    (lens₁ lens₂ : List (Nat × Nat))
    (hl₁ : LensOK 4 lens₁) (hs₁ : ∀ s, s ∈ lens₁.map (·.1) ↔ s ∈ S)
    (hl₂ : LensOK 4 lens₂) (hs₂ : ∀ s, s ∈ lens₂.map (·.1) ↔ s ∈ S) {t₁ t₂ : Huff.HQWT}
    (ht₁ : Huff.new c S.toArray lens₁ = .ok t₁) (ht₂ : Huff.new c S.toArray lens₂ = .ok t₂) :
    (∀ i, Huff.get c t₁ i = Huff.get c t₂ i) ∧
    (∀ sym i, Huff.rank c t₁ sym i = Huff.rank c t₂ sym i) ∧
    (∀ sym k, Huff.select c t₁ sym k = Huff.select c t₂ sym k) ∧
    (∀ sym i, Huff.rankPrefetch c t₁ sym i = Huff.rankPrefetch c t₂ sym i) :=
  hqwt_width c c hB hB hW hW hne hS hS hlen lens₁ lens₂ hl₁ hs₁ hl₂ hs₂ ht₁ ht₂

theorem hwt_width (c₁ c₂ : Cfg) (h1 : c₁.W ≤ 64) (h2 : c₂.W ≤ 64) {S : List Nat}
    (hne : S ≠ []) (hS₁ : ∀ x ∈ S, x < 2 ^ c₁.W) (hS₂ : ∀ x ∈ S, x < 2 ^ c₂.W)
    (hlen : S.length < 2 ^ 43) (lens₁ lens₂ : List (Nat × Nat))
    (hl₁ : LensOK 2 lens₁) (hs₁ : ∀ s, s ∈ lens₁.map (·.1) ↔ s ∈ S)
    (hl₂ : LensOK 2 lens₂) (hs₂ : ∀ s, s ∈ lens₂.map (·.1) ↔ s ∈ S) {t₁ t₂ : BinWT.WT}
    (ht₁ : BinWT.new c₁ true S.toArray lens₁ = .ok t₁)
    (ht₂ : BinWT.new c₂ true S.toArray lens₂ = .ok t₂) :
    (∀ i, BinWT.get c₁ true t₁ i = BinWT.get c₂ true t₂ i) ∧
    (∀ sym i, BinWT.rank c₁ true t₁ sym i = BinWT.rank c₂ true t₂ sym i) ∧
    (∀ sym k, BinWT.select c₁ true t₁ sym k = BinWT.select c₂ true t₂ sym k) := by
  refine ⟨fun i => ?_, fun sym i => ?_, fun sym k => ?_⟩
  · rw [Closed.hwt_get c₁ h1 S hne hS₁ hlen lens₁ hl₁ hs₁ ht₁,
      Closed.hwt_get c₂ h2 S hne hS₂ hlen lens₂ hl₂ hs₂ ht₂]
  · rw [Closed.hwt_rank c₁ h1 S hne hS₁ hlen lens₁ hl₁ hs₁ ht₁,
      Closed.hwt_rank c₂ h2 S hne hS₂ hlen lens₂ hl₂ hs₂ ht₂]
  · rw [Closed.hwt_select c₁ h1 S hne hS₁ hlen lens₁ hl₁ hs₁ ht₁,
      Closed.hwt_select c₂ h2 S hne hS₂ hlen lens₂ hl₂ hs₂ ht₂]

theorem hwt_paths_same_answers (c : Cfg) (hW : c.W ≤ 64) {S : List Nat} (hne : S ≠ [])
    (hS : ∀ x ∈ S, x < 2 ^ c.W) (hlen : S.length < 2 ^ 43) (lens₁ lens₂ : List (Nat × Nat))
    (hl₁ : LensOK 2 lens₁) (hs₁ : ∀ s, s ∈ lens₁.map (·.1) ↔ s ∈ S)
    (hl₂ : LensOK 2 lens₂) (hs₂ : ∀ s, s ∈ lens₂.map (·.1) ↔ s ∈ S) {t₁ t₂ : BinWT.WT}
    (ht₁ : BinWT.new c true S.toArray lens₁ = .ok t₁)
    (ht₂ : BinWT.new c true S.toArray lens₂ = .ok t₂) :
    (∀ i, BinWT.get c true t₁ i = BinWT.get c true t₂ i) ∧
    (∀ sym i, BinWT.rank c true t₁ sym i = BinWT.rank c true t₂ sym i) ∧
    (∀ sym k, BinWT.select c true t₁ sym k = BinWT.select c true t₂ sym k) :=
  hwt_width c c hW hW hne hS hS hlen lens₁ lens₂ hl₁ hs₁ hl₂ hs₂ ht₁ ht₂

/-- the quad vector stores the two low bits of each value: the same numbers collected from a
    wider or narrower (signed or unsigned) integer type give the same `QVector` -/
theorem qv_width (vals vals' : List Int) (hn : 2 * vals.length < two64)
    (hv : vals.map (fun v => (v % 4).toNat) = vals'.map (fun v => (v % 4).toNat))
    {q q' : QV.QVector} (h : QV.fromIter vals = .ok q) (h' : QV.fromIter vals' = .ok q') :
    q = q' := by
  have hlen : vals.length = vals'.length := by
    have := congrArg List.length hv
    simpa using this
  exact (qv_fromIter_eq_iff vals vals' hn (by rw [← hlen]; exact hn) h h').mpr hv

/-! ## 3. determinism, decidable equality -/

/-- the constructors are functions of their arguments: equal inputs, equal values
    (`new`, `From<Vec>`, `FromIterator` are the same model function) -/
theorem qwt_deterministic (c : Cfg) (seq : Array Nat) {t t' : QWTree.QWT}
    (h : QWTree.new c seq = .ok t) (h' : QWTree.new c seq = .ok t') : t = t' :=
  Cor.ok_inj (h.symm.trans h')

theorem hqwt_deterministic (c : Cfg) (seq : Array Nat) (lens : List (Nat × Nat))
    {t t' : Huff.HQWT} (h : Huff.new c seq lens = .ok t) (h' : Huff.new c seq lens = .ok t') :
    t = t' :=
  Cor.ok_inj (h.symm.trans h')

theorem wt_deterministic (c : Cfg) (comp : Bool) (seq : Array Nat) (lens : List (Nat × Nat))
    {t t' : BinWT.WT} (h : BinWT.new c comp seq lens = .ok t)
    (h' : BinWT.new c comp seq lens = .ok t') : t = t' :=
  Cor.ok_inj (h.symm.trans h')

theorem rsq_deterministic (dbg : Bool) (B : Nat) (qv : QV.QVector) {r r' : RSQ.RSQVector}
    (h : RSQ.fromQV dbg B qv = .ok r) (h' : RSQ.fromQV dbg B qv = .ok r') : r = r' :=
  Cor.ok_inj (h.symm.trans h')

theorem rsw_deterministic (b : BV.BitVector) {r r' : RSW.RSWide}
    (h : RSW.new b = .ok r) (h' : RSW.new b = .ok r') : r = r' :=
  Cor.ok_inj (h.symm.trans h')

theorem rsn_deterministic (b : BV.BitVector) {r r' : RSN.RSNarrow}
    (h : RSN.new b = .ok r) (h' : RSN.new b = .ok r') : r = r' :=
  Cor.ok_inj (h.symm.trans h')

/-- the derived `PartialEq` (structural equality of the state) is decidable on every type -/
example : DecidableEq QWTree.QWT := inferInstance
example : DecidableEq Huff.HQWT := inferInstance
example : DecidableEq BinWT.WT := inferInstance
example : DecidableEq RSQ.RSQVector := inferInstance
example : DecidableEq RSW.RSWide := inferInstance
example : DecidableEq RSN.RSNarrow := inferInstance
example : DecidableEq DA.DArray := inferInstance
example : DecidableEq BV.BitVector := inferInstance
example : DecidableEq QV.QVector := inferInstance

/-! ## 4. `Clone` and the serialisation round trip

`Clone` is the identity on states.  The decoded copy of a value is the value (C11), so it
answers every query like the original — composed here with the query theorems for a tree built
by `new`.  `qwtWF` says only what the Rust types guarantee (numbers fit their machine width). -/

open Qwt.Codec in
theorem qwt_decoded_copy {c : Cfg} {S : List Nat} (hB : c.B = 256 ∨ c.B = 512) (hW : 0 < c.W)
    (hS : ∀ x ∈ S, x < 2 ^ c.W) (hlen : S.length < 2 ^ 43) {t : QWTree.QWT}
    (hnew : QWTree.new c S.toArray = .ok t) (wbytes : Nat) (hwf : qwtWF wbytes t) :
    ∃ t', (decode (qwtTy wbytes) (encode (qwtVal wbytes t))).bind (fun p => qwtOfVal p.1) = some t' ∧
      t' = t ∧ (∀ i, QWTree.get c t' i = .ok S[i]?) ∧
      (∀ sym k, QWTree.select c t' sym k =
        .ok (if S ≠ [] ∧ sym ≤ Spec.maxNat S then Spec.select sym k S else none)) :=
  ⟨t, C11.roundtrip_QWT wbytes t hwf, rfl, C09.get_ok hB hW hS hlen hnew,
    C09.select_ok hB hW hS hlen hnew⟩

/-- every bit vector satisfying the C08 invariant, of fewer than `2^64` bits, is well-formed for the
    codec, so its decoded copy is equal to it -/
theorem bvWF_of_inv {b : BV.BitVector} (hb : BV.Inv b) (hn : b.nBits < 2 ^ 64) : Codec.bvWF b := by
  refine ⟨by rw [hb.size]; exact Nat.mul_mod_right 8 _,
    by rw [hb.size, Nat.mul_div_cancel_left _ (by decide)]; omega, ?_, hn, ?_⟩
  · intro x hx
    obtain ⟨j, hj, rfl⟩ := Array.mem_iff_getElem.mp (Array.mem_toList_iff.mp hx)
    exact hb.words j hj
  · rw [hb.ones]
    exact Nat.lt_of_le_of_lt List.count_le_length (BV.abs_length b ▸ hn)

open Qwt.Codec in
theorem bv_decoded_copy {b : BV.BitVector} (hb : BV.Inv b) (hn : b.nBits < 2 ^ 64) :
    (decode bvTy (encode (bvVal b))).bind (fun p => bvOfVal p.1) = some b :=
  C11.roundtrip_BitVector b (bvWF_of_inv hb hn)

theorem qvWF_of_inv {q : QV.QVector} (hq : QV.Inv q) (hn : q.position < 2 ^ 64) : Codec.qvWF q := by
  refine ⟨by rw [hq.size]; exact Nat.mul_mod_right 4 _,
    by rw [hq.size, Nat.mul_div_cancel_left _ (by decide)]; omega, ?_, hn⟩
  intro x hx
  obtain ⟨j, hj, rfl⟩ := Array.mem_iff_getElem.mp (Array.mem_toList_iff.mp hx)
  exact QV.wd_of_lt hj ▸ hq.word j

open Qwt.Codec in
theorem qv_decoded_copy {q : QV.QVector} (hq : QV.Inv q) (hn : q.position < 2 ^ 64) :
    (decode qvTy (encode (qvVal q))).bind (fun p => qvOfVal p.1) = some q :=
  C11.roundtrip_QVector q (qvWF_of_inv hq hn)

/-! ## 5. construction paths of bit vectors (bool-based, position-based, any history) -/

/-- any two histories of mutator calls that describe the same bit sequence build equal
    vectors -/
theorem bv_paths (h₁ h₂ : List BV.Op) (hp₁ : BV.HistPre h₁ []) (hp₂ : BV.HistPre h₂ [])
    {b₁ b₂ : BV.BitVector} (r₁ : BV.run h₁ {} = .ok b₁) (r₂ : BV.run h₂ {} = .ok b₂) :
    b₁ = b₂ ↔ BV.runSpec h₁ [] = BV.runSpec h₂ [] := by
  obtain ⟨i₁, a₁⟩ := C08.reachable_inv h₁ hp₁ b₁ r₁
  obtain ⟨i₂, a₂⟩ := C08.reachable_inv h₂ hp₂ b₂ r₂
  rw [C08.eq_iff_abs b₁ b₂ i₁ i₂, a₁, a₂]

/-- `FromIterator<bool>` and `FromIterator<usize>`: equal as soon as the positions describe the
    bits (`specSetPos` pads with zeros up to the position and sets it) -/
theorem bv_bools_positions (bs : List Bool) (ps : List Nat) (hn : bs.length < two64)
    (hps : ∀ p ∈ ps, p + 512 < two64) (hsame : ps.foldl BV.specSetPos [] = bs)
    {b₁ b₂ : BV.BitVector} (h₁ : BV.fromBools bs = .ok b₁) (h₂ : BV.fromPositions ps = .ok b₂) :
    b₁ = b₂ := by
  obtain ⟨i1, a1⟩ := of_exists_ok (C08.fromBools_ok bs hn) h₁
  obtain ⟨i2, a2⟩ := of_exists_ok (C08.fromPositions_ok ps hps) h₂
  rw [C08.eq_iff_abs b₁ b₂ i1 i2, a1, a2, hsame]

theorem bv_fromBools_inj (bs bs' : List Bool) (hn : bs.length < two64) (hn' : bs'.length < two64)
    {b : BV.BitVector} (h : BV.fromBools bs = .ok b) (h' : BV.fromBools bs' = .ok b) : bs = bs' :=
  (of_exists_ok (C08.fromBools_ok bs hn) h).2.symm.trans (of_exists_ok (C08.fromBools_ok bs' hn') h').2

/-! The reversed length table of the example of `Props/C02.lean` is admissible as well. -/

theorem exLensOK_rev : LensOK 4 C02.exLens.reverse :=
  ⟨by decide, by decide, by decide, by decide, by decide⟩

theorem exSyms_rev : ∀ s, s ∈ C02.exLens.reverse.map (·.1) ↔ s ∈ C02.exS := by
  intro s
  rw [← C02.exSyms s]
  simp only [List.map_reverse, List.mem_reverse]

/-! ## non-vacuity -/

section examples

example (t t' : QWTree.QWT) (h : QWTree.new { W := 8 } [1, 0, 1, 0, 2, 4, 5, 3].toArray = .ok t)
    (h' : QWTree.new { W := 8 } [1, 0, 1, 0, 2, 4, 5, 2].toArray = .ok t') : (t == t') = false :=
  qwt_ne (Or.inl rfl) (by decide) (by decide) (by decide) (by decide) (by decide) h h' (by decide)

example : (do let t ← QWTree.new { W := 8 } #[1, 0, 1, 0, 2, 4, 5, 3]
              let t' ← QWTree.new { W := 8 } #[1, 0, 1, 0, 2, 4, 5, 2]
              pure (t == t')) = .ok false := by decide +kernel

/-- `u8` versus `u64` (and 256- versus 512-symbol blocks, prefetch on/off): same answers -/
example (t₁ t₂ : QWTree.QWT) (h₁ : QWTree.new { W := 8 } [1, 0, 1, 0, 2, 4, 5, 3].toArray = .ok t₁)
    (h₂ : QWTree.new { B := 512, pfs := true, W := 64 } [1, 0, 1, 0, 2, 4, 5, 3].toArray = .ok t₂)
    (sym k : Nat) :
    QWTree.select { W := 8 } t₁ sym k = QWTree.select { B := 512, pfs := true, W := 64 } t₂ sym k :=
  (qwt_width { W := 8 } { B := 512, pfs := true, W := 64 } (Or.inl rfl) (Or.inr rfl) (by decide)
    (by decide) (by decide) (by decide) (by decide) h₁ h₂).2.2.1 sym k

/-- in the model the two trees are even the same state (evaluation; `u8` vs `u128`) -/
example : (do let t₁ ← QWTree.new { W := 8 } #[1, 0, 1, 0, 2, 4, 5, 3]
              let t₂ ← QWTree.new { W := 128 } #[1, 0, 1, 0, 2, 4, 5, 3]
              pure (t₁ == t₂)) = .ok true := by decide +kernel

/-- two orders of the length table (two `HashMap` iteration orders): the Huffman trees answer
    identically — and here they are different states -/
example (t₁ t₂ : Huff.HQWT) (h₁ : Huff.new C02.exC C02.exS.toArray C02.exLens = .ok t₁)
    (h₂ : Huff.new C02.exC C02.exS.toArray C02.exLens.reverse = .ok t₂) (sym i : Nat) :
    Huff.rank C02.exC t₁ sym i = Huff.rank C02.exC t₂ sym i :=
  (hqwt_paths_same_answers C02.exC (Or.inl rfl) (by decide) (by decide) (by decide) (by decide)
    C02.exLens C02.exLens.reverse C02.exLensOK C02.exSyms exLensOK_rev exSyms_rev h₁ h₂).2.1 sym i

example : (do let t₁ ← Huff.new C02.exC C02.exS.toArray C02.exLens
              let t₂ ← Huff.new C02.exC C02.exS.toArray C02.exLens.reverse
              pure (t₁ == t₂)) = .ok false := by decide +kernel

/-- quad vectors: `[5, -1, 2, 7]` as `i8` and `[1, 255, 2, 3]` as `u8` are the same vector -/
example (q q' : QV.QVector) (h : QV.fromIter [5, -1, 2, 7] = .ok q)
    (h' : QV.fromIter [1, 255, 2, 3] = .ok q') : q = q' :=
  qv_width _ _ (by decide) (by decide) h h'

example (b₁ b₂ : BV.BitVector) (h₁ : BV.fromBools [false, true, false, true] = .ok b₁)
    (h₂ : BV.fromPositions [3, 1] = .ok b₂) : b₁ = b₂ :=
  bv_bools_positions _ _ (by decide) (by decide) (by decide) h₁ h₂

example : (do let b₁ ← BV.fromBools [false, true, false, true]
              let b₂ ← BV.fromPositions [3, 1]
              pure (b₁ == b₂)) = .ok true := by decide +kernel

example : (do let b ← BV.fromBools [true, false]; let b' ← BV.fromBools [true, true]
              let r ← RSW.new b; let r' ← RSW.new b'
              pure (r == r')) = .ok false := by decide +kernel

end examples

end Qwt.Props.C19
