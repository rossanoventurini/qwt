import Qwt.Proofs.DArraySelect

/-!
# C07 — `DArray` answers `select1` / `select0` like the plain bit sequence

`BV.HoldsD b s` (defined in `Qwt/Proofs/DArraySelect.lean`) is the word-level representation
predicate: `nBits = |s|`, `data.size = 8·⌈|s|/512⌉`, bit `i` is bit `i % 64` of word `i / 64`,
padding bits are zero, words are `< 2^64`.

Two facts proved elsewhere are taken as hypotheses:

* `SelectInWordSpec` — `select_in_word` is select on the 64 bits of a word (C17);
* `PosIterSpec b s` — the position iterator of the bit vector enumerates the positions of a
  bit in increasing order (C08).

Everything else is proved here from the model: the inventory invariant (with the *alignment*
of the shared sub-block array, for every interleaving of dense and sparse groups and a partial
last group), the query `select` (sparse lookup, dense sub-block start + word scan), counts,
and the empty structure.  The constants `daBlockSize = 1024`, `daSubblockSize = 32`,
`daMaxInBlockDistance = 65536` are re-checked by `decide` (`DAProofs.daBlockSize_eq` …).
-/
namespace Qwt.Props.C07
open Qwt Qwt.DA Qwt.BV Qwt.Extracted Qwt.DAProofs

abbrev SelectInWordSpec : Prop := DAProofs.SelectInWordSpec

abbrev PosIterSpec (b : BitVector) (s : List Bool) : Prop := DAProofs.PosIterSpec b s

theorem posIterSpec_iff (b : BitVector) (s : List Bool) :
    PosIterSpec b s ↔ ∀ bit, PosIter.collect bit b (b.nBits + 1) PosIter.new =
      (List.range s.length).filter (fun i => s[i]! = bit) := Iff.rfl

theorem positions_eq (bit : Bool) (s : List Bool) :
    Spec.positions bit s = (List.range s.length).filter (fun i => decide (s[i]! = bit)) := by
  unfold Spec.positions
  apply List.filter_congr
  intro i hi
  have hi' : i < s.length := by simpa using hi
  rw [getElem!_pos s i hi', List.getElem?_eq_getElem hi']
  cases s[i] <;> cases bit <;> rfl

theorem select_eq_positions (bit : Bool) (k : Nat) (s : List Bool) :
    Spec.select bit k s = (Spec.positions bit s)[k]? := by
  rw [select_eq_filter]; rfl

theorem positions_lt (bit : Bool) (s : List Bool) {i j p q : Nat} (hij : i < j)
    (hp : (Spec.positions bit s)[i]? = some p) (hq : (Spec.positions bit s)[j]? = some q) :
    p < q := filter_range_lt _ _ hij hp hq

theorem take_count (c : Bool) (s : List Bool) (p : Nat) (hp : p ≤ s.length) :
    (s.take p).count c = cnt (fun i => s[i]? == some c) p := by
  induction p with
  | zero => simp
  | succ p ih =>
    have hlt : p < s.length := by omega
    rw [List.take_add_one, List.getElem?_eq_getElem hlt, List.count_append, ih (by omega), cnt_succ,
      List.getElem?_eq_getElem hlt]
    congr 1
    cases s[p] <;> cases c <;> rfl

theorem positions_length (bit : Bool) (s : List Bool) :
    (Spec.positions bit s).length = s.count bit := by
  unfold Spec.positions
  rw [length_filter_range, ← take_count bit s s.length (Nat.le_refl _), List.take_length]

theorem count_true_add_false (s : List Bool) : s.count true + s.count false = s.length :=
  Qwt.count_true_add_false s

theorem invNew_eq (bit : Bool) (b : BitVector) :
    invNew bit b =
      { (chunks 1024 (PosIter.collect bit b (b.nBits + 1) PosIter.new)).foldl flushBlock {} with
        nSets := (PosIter.collect bit b (b.nBits + 1) PosIter.new).length } := by
  unfold invNew; rw [daBlockSize_eq]

/-- **Inventory invariant** (`InvSpec`, `Qwt/Proofs/DArrayInv.lean`) for the list produced by the
    position iterator, whatever that list is.  The slot `32 g` of group `g` does not depend on
    the kinds of the groups before it: alignment. -/
theorem invNew_spec (bit : Bool) (b : BitVector) :
    (invNew bit b).nSets = (PosIter.collect bit b (b.nBits + 1) PosIter.new).length ∧
    InvSpec (PosIter.collect bit b (b.nBits + 1) PosIter.new) (invNew bit b) := by
  rw [invNew_eq]
  have h := invSpec_fold (PosIter.collect bit b (b.nBits + 1) PosIter.new)
  exact ⟨rfl, ⟨h.bsize, h.ssize, h.dense, h.sparse⟩⟩

theorem inventory_ok (bit : Bool) {b : BitVector} {s : List Bool} (hpos : PosIterSpec b s) :
    (invNew bit b).nSets = s.count bit ∧ InvSpec (Spec.positions bit s) (invNew bit b) := by
  have h := invNew_spec bit b
  rw [hpos bit, ← positions_eq] at h
  rw [← positions_length]
  exact h

/-- the sizes: one block entry per group, `⌈|group|/32⌉` sub-block entries per group of either
    kind, which add up to `⌈count/32⌉` -/
theorem inventory_sizes (bit : Bool) {b : BitVector} {s : List Bool} (hpos : PosIterSpec b s) :
    (invNew bit b).nSets = s.count bit ∧
    (invNew bit b).blockInventory.size = (s.count bit + 1023) / 1024 ∧
    (invNew bit b).subblockInventory.size = (s.count bit + 31) / 32 := by
  obtain ⟨h1, h2⟩ := inventory_ok bit hpos
  rw [← positions_length]
  rw [← positions_length] at h1
  exact ⟨h1, h2.bsize, h2.ssize⟩

/-- the sum form of the alignment statement: every group reserves `⌈|group|/32⌉` slots and
    the slots before group `g` add up to `32 g` -/
theorem alignment (ps : List Nat) (g : Nat) (hg : 1024 * g < ps.length) :
    subOff (chunks 1024 ps) g = 32 * g ∧
    (((chunks 1024 ps).foldl flushBlock {}).subblockInventory.size
      = ((chunks 1024 ps).map slots).sum) :=
  ⟨subOff_chunks ps g hg, (foldInv_chunks ps).ssize⟩

/-- in a dense group the stored 16-bit offsets are exact (no wrap-around): positions are
    increasing, so every offset is at most last − first < 65536 -/
theorem dense_entry_exact (bit : Bool) {b : BitVector} {s : List Bool} (hpos : PosIterSpec b s)
    (g j : Nat) (hj : j < 32) (hlt : 1024 * g + 32 * j < (Spec.positions bit s).length)
    (hd : (Spec.positions bit s).getD (min (1024 * g + 1023) ((Spec.positions bit s).length - 1)) 0
      - (Spec.positions bit s).getD (1024 * g) 0 < 65536) :
    (invNew bit b).blockInventory[g]? = some (Int.ofNat ((Spec.positions bit s).getD (1024 * g) 0)) ∧
    (invNew bit b).subblockInventory[32 * g + j]? =
      some ((Spec.positions bit s).getD (1024 * g + 32 * j) 0 - (Spec.positions bit s).getD (1024 * g) 0) ∧
    (Spec.positions bit s).getD (1024 * g + 32 * j) 0 - (Spec.positions bit s).getD (1024 * g) 0 < 65536 := by
  obtain ⟨_, h2⟩ := inventory_ok bit hpos
  obtain ⟨off, hb, hs, he, hlt'⟩ := h2.dense_start
    (fun i j hij hj => filter_range_getD_le _ _ hij (by rwa [← length_filter_range])) hj hlt hd
  obtain rfl : off = (Spec.positions bit s).getD (1024 * g + 32 * j) 0
      - (Spec.positions bit s).getD (1024 * g) 0 := by omega
  exact ⟨hb, hs, hlt'⟩

/-- **`select` is correct and never faults**: for every `k`, dense or sparse groups in any
    order, `bit = true` or `false` -/
theorem select_ok (bit : Bool) (s0 : Bool) {b : BitVector} {s : List Bool} (hb : HoldsD b s)
    (hsel : SelectInWordSpec) (hpos : PosIterSpec b s) (k : Nat) :
    DA.select bit (DA.new s0 b) (invNew bit b) k = .ok (Spec.select bit k s) := by
  obtain ⟨h1, h2⟩ := invNew_spec bit b
  rw [select_of_positions hb bit hsel rfl (hpos bit) h1 h2 k, hpos bit, select_eq_positions,
    positions_eq]

theorem select1_ok (s0 : Bool) {b : BitVector} {s : List Bool} (hb : HoldsD b s)
    (hsel : SelectInWordSpec) (hpos : PosIterSpec b s) (k : Nat) :
    DA.select1 (DA.new s0 b) k = .ok (Spec.select true k s) :=
  select_ok true s0 hb hsel hpos k

theorem select0_ok {b : BitVector} {s : List Bool} (hb : HoldsD b s)
    (hsel : SelectInWordSpec) (hpos : PosIterSpec b s) (k : Nat) :
    DA.select0 true (DA.new true b) k = .ok (Spec.select false k s) :=
  select_ok false true hb hsel hpos k

/-- `select0` without `SELECT0_SUPPORT`: the documented assertion, on every structure -/
theorem select0_unsupported (d : DArray) (k : Nat) :
    DA.select0 false d k = .error .assertDoc := rfl

theorem select_none_iff (bit : Bool) (k : Nat) (s : List Bool) :
    Spec.select bit k s = none ↔ s.count bit ≤ k := by
  rw [select_eq_positions, List.getElem?_eq_none_iff, positions_length]

theorem countOnes_ok (s0 : Bool) {b : BitVector} {s : List Bool} (hpos : PosIterSpec b s) :
    DA.countOnes (DA.new s0 b) = s.count true :=
  (inventory_ok true hpos).1

theorem countZeros_ok (s0 : Bool) {b : BitVector} {s : List Bool} (hb : HoldsD b s)
    (hpos : PosIterSpec b s) : DA.countZeros (DA.new s0 b) = .ok (s.count false) := by
  have h1 : (DA.new s0 b).ones.nSets = s.count true := (inventory_ok true hpos).1
  have h2 := count_true_add_false s
  unfold DA.countZeros
  rw [h1, show (DA.new s0 b).bv.nBits = s.length from hb.nBits, sub_ok (by omega)]
  congr 1
  omega

theorem len_ok (s0 : Bool) {b : BitVector} {s : List Bool} (hb : HoldsD b s) :
    DA.len (DA.new s0 b) = s.length := hb.nBits

theorem get_delegates (s0 : Bool) (b : BitVector) (i : Nat) :
    DA.get (DA.new s0 b) i = BV.get b i := rfl

theorem get_ok (s0 : Bool) {b : BitVector} {s : List Bool} (hb : HoldsD b s) (i : Nat) :
    DA.get (DA.new s0 b) i = .ok s[i]? := by
  rw [get_delegates]
  unfold BV.get
  by_cases hi : i ≥ b.nBits
  · rw [if_pos hi, List.getElem?_eq_none (by rw [← hb.nBits]; exact hi)]
    rfl
  · have hlt : i < s.length := by rw [← hb.nBits]; exact Nat.lt_of_not_le hi
    have hw := hb.word_lt hlt
    unfold getUnchecked getBitSlice
    rw [if_neg hi, Nat.shiftRight_eq_div_pow, Nat.and_two_pow_sub_one_eq_mod i 6,
      idx_ok hw, List.getElem?_eq_getElem hlt, ← hb.testBit_eq hlt, ← shr_and_one_eq_testBit,
      getElem!_pos b.data _ hw]
    rfl

theorem invNew_empty (bit : Bool) : invNew bit {} = {} := by
  unfold invNew
  have : PosIter.collect bit {} (({} : BitVector).nBits + 1) PosIter.new = [] := by
    cases bit <;> rfl
  rw [this]
  unfold chunks
  simp

theorem default_select1 (s0 : Bool) (k : Nat) : DA.select1 (DA.new s0 {}) k = .ok none := by
  unfold DA.select1 DA.select DA.new
  simp only [invNew_empty]
  rfl

theorem default_select0 (k : Nat) : DA.select0 true (DA.new true {}) k = .ok none := by
  unfold DA.select0 DA.select DA.new
  simp only [invNew_empty]
  rfl

theorem default_ok (s0 : Bool) (k : Nat) :
    DA.select1 (DA.new s0 {}) k = .ok none ∧
    DA.select0 s0 (DA.new s0 {}) k = (if s0 then .ok none else .error .assertDoc) ∧
    DA.countOnes (DA.new s0 {}) = 0 ∧ DA.countZeros (DA.new s0 {}) = .ok 0 ∧
    DA.len (DA.new s0 {}) = 0 ∧ DA.get (DA.new s0 {}) k = .ok none := by
  refine ⟨default_select1 s0 k, ?_, ?_, ?_, rfl, rfl⟩
  · cases s0
    · rfl
    · exact default_select0 k
  · unfold DA.countOnes DA.new; simp only [invNew_empty]
  · unfold DA.countZeros DA.new; simp only [invNew_empty]; rfl

/-- the empty vector satisfies the hypotheses of the general theorems -/
theorem holds_empty : HoldsD {} [] where
  nBits := rfl
  size := rfl
  lt := by intro i h; exact absurd h (Nat.not_lt_zero _)
  bit := by intro p h; exact absurd h (by simp)

theorem posIterSpec_empty : PosIterSpec {} [] := by
  intro bit; cases bit <;> rfl

/-! ## the code before the repair was wrong (witness)

`flushBlockP` is `flush_block` with the constants as parameters; with `old = true` the
sparse branch reserves `len` slots of the shared sub-block array (the original code) instead
of `⌈len/sub⌉`.  With groups of 4, sub-blocks of 2 and a distance limit of 8, the sparse
group `[0,10,20,30]` followed by the dense group `[31,33,34]`: the entries of group 1 must
start at slot `(4/2)·1 = 2`. -/

def flushBlockP (sub maxd : Nat) (old : Bool) (inv : Inventories) (cur : List Nat) : Inventories :=
  match cur with
  | [] => inv
  | first :: _ =>
    let last := cur.getLast?.getD first
    if last - first < maxd then
      { inv with
        blockInventory := inv.blockInventory.push (Int.ofNat first),
        subblockInventory := inv.subblockInventory ++
          ((everyNth sub cur).map (fun p => (p - first) % 65536)).toArray }
    else
      { inv with
        blockInventory := inv.blockInventory.push (-(Int.ofNat inv.overflowPositions.size) - 1),
        overflowPositions := inv.overflowPositions ++ cur.toArray,
        subblockInventory := inv.subblockInventory ++
          Array.replicate (if old then cur.length else (cur.length + sub - 1) / sub) 65535 }

/-- the parametric function is the model's `flushBlock` at the crate's constants -/
theorem flushBlockP_model :
    flushBlockP daSubblockSize daMaxInBlockDistance false = flushBlock := by
  funext inv cur
  cases cur <;> rfl

/-- repaired code: group 1 starts at slot 2 (offsets `0`, `34 − 31 = 3`) -/
theorem witness_new :
    ([[0, 10, 20, 30], [31, 33, 34]].foldl (flushBlockP 2 8 false) {}) =
      { nSets := 0, blockInventory := #[-1, 31], subblockInventory := #[65535, 65535, 0, 3],
        overflowPositions := #[0, 10, 20, 30] } := by decide +kernel

/-- original code: slot 2 is a filler of the sparse group, the entries of group 1 sit at
    slots 4, 5 — `select` of element 4 (`k / sub = 2`) would read the offset 65535 -/
theorem witness_old :
    ([[0, 10, 20, 30], [31, 33, 34]].foldl (flushBlockP 2 8 true) {}) =
      { nSets := 0, blockInventory := #[-1, 31],
        subblockInventory := #[65535, 65535, 65535, 65535, 0, 3],
        overflowPositions := #[0, 10, 20, 30] } := by decide +kernel

theorem witness_old_misaligned :
    ([[0, 10, 20, 30], [31, 33, 34]].foldl (flushBlockP 2 8 true) {}).subblockInventory[2]?
      ≠ ([[0, 10, 20, 30], [31, 33, 34]].foldl (flushBlockP 2 8 false) {}).subblockInventory[2]? := by
  decide +kernel

/-! ## concrete evaluations (non-vacuity)

`decide +kernel` evaluates the model itself in the Lean kernel (no compiled code is trusted;
the only axioms are `propext` / `Quot.sound`). -/

/-- the bit vector `BitVector::from_iter([0,12,33,42,55,61,1000])`: 1001 bits, 2 lines -/
def bEx : BitVector :=
  { data := #[2 ^ 0 + 2 ^ 12 + 2 ^ 33 + 2 ^ 42 + 2 ^ 55 + 2 ^ 61, 0, 0, 0, 0, 0, 0, 0,
              0, 0, 0, 0, 0, 0, 0, 2 ^ 40],
    nBits := 1001, nOnes := 7 }

example : (BV.fromPositions [0, 12, 33, 42, 55, 61, 1000]).toOption = some bEx := by
  decide +kernel

example : Out.ofOpt (DA.select1 (DA.new true bEx) 0) = .some 0 := by decide +kernel
example : Out.ofOpt (DA.select1 (DA.new true bEx) 1) = .some 12 := by decide +kernel
example : Out.ofOpt (DA.select1 (DA.new true bEx) 6) = .some 1000 := by decide +kernel
example : Out.ofOpt (DA.select1 (DA.new true bEx) 7) = .none := by decide +kernel
example : DA.countOnes (DA.new false bEx) = 7 := by decide +kernel
example : Out.ofVal (DA.countZeros (DA.new false bEx)) = .val 994 := by decide +kernel
example : Out.ofOpt (DA.select0 false (DA.new false bEx) 3) = .fault .assertDoc := by decide

/-- a 70-bit vector with ones at 0, 12, 33, 42, 55, 61, 69 and the list it holds: the
    hypotheses `HoldsD` and `PosIterSpec` of the theorems are satisfiable -/
def bEx2 : BitVector :=
  { data := #[2 ^ 0 + 2 ^ 12 + 2 ^ 33 + 2 ^ 42 + 2 ^ 55 + 2 ^ 61, 2 ^ 5, 0, 0, 0, 0, 0, 0],
    nBits := 70, nOnes := 7 }
def sEx2 : List Bool := (List.range 70).map (fun i => decide (i ∈ [0, 12, 33, 42, 55, 61, 69]))

/-- a tabulated function read without building the table (the kernel rebuilds `List.range n` at
    every access to `sEx2`) -/
theorem getElem!_map_range (f : Nat → Bool) (n p : Nat) :
    ((List.range n).map f)[p]! = (decide (p < n) && f p) := by
  by_cases h : p < n
  · rw [getElem!_pos _ p (by simpa using h), List.getElem_map, List.getElem_range,
      decide_eq_true h, Bool.true_and]
  · rw [getElem!_neg _ p (by simpa using h), decide_eq_false h]
    rfl

theorem getD_map_range (f : Nat → Bool) (n p : Nat) :
    ((List.range n).map f).getD p false = (decide (p < n) && f p) := by
  rw [List.getD_eq_getElem?_getD, ← getElem!_map_range, List.getElem!_eq_getElem?_getD]
  rfl

/-- the `bit` field of `HoldsD` word by word: `∀ i < size, ∀ q < 64` evaluates in far fewer
    steps than one bounded quantifier over all positions -/
theorem bit_of_words {b : BitVector} {s : List Bool}
    (h : ∀ i, i < b.data.size → ∀ q, q < 64 →
      (b.data[i]!).testBit q = s.getD (64 * i + q) false) :
    ∀ p, p < 64 * b.data.size → (b.data[p / 64]!).testBit (p % 64) = s.getD p false := by
  intro p hp
  have := h (p / 64) (by omega) (p % 64) (Nat.mod_lt _ (by decide))
  rwa [Nat.div_add_mod] at this

theorem holdsEx2 : HoldsD bEx2 sEx2 where
  nBits := by decide +kernel
  size := by decide +kernel
  lt := by decide +kernel
  bit := by
    apply bit_of_words
    unfold sEx2
    simp only [getD_map_range]
    decide +kernel

theorem posIterSpecEx2 : PosIterSpec bEx2 sEx2 := by
  unfold PosIterSpec DAProofs.PosIterSpec sEx2
  simp only [getElem!_map_range]
  intro bit
  cases bit <;> decide +kernel

example : Out.ofOpt (DA.select0 true (DA.new true bEx2) 0) = .some 1 := by decide +kernel
example : Out.ofOpt (DA.select0 true (DA.new true bEx2) 40) = .some 44 := by decide +kernel
example : Out.ofOpt (DA.select0 true (DA.new true bEx2) 62) = .some 68 := by decide +kernel
example : Out.ofOpt (DA.select0 true (DA.new true bEx2) 63) = .none := by decide +kernel
example : Out.ofOpt (DA.select1 (DA.new true bEx2) 6) = .some 69 := by decide +kernel

/-- the general theorem instantiated: the model's answer is the specification's -/
example (hsel : SelectInWordSpec) (k : Nat) :
    DA.select0 true (DA.new true bEx2) k = .ok (Spec.select false k sEx2) :=
  select0_ok holdsEx2 hsel posIterSpecEx2 k

example : Spec.select false 40 sEx2 = some 44 := by decide +kernel

end Qwt.Props.C07
