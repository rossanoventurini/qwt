import Qwt.Props.C19

/-!
# C19 — every builder history builds the same quad vector

`QVectorBuilder` is filled by `push`, by `extend` (in chunks of any size, from iterators with or without an
exact size hint — the size hint is not used by the code) or by `collect`.  Whatever the chunking, the value
built is the one `collect` builds from the concatenation: the harness drives these paths (`qvpush`, `qvext`,
`qvx`, `rsq:frombuilder`, `rsq:inexact`) and compares them with `==`; here the statement is proved for all
histories.
-/
namespace Qwt.Props.C19
open Qwt

/-- extending by `xs ++ ys` is extending by `xs`, then by `ys` -/
theorem qv_extend_append (b : QV.QVectorBuilder) (xs ys : List Int) :
    QV.extend b (xs ++ ys) = (QV.extend b xs >>= fun b' => QV.extend b' ys) := by
  unfold QV.extend
  rw [List.foldlM_append]

/-- an `extend` by one value is a single `push` (`push` takes the `u8` the caller already narrowed) -/
theorem qv_push_eq_extend (b : QV.QVectorBuilder) (v : Int) :
    QV.extend b [v] = QV.push b (QV.asU8 v) := by
  unfold QV.extend
  simp [List.foldlM]

theorem foldlM_flatten {m : Type → Type} [Monad m] [LawfulMonad m] {α β : Type}
    (f : β → α → m β) (chunks : List (List α)) (b : β) :
    chunks.foldlM (fun b c => c.foldlM f b) b = chunks.flatten.foldlM f b := by
  induction chunks generalizing b with
  | nil => rfl
  | cons c cs ih =>
    rw [List.foldlM_cons, List.flatten_cons, List.foldlM_append]
    exact bind_congr ih

/-- any sequence of `extend` calls = one `extend` by the concatenation of the chunks -/
theorem qv_chunks_eq_flat (chunks : List (List Int)) (b : QV.QVectorBuilder) :
    chunks.foldlM (fun b c => QV.extend b c) b = QV.extend b chunks.flatten :=
  foldlM_flatten _ chunks b

/-- hence every builder history over the same values builds the vector `collect` builds
    (`QV.fromIter = extend {}`; `build` is the identity on the two fields) -/
theorem qv_builder_paths (chunks : List (List Int)) :
    (chunks.foldlM (fun b c => QV.extend b c) ({} : QV.QVectorBuilder)).map QV.build =
      QV.fromIter chunks.flatten := by
  rw [qv_chunks_eq_flat]
  unfold QV.fromIter QV.build
  cases QV.extend {} chunks.flatten <;> rfl

/-- non-vacuity: three chunks (one of them empty, one a single push) of a 3-symbol sequence -/
example : ([[1, 2], [], [7]].foldlM (fun b c => QV.extend b c) ({} : QV.QVectorBuilder)).map QV.build =
    QV.fromIter [1, 2, 7] := qv_builder_paths [[1, 2], [], [7]]

end Qwt.Props.C19
