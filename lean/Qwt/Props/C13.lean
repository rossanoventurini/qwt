import Qwt.Proofs.QVector

/-!
# Property C13

"A quad vector built by pushing / collecting any integers stores exactly the two least
significant bits of each value, in order."

Model under verification: `Qwt.QV` (`Qwt/Model/QVector.lean`, the model of
`src/qvector/mod.rs`).  Everything is stated against

* `QV.abs q : List Nat` — the stored sequence, read directly from the `u128` words;
* `QV.Inv q` — the representation invariant

(both defined at the head of `Qwt/Proofs/QVector.lean`).

The only size hypotheses are the ones the model's `add64` (usize overflow = fault) forces:
`position + 2 < 2^64` for a push, `2 * length < 2^64` for a collect, `k + 1 < 2^64` for
the iterator counter.  They are necessary: without them the model faults with `overflow`.

The statements about single operations are proved in `Qwt/Proofs/QVector.lean`; here they are
collected, combined (`get_fromIter`, `iterRun_ok`) and each instantiated on a concrete value.
-/
namespace Qwt.Props.C13
open Qwt Qwt.QV

theorem empty_inv : Inv {} ∧ abs {} = [] := QV.empty_inv

example : QV.build {} = ({ data := #[], position := 0 } : QVector) := rfl

/-- `push` never faults below the `usize` limit, keeps the invariant and appends exactly
    the two low bits of the pushed byte.  (`hn` is `add64`'s guard.) -/
theorem push_ok (b : QVector) (s : Nat) (h : Inv b) (hn : b.position + 2 < two64) :
    ∃ b', QV.push b s = .ok b' ∧ Inv b' ∧ abs b' = abs b ++ [s % 4] :=
  QV.push_ok b s h hn

example : ∃ b', QV.push {} 254 = .ok b' ∧ Inv b' ∧ abs b' = [2] :=
  push_ok {} 254 empty_inv.1 (by decide)
example : QV.push {} 254 = .ok { data := #[1, 0, 0, 0], position := 2 } := rfl

/-- `extend` = the fold of `push (asU8 v)`.  The guard is the sharp one (the last `add64`
    computes `position + 2·length`). -/
theorem extend_ok (b : QVector) (vals : List Int) (h : Inv b)
    (hn : b.position + 2 * vals.length < two64) :
    ∃ q, QV.extend b vals = .ok q ∧ Inv q ∧ q.position = b.position + 2 * vals.length ∧
      abs q = abs b ++ vals.map (fun v => (v % 4).toNat) :=
  QV.extend_ok b vals h hn

/-- collecting any integers (negative ones included: `asU8` is two's-complement
    truncation and `(v % 256).toNat % 4 = (v % 4).toNat`). -/
theorem fromIter_ok (vals : List Int) (hn : 2 * vals.length < two64) :
    ∃ q, QV.fromIter vals = .ok q ∧ Inv q ∧ abs q = vals.map (fun v => (v % 4).toNat) :=
  QV.fromIter_ok vals hn

/-- the same under the stronger guard `2·length + 2 < 2^64` -/
theorem fromIter_ok' (vals : List Int) (hn : 2 * vals.length + 2 < two64) :
    ∃ q, QV.fromIter vals = .ok q ∧ Inv q ∧ abs q = vals.map (fun v => (v % 4).toNat) :=
  fromIter_ok vals (Nat.lt_of_le_of_lt (Nat.le_add_right _ 2) hn)

theorem asU8_mod4 (v : Int) : QV.asU8 v % 4 = (v % 4).toNat := QV.asU8_mod4 v

/-- `build` is the identity on the two fields: it keeps the invariant and the stored sequence -/
theorem build_ok (b : QVector) (h : Inv b) : Inv (QV.build b) ∧ abs (QV.build b) = abs b :=
  ⟨h, rfl⟩

example : ∃ q, QV.fromIter [5, -1, 2, 7] = .ok q ∧ Inv q ∧ abs q = [1, 3, 2, 3] :=
  fromIter_ok [5, -1, 2, 7] (by decide)
example : QV.fromIter [5, -1, 2, 7] = .ok { data := #[14, 0, 11, 0], position := 8 } := rfl
example : abs { data := #[14, 0, 11, 0], position := 8 } = [1, 3, 2, 3] := by decide
example : ∃ q, QV.extend { data := #[1, 0, 0, 0], position := 2 } [-6, 1024] = .ok q ∧
    abs q = [2, 2, 0] := by
  obtain ⟨b, e, hb, ab⟩ := push_ok {} 254 empty_inv.1 (by decide)
  cases e
  obtain ⟨q, e, -, -, a⟩ := extend_ok _ [-6, 1024] hb (by decide)
  exact ⟨q, e, by rw [a, ab]; rfl⟩

theorem len_ok (q : QVector) (_h : Inv q) : QV.len q = (abs q).length := QV.len_ok q

theorem isEmpty_ok (q : QVector) (h : Inv q) : QV.isEmpty q = true ↔ abs q = [] :=
  QV.isEmpty_ok h

example : QV.len { data := #[14, 0, 11, 0], position := 8 } = 4 := rfl
example : QV.isEmpty { data := #[14, 0, 11, 0], position := 8 } = false := rfl

/-- `get` is total: the stored symbol inside, `None` beyond the end, never a fault, with
    and without debug assertions -/
theorem get_ok (dbg : Bool) (q : QVector) (h : Inv q) (i : Nat) :
    QV.get dbg q i = .ok (abs q)[i]? := QV.get_ok dbg h i

theorem getUnchecked_ok (dbg : Bool) (q : QVector) (h : Inv q) (i : Nat)
    (hi : i < (abs q).length) : QV.getUnchecked dbg q i = .ok (abs q)[i] :=
  QV.getUnchecked_ok dbg h hi

/-- every value collected is read back as its two low bits -/
theorem get_fromIter (dbg : Bool) (vals : List Int) (hn : 2 * vals.length < two64) (i : Nat) :
    (do let q ← QV.fromIter vals; QV.get dbg q i) =
      .ok (vals[i]?.map (fun v => (v % 4).toNat)) := by
  obtain ⟨q, e, hq, a⟩ := fromIter_ok vals hn
  rw [e]
  show QV.get dbg q i = _
  rw [get_ok dbg q hq, a, List.getElem?_map]

example : (do let q ← QV.fromIter [5, -1, 2, 7]; QV.get true q 1) = .ok (some 3) := rfl
example : (do let q ← QV.fromIter [5, -1, 2, 7]; QV.get false q 4) = .ok none := rfl
example : (do let q ← QV.fromIter [5, -1, 2, 7]; QV.getUnchecked true q 2) = .ok 2 := rfl
example : (do let q ← QV.fromIter [5, -1, 2, 7]; QV.get true q 3) = .ok (some 3) :=
  get_fromIter true [5, -1, 2, 7] (by decide) 3

-- across a line boundary (258 values: the last one is the second symbol of line 1)
set_option maxRecDepth 4000 in
example : (do let q ← QV.fromIter (List.replicate 257 7 ++ [-2]); QV.get true q 257) =
    .ok (some 2) :=
  get_fromIter true (List.replicate 257 7 ++ [-2])
    (by rw [List.length_append, List.length_replicate]; decide) 257

/-- the `k`-th call of `next` (the iterator state is the number of calls made so far):
    it yields `(abs q)[k]` and, once past the end, `none` forever.  `hk` is `add64`'s guard
    on the counter. -/
theorem iter_next_ok (dbg : Bool) (q : QVector) (h : Inv q) (k : Nat) (hk : k + 1 < two64) :
    QV.Iter.next dbg q { i := k } = .ok ((abs q)[k]?, { i := k + 1 }) :=
  QV.iter_next_ok dbg h k hk

/-- `m` calls of `next` in a row, with the list of what they yield -/
def iterRun (dbg : Bool) (q : QVector) : Nat → Iter → M (List (Option Nat) × Iter)
  | 0, it => pure ([], it)
  | m + 1, it => do
    let (v, it) ← QV.Iter.next dbg q it
    let (vs, it) ← iterRun dbg q m it
    pure (v :: vs, it)

theorem iterRun_ok (dbg : Bool) (q : QVector) (h : Inv q) (m k : Nat) (hk : k + m < two64) :
    iterRun dbg q m { i := k } =
      .ok ((List.range m).map (fun j => (abs q)[k + j]?), { i := k + m }) := by
  induction m generalizing k with
  | zero => rfl
  | succ m ih =>
    rw [iterRun, iter_next_ok dbg q h k (by omega)]
    show (do let (vs, it) ← iterRun dbg q m { i := k + 1 }; pure ((abs q)[k]? :: vs, it)) = _
    rw [ih (k + 1) (by omega), List.range_succ_eq_map, List.map_cons, List.map_map]
    show Except.ok _ = Except.ok _
    have e : ((fun j => (abs q)[k + j]?) ∘ Nat.succ) = fun j => (abs q)[k + 1 + j]? := by
      funext j; simp only [Function.comp, Nat.succ_eq_add_one]; congr 1; omega
    rw [e, Nat.add_assoc k 1 m, Nat.add_comm 1 m]
    rfl

example : (do let q ← QV.fromIter [5, -1, 2, 7]; iterRun true q 6 {}) =
    .ok ([some 1, some 3, some 2, some 3, none, none], { i := 6 }) := by
  obtain ⟨q, e, hq, a⟩ := fromIter_ok [5, -1, 2, 7] (by decide)
  rw [e]
  show iterRun true q 6 { i := 0 } = _
  rw [iterRun_ok true q hq 6 0 (by decide), a]
  rfl

/-- `normalize` on an allocated line and a symbol `< 4` never faults and returns two
    `u128`s that are the characteristic bit vectors of `symbol` in the two half-lines:
    bit `j` of word 0 (word 1) is set iff position `256·line + j` (`+ 128`) holds
    `symbol`; padding positions count as symbol 0 (`getD _ 0`).  Bits `≥ 128` are clear
    because the words are `< 2^128`. -/
theorem normalize_ok (q : QVector) (h : Inv q) (line symbol : Nat) (hs : symbol < 4)
    (hl : line < QV.nLines q) :
    ∃ w0 w1, QV.normalize q.data line symbol = .ok (w0, w1) ∧ w0 < 2 ^ 128 ∧ w1 < 2 ^ 128 ∧
      (∀ j, j < 128 → w0.testBit j = decide ((abs q).getD (256 * line + j) 0 = symbol)) ∧
      (∀ j, j < 128 →
        w1.testBit j = decide ((abs q).getD (256 * line + 128 + j) 0 = symbol)) :=
  QV.normalize_ok h hs hl

/-- rank inside a line, restricted to the stored prefix (`i` may not reach into the
    padding of the last line, where the zero padding would be counted as symbol 0) -/
theorem lineRank_ok (dbg : Bool) (q : QVector) (h : Inv q) (line symbol i : Nat)
    (hs : symbol < 4) (hl : line < QV.nLines q) (hi : i ≤ min 256 (QV.len q - 256 * line)) :
    QV.lineRank dbg q.data line symbol i =
      .ok ((((abs q).drop (256 * line)).take i).count symbol) :=
  QV.lineRank_ok dbg h hs hl hi

/-- rank inside a line for every `i ≤ 256`, over the zero-padded sequence -/
theorem lineRank_padded (dbg : Bool) (q : QVector) (h : Inv q) (line symbol i : Nat)
    (hs : symbol < 4) (hl : line < QV.nLines q) (hi : i ≤ 256) :
    QV.lineRank dbg q.data line symbol i =
      .ok ((List.range i).countP (fun j => (abs q).getD (256 * line + j) 0 == symbol)) :=
  QV.lineRank_padded dbg h hs hl hi

/-- number of lines, for the users of `lineRank_ok` -/
theorem nLines_ok (q : QVector) (h : Inv q) : QV.nLines q = ((abs q).length + 255) / 256 := by
  have := h.size
  rw [QV.length_abs]; unfold QV.nLines; omega

example : (do let q ← QV.fromIter [5, -1, 2, 7]; QV.normalize q.data 0 3) = .ok (10, 0) := rfl
example : (do let q ← QV.fromIter [5, -1, 2, 7]; QV.lineRank true q.data 0 3 4) = .ok 2 := by
  obtain ⟨q, e, hq, a⟩ := fromIter_ok [5, -1, 2, 7] (by decide)
  have hl : 0 < QV.nLines q := by rw [nLines_ok q hq, a]; decide
  have hi : 4 ≤ min 256 (QV.len q - 256 * 0) := by rw [len_ok q hq, a]; decide
  rw [e]
  show QV.lineRank true q.data 0 3 4 = _
  rw [lineRank_ok true q hq 0 3 4 (by decide) hl hi, a]
  rfl
/-- beyond the stored prefix the two padding positions 4, 5 are counted as symbol 0 -/
example : (do let q ← QV.fromIter [5, -1, 2, 7]; QV.lineRank false q.data 0 0 6) = .ok 2 := by
  obtain ⟨q, e, hq, a⟩ := fromIter_ok [5, -1, 2, 7] (by decide)
  have hl : 0 < QV.nLines q := by rw [nLines_ok q hq, a]; decide
  rw [e]
  show QV.lineRank false q.data 0 0 6 = _
  rw [lineRank_padded false q hq 0 0 6 (by decide) hl (by decide), a]
  rfl

end Qwt.Props.C13
