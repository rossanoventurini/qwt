import Qwt.Proofs.QWT

/-!
# C01 — the quad wavelet matrix (`QWaveletTree`, `src/quadwt/mod.rs`) answers
`get` / `rank` / `select` like the plain sequence

Hypotheses shared by all theorems (`c : Cfg`, `S : List Nat`):

* `hW   : 0 < c.W`                         the element type has at least one bit
* `hS   : ∀ x ∈ S, x < 2 ^ c.W`            the elements fit the element type
* `hlen : S.length < 2 ^ 43`               the documented length limit of `RSQVector`
* `hLaw : LevelLaw c.dbg c.B`              every level constructor yields a representing
                                           rank/select quad vector (discharged by C05/C13)
* `hP   : PfsTotal c`                      `c.pfs = true → ∀ qv, ∃ p, PFS.new qv _ = .ok p`: true for
                                           `c.pfs = false`; for `c.pfs = true` it asks totality on
                                           every vector, which `PrefetchSupport::new` does not
                                           have, so the theorems below speak of trees without
                                           prefetch support.  `Props/C09.lean` has the statements
                                           for `c.pfs = true`, without this premise.

The answers of `get`/`rank`/`select` never depend on `t.pfs`.
-/

namespace Qwt.Props.C01
open Qwt Qwt.QWTree Qwt.Spec Qwt.WM

/-- `PfsTotal` holds vacuously without prefetch support -/
theorem pfsTotal_of_false {c : Cfg} (h : c.pfs = false) : PfsTotal c := by
  intro h'; rw [h] at h'; cases h'

/-- `QWaveletTree::new` succeeds and establishes the invariant `WM c S t` -/
theorem new_ok (c : Cfg) (S : List Nat) (hW : 0 < c.W) (hS : ∀ x ∈ S, x < 2 ^ c.W)
    (hlen : S.length < 2 ^ 43) (hLaw : LevelLaw c.dbg c.B) (hP : PfsTotal c) :
    ∃ t, QWTree.new c S.toArray = .ok t ∧ t.n = S.length ∧
      (S ≠ [] → t.sigma = Spec.maxNat S ∧
        t.nLevels = (Spec.bitlen (Spec.maxNat S) + 1) / 2) ∧
      WM c S t := by
  obtain ⟨t, ht, hwm⟩ := new_wm c hW S hS hlen hLaw hP
  exact ⟨t, ht, hwm.n_eq, fun hne => ⟨hwm.sigma_eq, hwm.nLevels_eq hne⟩, hwm⟩

/-- without prefetch support no assumption on `PrefetchSupport` is needed and none is built -/
theorem new_ok_nopfs (c : Cfg) (S : List Nat) (hpfs : c.pfs = false) (hW : 0 < c.W)
    (hS : ∀ x ∈ S, x < 2 ^ c.W) (hlen : S.length < 2 ^ 43) (hLaw : LevelLaw c.dbg c.B) :
    ∃ t, QWTree.new c S.toArray = .ok t ∧ t.n = S.length ∧ t.pfs = none ∧
      (S ≠ [] → t.sigma = Spec.maxNat S ∧
        t.nLevels = (Spec.bitlen (Spec.maxNat S) + 1) / 2) ∧
      WM c S t := by
  obtain ⟨t, ht, hwm⟩ := new_wm c hW S hS hlen hLaw (pfsTotal_of_false hpfs)
  exact ⟨t, ht, hwm.n_eq, hwm.pfs_none hpfs, fun hne => ⟨hwm.sigma_eq, hwm.nLevels_eq hne⟩, hwm⟩

theorem wm_of_new {c : Cfg} {S : List Nat} {t : QWT} (hW : 0 < c.W) (hS : ∀ x ∈ S, x < 2 ^ c.W)
    (hlen : S.length < 2 ^ 43) (hLaw : LevelLaw c.dbg c.B) (hP : PfsTotal c)
    (hnew : QWTree.new c S.toArray = .ok t) : WM c S t :=
  of_exists_ok (new_wm c hW S hS hlen hLaw hP) hnew

/-- what the invariant says about the levels: level `k` represents the `k`-th digit list
    `wmLevels L S` of the wavelet matrix (`S_0 = S`, `S_{k+1} = stablePart digit_k 4 S_k`,
    level `k` stores `S_k.map digit_k`, `digit_k x = (x >>> (2 * (L - 1 - k))) % 4`) -/
theorem repLevels_wmLevels {B : Nat} {qvs : Array RSQ.RSQVector} :
    ∀ (f level : Nat) (s : List Nat), RepLevels B qvs level f s →
      ∀ (k : Nat) (D : List Nat), (wmLevels f s)[k]? = some D →
        ∃ r, qvs[level + k]? = some r ∧ RSQ.Represents B r D := by
  intro f
  induction f with
  | zero => intro level s _ k D hD; simp [wmLevels] at hD
  | succ f ih =>
    intro level s h k D hD
    obtain ⟨⟨r, hr, hR⟩, hrest⟩ := h
    cases k with
    | zero =>
      simp only [wmLevels, List.getElem?_cons_zero, Option.some.injEq] at hD
      subst hD
      exact ⟨r, hr, hR⟩
    | succ k =>
      simp only [wmLevels, List.getElem?_cons_succ] at hD
      obtain ⟨r', hr', hR'⟩ := ih (level + 1) _ hrest k D hD
      exact ⟨r', by rw [show level + (k + 1) = level + 1 + k by omega]; exact hr', hR'⟩

theorem wm_levels {c : Cfg} {S : List Nat} {t : QWT} (h : WM c S t) (hne : S ≠ []) (k : Nat)
    (D : List Nat) (hD : (wmLevels t.nLevels S)[k]? = some D) :
    ∃ r, t.qvs[k]? = some r ∧ RSQ.Represents c.B r D := by
  have := repLevels_wmLevels t.nLevels 0 S (h.levels hne) k D hD
  simpa using this

theorem get_ok {c : Cfg} {S : List Nat} {t : QWT} (hW : 0 < c.W) (hS : ∀ x ∈ S, x < 2 ^ c.W)
    (hlen : S.length < 2 ^ 43) (hLaw : LevelLaw c.dbg c.B) (hP : PfsTotal c)
    (hnew : QWTree.new c S.toArray = .ok t) (i : Nat) :
    QWTree.get c t i = .ok S[i]? :=
  (wm_of_new hW hS hlen hLaw hP hnew).get_eq hS i

theorem getUnchecked_ok {c : Cfg} {S : List Nat} {t : QWT} (hW : 0 < c.W)
    (hS : ∀ x ∈ S, x < 2 ^ c.W) (hlen : S.length < 2 ^ 43) (hLaw : LevelLaw c.dbg c.B)
    (hP : PfsTotal c) (hnew : QWTree.new c S.toArray = .ok t) (i : Nat) (hi : i < S.length) :
    QWTree.getUnchecked c t i = .ok S[i] :=
  (wm_of_new hW hS hlen hLaw hP hnew).getUnchecked_eq hS i hi

theorem rank_ok {c : Cfg} {S : List Nat} {t : QWT} (hW : 0 < c.W) (hS : ∀ x ∈ S, x < 2 ^ c.W)
    (hlen : S.length < 2 ^ 43) (hLaw : LevelLaw c.dbg c.B) (hP : PfsTotal c)
    (hnew : QWTree.new c S.toArray = .ok t) (sym i : Nat) :
    QWTree.rank c t sym i =
      .ok (if S ≠ [] ∧ sym ≤ Spec.maxNat S ∧ i ≤ S.length then some (Spec.rank sym i S)
           else none) :=
  (wm_of_new hW hS hlen hLaw hP hnew).rank_eq hW hS sym i

theorem rankUnchecked_ok {c : Cfg} {S : List Nat} {t : QWT} (hW : 0 < c.W)
    (hS : ∀ x ∈ S, x < 2 ^ c.W) (hlen : S.length < 2 ^ 43) (hLaw : LevelLaw c.dbg c.B)
    (hP : PfsTotal c) (hnew : QWTree.new c S.toArray = .ok t) (sym i : Nat)
    (hne : S ≠ []) (hsym : sym ≤ Spec.maxNat S) (hi : i ≤ S.length) :
    QWTree.rankUnchecked c t sym i = .ok (Spec.rank sym i S) :=
  (wm_of_new hW hS hlen hLaw hP hnew).rankUnchecked_eq hW hS sym i hne hsym hi

/-- for every `k` (in particular every `k < 2 ^ 64`) -/
theorem select_ok {c : Cfg} {S : List Nat} {t : QWT} (hW : 0 < c.W) (hS : ∀ x ∈ S, x < 2 ^ c.W)
    (hlen : S.length < 2 ^ 43) (hLaw : LevelLaw c.dbg c.B) (hP : PfsTotal c)
    (hnew : QWTree.new c S.toArray = .ok t) (sym k : Nat) :
    QWTree.select c t sym k =
      .ok (if S ≠ [] ∧ sym ≤ Spec.maxNat S then Spec.select sym k S else none) :=
  (wm_of_new hW hS hlen hLaw hP hnew).select_eq hW hS hlen sym k

/-- `select_unchecked` = `select(..).unwrap()`: no fault exactly when the occurrence exists -/
theorem selectUnchecked_ok {c : Cfg} {S : List Nat} {t : QWT} (hW : 0 < c.W)
    (hS : ∀ x ∈ S, x < 2 ^ c.W) (hlen : S.length < 2 ^ 43) (hLaw : LevelLaw c.dbg c.B)
    (hP : PfsTotal c) (hnew : QWTree.new c S.toArray = .ok t) (sym k p : Nat)
    (hsel : Spec.select sym k S = some p) :
    QWTree.selectUnchecked c t sym k = .ok p := by
  have hne : S ≠ [] := by intro e; subst e; simp [Spec.select] at hsel
  have hsym : sym ≤ Spec.maxNat S := by
    apply Spec.le_maxNat
    apply Classical.byContradiction
    intro hns
    rw [BinWM.select_none (Nat.le_trans (Nat.le_of_eq (List.count_eq_zero.mpr hns)) (Nat.zero_le k))] at hsel
    cases hsel
  simp only [selectUnchecked, select_ok hW hS hlen hLaw hP hnew, if_pos (And.intro hne hsym), hsel,
    ok_bind]
  rfl

theorem len_ok {c : Cfg} {S : List Nat} {t : QWT} (hW : 0 < c.W) (hS : ∀ x ∈ S, x < 2 ^ c.W)
    (hlen : S.length < 2 ^ 43) (hLaw : LevelLaw c.dbg c.B) (hP : PfsTotal c)
    (hnew : QWTree.new c S.toArray = .ok t) : QWTree.len t = S.length :=
  (wm_of_new hW hS hlen hLaw hP hnew).n_eq

theorem isEmpty_ok {c : Cfg} {S : List Nat} {t : QWT} (hW : 0 < c.W) (hS : ∀ x ∈ S, x < 2 ^ c.W)
    (hlen : S.length < 2 ^ 43) (hLaw : LevelLaw c.dbg c.B) (hP : PfsTotal c)
    (hnew : QWTree.new c S.toArray = .ok t) : QWTree.isEmpty t = S.isEmpty := by
  have h := (wm_of_new hW hS hlen hLaw hP hnew).n_eq
  cases S with
  | nil => simp [QWTree.isEmpty, h]
  | cons a l => simp [QWTree.isEmpty, h]

theorem sigma_ok {c : Cfg} {S : List Nat} {t : QWT} (hW : 0 < c.W) (hS : ∀ x ∈ S, x < 2 ^ c.W)
    (hlen : S.length < 2 ^ 43) (hLaw : LevelLaw c.dbg c.B) (hP : PfsTotal c)
    (hnew : QWTree.new c S.toArray = .ok t) :
    QWTree.sigma? t = if S = [] then none else some (Spec.maxNat S) := by
  have h := wm_of_new hW hS hlen hLaw hP hnew
  cases S with
  | nil => simp [QWTree.sigma?, h.n_eq]
  | cons a l => simp [QWTree.sigma?, h.n_eq, h.sigma_eq]

/-- the empty sequence: construction succeeds and every query answers `None` -/
theorem empty_ok (c : Cfg) (hLaw : LevelLaw c.dbg c.B) :
    ∃ t, QWTree.new c #[] = .ok t ∧ QWTree.len t = 0 ∧ QWTree.isEmpty t = true ∧
      QWTree.sigma? t = none ∧
      (∀ i, QWTree.get c t i = .ok none) ∧
      (∀ sym i, QWTree.rank c t sym i = .ok none) ∧
      (∀ sym i, QWTree.rankPrefetch c t sym i = .ok none) ∧
      (∀ sym k, QWTree.select c t sym k = .ok none) := by
  refine ⟨{ n := 0, nLevels := 0, sigma := 0, qvs := (#[dfltRSQ]), pfs := none }, ?_, rfl, rfl, rfl,
    fun _ => rfl, fun _ _ => rfl, fun _ _ => rfl, fun _ _ => rfl⟩
  simp [QWTree.new, default_ok (levelLaw_B hLaw), bind, Except.bind, pure, Except.pure]

/-- without prefetch support `rank_prefetch` runs only estimation phase 2 (block counters),
    which never faults, and then answers like `rank` -/
theorem rankPrefetch_eq_rank {c : Cfg} {S : List Nat} {t : QWT} (hpfs : c.pfs = false)
    (hW : 0 < c.W) (hS : ∀ x ∈ S, x < 2 ^ c.W) (hlen : S.length < 2 ^ 43)
    (hLaw : LevelLaw c.dbg c.B) (hnew : QWTree.new c S.toArray = .ok t) (sym i : Nat) :
    QWTree.rankPrefetch c t sym i = QWTree.rank c t sym i :=
  (wm_of_new hW hS hlen hLaw (pfsTotal_of_false hpfs) hnew).rankPrefetch_eq_partial hW hS sym i
    (fun h => by rw [hpfs] at h; cases h)

theorem rankPrefetch_ok {c : Cfg} {S : List Nat} {t : QWT} (hpfs : c.pfs = false)
    (hW : 0 < c.W) (hS : ∀ x ∈ S, x < 2 ^ c.W) (hlen : S.length < 2 ^ 43)
    (hLaw : LevelLaw c.dbg c.B) (hnew : QWTree.new c S.toArray = .ok t) (sym i : Nat) :
    QWTree.rankPrefetch c t sym i =
      .ok (if S ≠ [] ∧ sym ≤ Spec.maxNat S ∧ i ≤ S.length then some (Spec.rank sym i S)
           else none) := by
  rw [rankPrefetch_eq_rank hpfs hW hS hlen hLaw hnew]
  exact rank_ok hW hS hlen hLaw (pfsTotal_of_false hpfs) hnew sym i

/-- With prefetch support: `rank_prefetch` answers like `rank` provided estimation phase 1 — the
    sampled counters of `PrefetchSupport` — does not fault on in-range arguments (`Props/C09.lean`
    proves that it does not).  Phase 2 is proved fault-free here. -/
theorem rankPrefetch_eq_rank_partial {c : Cfg} {S : List Nat} {t : QWT}
    (hW : 0 < c.W) (hS : ∀ x ∈ S, x < 2 ^ c.W) (hlen : S.length < 2 ^ 43)
    (hLaw : LevelLaw c.dbg c.B) (hP : PfsTotal c) (hnew : QWTree.new c S.toArray = .ok t)
    (sym i : Nat)
    (hph1 : c.pfs = true → S ≠ [] → sym ≤ Spec.maxNat S → i ≤ S.length →
      QWTree.pfsPhase1 c t sym i = .ok ()) :
    QWTree.rankPrefetch c t sym i = QWTree.rank c t sym i :=
  (wm_of_new hW hS hlen hLaw hP hnew).rankPrefetch_eq_partial hW hS sym i hph1

/-- the hypotheses on the sequence are satisfiable: a 16-bit sequence (8 levels) … -/
example : (∀ x ∈ [5, 300, 7, 0, 300, 65535], x < 2 ^ 16) ∧
    [5, 300, 7, 0, 300, 65535].length < 2 ^ 43 := by decide +kernel

/-- … and a 3-level one over `W = 16` -/
example : (∀ x ∈ [5, 33, 7, 0, 33, 63], x < 2 ^ 16) ∧ [5, 33, 7, 0, 33, 63].length < 2 ^ 43 ∧
    Spec.maxNat [5, 33, 7, 0, 33, 63] = 63 := by decide +kernel

example : (0 : Nat) < ({ W := 16 } : Cfg).W := by decide +kernel

example : (Spec.bitlen (Spec.maxNat [5, 33, 7, 0, 33, 63]) + 1) / 2 = 3 := by decide +kernel

/-- the digit lists of the three levels of `[5, 33, 7, 0, 33, 63]` -/
example : wmLevels 3 [5, 33, 7, 0, 33, 63] =
    [[0, 2, 0, 0, 2, 3], [1, 1, 0, 0, 0, 3], [0, 1, 1, 1, 3, 3]] := by decide +kernel

/-- the list-level walks compute the specified answers on the example -/
example : rankWM 33 3 [5, 33, 7, 0, 33, 63] 5 0 = Spec.rank 33 5 [5, 33, 7, 0, 33, 63] := by decide +kernel
example : getWM 16 3 [5, 33, 7, 0, 33, 63] 0 4 = 33 := by decide +kernel
example : selWM 33 3 [5, 33, 7, 0, 33, 63] 0 1 = some 4 := by decide +kernel
example : selWM 33 3 [5, 33, 7, 0, 33, 63] 0 2 = none := by decide +kernel
example : Spec.select 33 1 [5, 33, 7, 0, 33, 63] = some 4 := by decide +kernel

end Qwt.Props.C01
