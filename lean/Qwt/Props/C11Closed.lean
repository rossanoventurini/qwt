import Qwt.Props.C11
import Qwt.Props.C08
import Qwt.Props.Closed
import Qwt.Proofs.Closure2RSQ
import Qwt.Proofs.Closure2RSBin
import Qwt.Proofs.Closure2DA
import Qwt.Proofs.Closure2BinTree
import Qwt.Proofs.Closure2QuadTree

/-!
# Property C11, closed over the constructors

`Qwt/Props/C11.lean` proves `roundtrip_X : xWF x → decode (encode x) = some x` for every
serialisable structure, where `xWF` collects what the Rust *types* guarantee (machine-width
bounds, whole lines, fixed array lengths).  This file proves that every value the safe
constructors build is `WF`, so that the round trip holds for every value the API can produce,
with hypotheses about the *input* only (documented length limits, element width).

The `WF` facts are proved in `Qwt/Proofs/Closure2*.lean`; the theorems `…WF_of_…` below restate
them in this namespace.
-/
namespace Qwt.C11
open Qwt Qwt.Codec

/-- `RSQVector::from(qv)`: from the word-level meaning `QV.Holds` of the quad vector -/
theorem rsqWF_of_fromQV {B : Nat} {qv : QV.QVector} {s : List Nat} {r : RSQ.RSQVector} (dbg : Bool)
    (hq : QV.Holds qv s) (hs : ∀ x ∈ s, x < 4) (hl : s.length < 2 ^ 43)
    (e : RSQ.fromQV dbg B qv = .ok r) : rsqWF r :=
  Closure2.rsqWF_of_fromQV dbg hq hs hl e

/-- `RepInv` alone does not imply `rsqWF` (it bounds neither the sample array of a symbol that
    does not occur nor the array sizes): the statement is about the value `fromQV` returns -/
theorem rsqWF_of_repInv {B : Nat} {qv : QV.QVector} (dbg : Bool) (hB : B = 256 ∨ B = 512)
    (hq : QV.Inv qv) (hl : (QV.abs qv).length < 2 ^ 43) :
    ∃ r, RSQ.fromQV dbg B qv = .ok r ∧ RSQP.RepInv B r (QV.abs qv) ∧ rsqWF r := by
  obtain ⟨r, e, hr⟩ := Props.C05.fromQV_repInv dbg hB (RSQP.holds_of_inv hq) (QV.abs_lt_four qv) hl
  exact ⟨r, e, hr, Closure2.rsqWF_of_inv dbg hq hl e⟩

theorem rswWF_of_inv {r : RSW.RSWide} {s : List Bool} (h : RSW.Inv r s) : rswWF r :=
  Closure2.rswWF_of_inv h

theorem rswWF_of_new {b : BV.BitVector} (hb : BV.Inv b) (hl : (BV.abs b).length < 2 ^ 43)
    {r : RSW.RSWide} (e : RSW.new b = .ok r) : rswWF r :=
  Closure2.rswWF_of_new hb hl e

/-- `RSN.Inv` pins every entry except the sub-block word of the sentinel blocks (named
    hypothesis `htail`); `rsnWF_of_new` discharges it from the construction -/
theorem rsnWF_of_inv {r : RSN.RSNarrow} {s : List Bool} (h : RSN.Inv r s)
    (hn : s.length < 2 ^ 64)
    (htail : ∀ q, BV.nLines r.bv ≤ q → q ≤ RSN.sentN r.bv →
      r.blockRankPairs.getD (2 * q + 1) 0 < 2 ^ 64) : rsnWF r :=
  Closure2.rsnWF_of_inv h hn htail

theorem rsnWF_of_new {b : BV.BitVector} (hb : BV.Inv b) (hn : b.nBits < 2 ^ 64)
    {r : RSN.RSNarrow} (e : RSN.new b = .ok r) : rsnWF r :=
  Closure2.rsnWF_of_new hb hn e

theorem daWF_of_new (s0 : Bool) {b : BV.BitVector} (hb : BV.Inv b) (hn : b.nBits < 2 ^ 63) :
    daWF (DA.new s0 b) :=
  Closure2.daWF_of_new s0 hb hn

theorem pfsWF_of_new {qv : QV.QVector} (hq : QV.Inv qv) (hl : QV.len qv < 2 ^ 43)
    {p : PFS.PrefetchSupport} (e : PFS.new qv Extracted.pfsSampleShift = .ok p) : pfsWF p :=
  Closure2.pfsWF_of_new hq hl e

/-- `RSQVector::new(&[T])`, both block sizes and build profiles, every sequence shorter than the
    documented `2^43` limit: construction succeeds and the value survives the round trip -/
theorem roundtrip_RSQ_new (dbg : Bool) {B : Nat} (hB : B = 256 ∨ B = 512) (vals : List Int)
    (hl : vals.length < 2 ^ 43) :
    ∃ r, RSQ.new dbg B vals = .ok r ∧
      (decode rsqTy (encode (rsqVal r))).bind (fun p => rsqOfVal p.1) = some r := by
  have h64 : 2 * vals.length < two64 := by
    have : two64 = 2 ^ 64 := by decide
    omega
  obtain ⟨q, eq, hq, ha⟩ := QV.fromIter_ok vals h64
  have hl' : (QV.abs q).length < 2 ^ 43 := by rw [ha, List.length_map]; exact hl
  obtain ⟨r, e, _, hwf⟩ := rsqWF_of_repInv (B := B) dbg hB hq hl'
  refine ⟨r, ?_, roundtrip_RSQVector r hwf⟩
  unfold RSQ.new
  rw [eq]
  exact e

/-- `RSQVector::from(qv)` for every quad vector satisfying the C13 invariant -/
theorem roundtrip_RSQ_fromQV (dbg : Bool) {B : Nat} (hB : B = 256 ∨ B = 512) {qv : QV.QVector}
    (hq : QV.Inv qv) (hl : (QV.abs qv).length < 2 ^ 43) :
    ∃ r, RSQ.fromQV dbg B qv = .ok r ∧
      (decode rsqTy (encode (rsqVal r))).bind (fun p => rsqOfVal p.1) = some r := by
  obtain ⟨r, e, _, hwf⟩ := rsqWF_of_repInv (B := B) dbg hB hq hl
  exact ⟨r, e, roundtrip_RSQVector r hwf⟩

/-- `RSWide::new(bv)` for every bit vector satisfying the C08 invariant, below the `2^43` limit -/
theorem roundtrip_RSW_new {b : BV.BitVector} (hb : BV.Inv b) (hl : (BV.abs b).length < 2 ^ 43) :
    ∃ r, RSW.new b = .ok r ∧
      (decode rswTy (encode (rswVal r))).bind (fun p => rswOfVal p.1) = some r := by
  obtain ⟨r, e, _⟩ := Props.Closed.rsw_represents hb hl
  exact ⟨r, e, roundtrip_RSWide r (rswWF_of_new hb hl e)⟩

/-- … in particular for the vector collected from any list of booleans -/
theorem roundtrip_RSW_fromBools (bits : List Bool) (hl : bits.length < 2 ^ 43) :
    ∃ b r, BV.fromBools bits = .ok b ∧ RSW.new b = .ok r ∧
      (decode rswTy (encode (rswVal r))).bind (fun p => rswOfVal p.1) = some r := by
  have h64 : bits.length < two64 := Nat.lt_trans hl (by decide)
  obtain ⟨b, eb, hb, ha⟩ := Props.C08.fromBools_ok bits h64
  obtain ⟨r, e, h⟩ := roundtrip_RSW_new hb (by rw [ha]; exact hl)
  exact ⟨b, r, eb, e, h⟩

/-- `RSNarrow::new(bv)` for every bit vector satisfying the C08 invariant -/
theorem roundtrip_RSN_new {b : BV.BitVector} (hb : BV.Inv b) (hn : b.nBits < 2 ^ 64) :
    ∃ r, RSN.new b = .ok r ∧
      (decode rsnTy (encode (rsnVal r))).bind (fun p => rsnOfVal p.1) = some r := by
  obtain ⟨r, e, _⟩ := Props.Closed.rsn_represents hb
  exact ⟨r, e, roundtrip_RSNarrow r (rsnWF_of_new hb hn e)⟩

theorem roundtrip_RSN_fromBools (bits : List Bool) (hl : bits.length < 2 ^ 64) :
    ∃ b r, BV.fromBools bits = .ok b ∧ RSN.new b = .ok r ∧
      (decode rsnTy (encode (rsnVal r))).bind (fun p => rsnOfVal p.1) = some r := by
  obtain ⟨b, eb, hb, ha⟩ := Props.C08.fromBools_ok bits hl
  have hn : b.nBits < 2 ^ 64 := by rw [← BV.abs_length, ha]; exact hl
  obtain ⟨r, e, h⟩ := roundtrip_RSN_new hb hn
  exact ⟨b, r, eb, e, h⟩

/-- `DArray::new(bv)` (with and without `select0` support) for every bit vector satisfying the
    C08 invariant with fewer than `2^63` bits -/
theorem roundtrip_DA_new (s0 : Bool) {b : BV.BitVector} (hb : BV.Inv b) (hn : b.nBits < 2 ^ 63) :
    (decode daTy (encode (daVal (DA.new s0 b)))).bind (fun p => daOfVal p.1) = some (DA.new s0 b) :=
  roundtrip_DArray _ (daWF_of_new s0 hb hn)

theorem roundtrip_DA_fromBools (s0 : Bool) (bits : List Bool) (hl : bits.length < 2 ^ 63) :
    ∃ b, BV.fromBools bits = .ok b ∧
      (decode daTy (encode (daVal (DA.new s0 b)))).bind (fun p => daOfVal p.1) =
        some (DA.new s0 b) := by
  have h64 : bits.length < two64 := Nat.lt_trans hl (by decide)
  obtain ⟨b, eb, hb, ha⟩ := Props.C08.fromBools_ok bits h64
  have hn : b.nBits < 2 ^ 63 := by rw [← BV.abs_length, ha]; exact hl
  exact ⟨b, eb, roundtrip_DA_new s0 hb hn⟩

/-- the bit vectors themselves -/
theorem roundtrip_BV_fromBools (bits : List Bool) (hl : bits.length < 2 ^ 64) :
    ∃ b, BV.fromBools bits = .ok b ∧
      (decode bvTy (encode (bvVal b))).bind (fun p => bvOfVal p.1) = some b := by
  obtain ⟨b, eb, hb, ha⟩ := Props.C08.fromBools_ok bits hl
  have hn : b.nBits < 2 ^ 64 := by rw [← BV.abs_length, ha]; exact hl
  exact ⟨b, eb, roundtrip_BitVector b (Props.C19.bvWF_of_inv hb hn)⟩

theorem rsw_mkLevel_wf (bits : List Bool) (r : RSW.RSWide) (hl : bits.length < 2 ^ 43)
    (e : RSW.mkLevel bits = .ok r) : rswWF r :=
  Closure2.rswWF_mkLevel bits hl e

/-- plain `WaveletTree` built by `new` (`wbytes = size_of::<T>()`, `W = 8·wbytes`; `hW64` only
    excludes the absurd element widths `≥ 2^64` bits of the width-generic model) -/
theorem wtWF_of_new (c : Cfg) (wbytes : Nat) (hWb : c.W = 8 * wbytes) (hW : 0 < c.W)
    (hW64 : c.W < 2 ^ 64) (S : List Nat) (hb : ∀ x ∈ S, x < 2 ^ c.W) (hS : S.length < 2 ^ 43)
    {t : BinWT.WT} (ht : BinWT.new c false S.toArray [] = .ok t) : wtWF wbytes t :=
  Closure2.wtWF_of_new c wbytes hWb hW hW64 S hb hS ht

/-- Huffman-shaped `WaveletTree` built by `new`.  `hsig`: the code table has `max S + 1`
    entries and is serialised with a `u64` length (only relevant for `W = 64`) -/
theorem hwtWF_of_new (c : Cfg) (wbytes : Nat) (hWb : c.W = 8 * wbytes) (hW : c.W ≤ 64)
    (S : List Nat) (hb : ∀ x ∈ S, x < 2 ^ c.W) (hS : S.length < 2 ^ 43)
    (hsig : ∀ x ∈ S, x + 1 < 2 ^ 64)
    (lens : List (Nat × Nat)) (hlens : Props.C02.LensOK 2 lens)
    (hocc : ∀ s, s ∈ lens.map (·.1) ↔ s ∈ S)
    {t : BinWT.WT} (ht : BinWT.new c true S.toArray lens = .ok t) : wtWF wbytes t :=
  Closure2.hwtWF_of_new c wbytes hWb hW S hb hS hsig lens hlens hocc ht

/-- `WaveletTree::new`: construction succeeds and the tree survives the round trip, for every
    sequence of `W`-bit elements (`W = 8·wbytes`) shorter than `2^43` -/
theorem roundtrip_new_WT (c : Cfg) (wbytes : Nat) (hWb : c.W = 8 * wbytes) (hW : 0 < c.W)
    (hW64 : c.W < 2 ^ 64) (S : List Nat) (hb : ∀ x ∈ S, x < 2 ^ c.W) (hS : S.length < 2 ^ 43) :
    ∃ t, BinWT.new c false S.toArray [] = .ok t ∧
      (decode (wtTy wbytes) (encode (wtVal wbytes t))).bind (fun p => wtOfVal p.1) = some t := by
  obtain ⟨t, ht, _⟩ := Props.Closed.wt_new c hW S hb hS
  exact ⟨t, ht, roundtrip_WT wbytes t (wtWF_of_new c wbytes hWb hW hW64 S hb hS ht)⟩

/-- the Huffman-shaped binary tree, for every admissible length table (every order) -/
theorem roundtrip_new_HWT (c : Cfg) (wbytes : Nat) (hWb : c.W = 8 * wbytes) (hW : c.W ≤ 64)
    (S : List Nat) (hne : S ≠ []) (hb : ∀ x ∈ S, x < 2 ^ c.W) (hS : S.length < 2 ^ 43)
    (hsig : ∀ x ∈ S, x + 1 < 2 ^ 64)
    (lens : List (Nat × Nat)) (hlens : Props.C02.LensOK 2 lens)
    (hocc : ∀ s, s ∈ lens.map (·.1) ↔ s ∈ S) :
    ∃ t, BinWT.new c true S.toArray lens = .ok t ∧
      (decode (wtTy wbytes) (encode (wtVal wbytes t))).bind (fun p => wtOfVal p.1) = some t := by
  obtain ⟨t, ht, _⟩ := Props.Closed.hwt_new c hW S hne hb hS lens hlens hocc
  exact ⟨t, ht, roundtrip_WT wbytes t
    (hwtWF_of_new c wbytes hWb hW S hb hS hsig lens hlens hocc ht)⟩

theorem rsq_mkLevel_wf {B : Nat} (dbg : Bool) (digits : List Nat) (r : RSQ.RSQVector)
    (hd : ∀ d ∈ digits, d < 4) (hlen : digits.length < 2 ^ 43)
    (e : RSQ.mkLevel dbg B digits = .ok r) : rsqWF r :=
  Closure2.rsqWF_mkLevel dbg digits hd hlen e

theorem rsq_default_wf {B : Nat} (r : RSQ.RSQVector) (e : RSQ.default B = .ok r) : rsqWF r :=
  Closure2.rsqWF_default e

/-- plain `QWaveletTree` built by `new` (`wbytes = size_of::<T>()`, `W = 8·wbytes ≤ 128`) -/
theorem qwtWF_of_new (c : Cfg) (wbytes : Nat) (hWb : c.W = 8 * wbytes) (hW : 0 < c.W)
    (hW128 : c.W ≤ 128) (S : List Nat) (hS : ∀ x ∈ S, x < 2 ^ c.W) (hlen : S.length < 2 ^ 43)
    {t : QWTree.QWT} (ht : QWTree.new c S.toArray = .ok t) : qwtWF wbytes t :=
  Closure2.qwtWF_of_new c wbytes hWb hW hW128 S hS hlen ht

/-- `HuffQWaveletTree` built by `new`.  `hmax`: the code table has `max S + 1` entries and is
    serialised with a `u64` length (only relevant for `W = 64`) -/
theorem hqwtWF_of_new (c : Cfg) (wbytes : Nat) (hWb : c.W = 8 * wbytes)
    (S : List Nat) (hb : ∀ x ∈ S, x < 2 ^ c.W) (hmax : ∀ x ∈ S, x + 1 < 2 ^ 64)
    (hS : S.length < 2 ^ 43)
    (lens : List (Nat × Nat)) (hlens : Props.C02.LensOK 4 lens)
    (hsyms : ∀ s, s ∈ lens.map (·.1) ↔ s ∈ S)
    {t : Huff.HQWT} (ht : Huff.new c S.toArray lens = .ok t) : hqwtWF wbytes t :=
  Closure2.hqwtWF_of_new c wbytes hWb S hb hmax hS lens hlens hsyms ht

/-- `QWaveletTree::new` (QWT256, QWT512, QWT256Pfs, QWT512Pfs): construction succeeds and the
    tree survives the round trip, for every sequence of `W`-bit elements shorter than `2^43`,
    the empty one included -/
theorem roundtrip_new_QWT (c : Cfg) (wbytes : Nat) (hWb : c.W = 8 * wbytes) (hW : 0 < c.W)
    (hW128 : c.W ≤ 128) (hB : c.B = 256 ∨ c.B = 512)
    (S : List Nat) (hS : ∀ x ∈ S, x < 2 ^ c.W) (hlen : S.length < 2 ^ 43) :
    ∃ t, QWTree.new c S.toArray = .ok t ∧
      (decode (qwtTy wbytes) (encode (qwtVal wbytes t))).bind (fun p => qwtOfVal p.1) = some t := by
  obtain ⟨t, ht, _⟩ := Props.C09.new_ok c S hB hW hS hlen
  exact ⟨t, ht, roundtrip_QWT wbytes t (qwtWF_of_new c wbytes hWb hW hW128 S hS hlen ht)⟩

/-- `HuffQWaveletTree::new` (HQWT256, HQWT512, HQWT256Pfs, HQWT512Pfs), for every admissible
    length table in every order -/
theorem roundtrip_new_HQWT (c : Cfg) (wbytes : Nat) (hWb : c.W = 8 * wbytes) (hW : c.W ≤ 64)
    (hB : c.B = 256 ∨ c.B = 512)
    (S : List Nat) (hne : S ≠ []) (hb : ∀ x ∈ S, x < 2 ^ c.W) (hmax : ∀ x ∈ S, x + 1 < 2 ^ 64)
    (hS : S.length < 2 ^ 43)
    (lens : List (Nat × Nat)) (hlens : Props.C02.LensOK 4 lens)
    (hsyms : ∀ s, s ∈ lens.map (·.1) ↔ s ∈ S) :
    ∃ t, Huff.new c S.toArray lens = .ok t ∧
      (decode (hqwtTy wbytes) (encode (hqwtVal wbytes t))).bind (fun p => hqwtOfVal p.1) =
        some t := by
  obtain ⟨_, t, _, _, ht, _⟩ := Props.Closed.hqwt_correct c hB hW S hne hb hS lens hlens hsyms
  exact ⟨t, ht, roundtrip_HQWT wbytes t
    (hqwtWF_of_new c wbytes hWb S hb hmax hS lens hlens hsyms ht)⟩

/-- … and on the empty sequence -/
theorem roundtrip_new_HQWT_empty (c : Cfg) (wbytes : Nat) (hWb : c.W = 8 * wbytes)
    (hW : c.W ≤ 64) (hB : c.B = 256 ∨ c.B = 512) :
    ∃ t, Huff.new c #[] [] = .ok t ∧
      (decode (hqwtTy wbytes) (encode (hqwtVal wbytes t))).bind (fun p => hqwtOfVal p.1) =
        some t := by
  obtain ⟨t, ht⟩ := Props.C02.hqwt_empty_new_ok c (Props.Closed.levelLaw c.dbg hB) []
  exact ⟨t, ht, roundtrip_HQWT wbytes t (Closure2.hqwtWF_of_new_nil c wbytes [] ht)⟩

end Qwt.C11
