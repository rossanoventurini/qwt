import Qwt.Props.C12
import Qwt.Props.C10
import Qwt.Props.Closed

/-!
# C12, closed: the wavelet-tree iterators yield exactly the input sequence

`Props/C12.lean` proves that the `WTIterator` state machine (the seven calls of `IterOp`, in any
interleaving) behaves like a deque over `S` *provided* `get_unchecked(i)` returns `S[i]` for
every `i < |S|`.  Here that hypothesis is discharged for every tree type from the
hypothesis-free `get_unchecked` theorems of `Props/C10.lean` (which in turn rest on
`Props/Closed.lean`: the level contracts `LevelLaw`, `BinLevelLaw` and the prefetch contracts
hold unconditionally).  The statements below mention only the input sequence `S`, the
configuration, the construction `new … = .ok t` and — for the Huffman-shaped trees — the
code-length table handed over by the external crate.

The Rust `iter()` of every tree builds `WTIterator { i: 0, end: self.len(), .. }` with
`len() = self.n`; the `*_len` theorems show `t.n = |S|`, and the `*_iter_rust` variants restate
the history theorem with that initial state.
-/
namespace Qwt.Props.C12Closed
open Qwt Qwt.Iter

private theorem ok_getD {S : List Nat} {i : Nat} (hi : i < S.length) :
    (Except.ok S[i] : M Nat) = .ok (S.getD i 0) := by
  rw [getD_of_lt hi]

private theorem forward_of {getU : Nat → M Nat} {S : List Nat}
    (h : ∀ ops, run getU { i := 0, e := S.length } ops = specRun S ops) :
    run getU { i := 0, e := S.length } (List.replicate S.length .next) = S.map Out.some := by
  rw [h, C12.spec_forward]

private theorem backward_of {getU : Nat → M Nat} {S : List Nat}
    (h : ∀ ops, run getU { i := 0, e := S.length } ops = specRun S ops) :
    run getU { i := 0, e := S.length } (List.replicate S.length .nextBack) =
      S.reverse.map Out.some := by
  rw [h, C12.spec_backward]

section qwt
variable {c : Cfg} {S : List Nat} {t : QWTree.QWT}
  (hB : c.B = 256 ∨ c.B = 512) (hW : 0 < c.W)
  (hS : ∀ x ∈ S, x < 2 ^ c.W) (hlen : S.length < 2 ^ 43)
  (hnew : QWTree.new c S.toArray = .ok t)
include hB hW hS hlen hnew

theorem qwt_len : QWTree.len t = S.length :=
  (C09.wmp_of_new hB hW hS hlen hnew).wm.n_eq

theorem qwt_iter (ops : List IterOp) :
    run (QWTree.getUnchecked c t) { i := 0, e := S.length } ops = specRun S ops :=
  C12.qwt_iter_history c t S
    (fun i hi => (C10.qwt_getUnchecked_ok hB hW hS hlen hnew i hi).trans (ok_getD hi)) ops

/-- the same, with the initial state exactly as `iter()` builds it (`end = self.len()`) -/
theorem qwt_iter_rust (ops : List IterOp) :
    run (QWTree.getUnchecked c t) { i := 0, e := QWTree.len t } ops = specRun S ops := by
  rw [qwt_len hB hW hS hlen hnew]; exact qwt_iter hB hW hS hlen hnew ops

theorem qwt_forward :
    run (QWTree.getUnchecked c t) { i := 0, e := S.length } (List.replicate S.length .next) =
      S.map Out.some :=
  forward_of (qwt_iter hB hW hS hlen hnew)

theorem qwt_backward :
    run (QWTree.getUnchecked c t) { i := 0, e := S.length } (List.replicate S.length .nextBack) =
      S.reverse.map Out.some :=
  backward_of (qwt_iter hB hW hS hlen hnew)

end qwt

section wt
variable (c : Cfg) (hW : 0 < c.W) (S : List Nat) (hb : ∀ x ∈ S, x < 2 ^ c.W)
  (hS : S.length < 2 ^ 43) {t : BinWT.WT} (ht : BinWT.new c false S.toArray [] = .ok t)
include hW hb hS ht

theorem wt_len : t.n = S.length :=
  (of_exists_ok (Closed.wt_new c hW S hb hS) ht).1

theorem wt_iter (ops : List IterOp) :
    run (BinWT.getUnchecked c false t) { i := 0, e := S.length } ops = specRun S ops :=
  C12.wt_iter_history c false t S
    (fun i hi => (C03.wt_getUnchecked_ok c hW Closed.binLevelLaw S hb hS ht i hi).trans
      (ok_getD hi)) ops

theorem wt_iter_rust (ops : List IterOp) :
    run (BinWT.getUnchecked c false t) { i := 0, e := t.n } ops = specRun S ops := by
  rw [wt_len c hW S hb hS ht]; exact wt_iter c hW S hb hS ht ops

theorem wt_forward :
    run (BinWT.getUnchecked c false t) { i := 0, e := S.length } (List.replicate S.length .next) =
      S.map Out.some :=
  forward_of (wt_iter c hW S hb hS ht)

theorem wt_backward :
    run (BinWT.getUnchecked c false t) { i := 0, e := S.length }
      (List.replicate S.length .nextBack) = S.reverse.map Out.some :=
  backward_of (wt_iter c hW S hb hS ht)

end wt

section hwt
open Qwt.Props.C02 (LensOK)
variable (c : Cfg) (hW : c.W ≤ 64) (S : List Nat) (hne : S ≠ [])
  (hb : ∀ x ∈ S, x < 2 ^ c.W) (hS : S.length < 2 ^ 43) (lens : List (Nat × Nat))
  (hlens : LensOK 2 lens) (hocc : ∀ s, s ∈ lens.map (·.1) ↔ s ∈ S)
  {t : BinWT.WT} (ht : BinWT.new c true S.toArray lens = .ok t)
include hW hne hb hS hlens hocc ht

theorem hwt_len : t.n = S.length :=
  of_exists_ok (Closed.hwt_new c hW S hne hb hS lens hlens hocc) ht

theorem hwt_iter (ops : List IterOp) :
    run (BinWT.getUnchecked c true t) { i := 0, e := S.length } ops = specRun S ops :=
  C12.wt_iter_history c true t S
    (fun i hi => (C10.hwt_getUnchecked_ok c hW S hne hb hS lens hlens hocc ht i hi).trans
      (ok_getD hi)) ops

theorem hwt_iter_rust (ops : List IterOp) :
    run (BinWT.getUnchecked c true t) { i := 0, e := t.n } ops = specRun S ops := by
  rw [hwt_len c hW S hne hb hS lens hlens hocc ht]
  exact hwt_iter c hW S hne hb hS lens hlens hocc ht ops

theorem hwt_forward :
    run (BinWT.getUnchecked c true t) { i := 0, e := S.length } (List.replicate S.length .next) =
      S.map Out.some :=
  forward_of (hwt_iter c hW S hne hb hS lens hlens hocc ht)

theorem hwt_backward :
    run (BinWT.getUnchecked c true t) { i := 0, e := S.length }
      (List.replicate S.length .nextBack) = S.reverse.map Out.some :=
  backward_of (hwt_iter c hW S hne hb hS lens hlens hocc ht)

end hwt

section hqwt
open Qwt.Props.C02 (LensOK)
variable (c : Cfg) (hB : c.B = 256 ∨ c.B = 512) (hW : c.W ≤ 64) (S : List Nat) (hne : S ≠ [])
  (hb : ∀ x ∈ S, x < 2 ^ c.W) (hS : S.length < 2 ^ 43) (lens : List (Nat × Nat))
  (hlens : LensOK 4 lens) (hsyms : ∀ s, s ∈ lens.map (·.1) ↔ s ∈ S)
include hB hW hne hb hS hlens hsyms

/-- construction succeeds, so the theorems below are about an existing tree -/
theorem hqwt_new : ∃ t, Huff.new c S.toArray lens = .ok t := by
  obtain ⟨_, t, _, _, h, _⟩ := Closed.hqwt_correct c hB hW S hne hb hS lens hlens hsyms
  exact ⟨t, h⟩

variable {t : Huff.HQWT} (ht : Huff.new c S.toArray lens = .ok t)
include ht

theorem hqwt_len : t.n = S.length := by
  obtain ⟨_, h⟩ := C10.hqwt_inv c hB hW S hne hb hS lens hlens hsyms ht
  exact h.n_eq

theorem hqwt_iter (ops : List IterOp) :
    run (Huff.getUnchecked c t) { i := 0, e := S.length } ops = specRun S ops :=
  C12.hqwt_iter_history c t S
    (fun i hi => (C10.hqwt_getUnchecked_ok c hB hW S hne hb hS lens hlens hsyms ht i hi).trans
      (ok_getD hi)) ops

theorem hqwt_iter_rust (ops : List IterOp) :
    run (Huff.getUnchecked c t) { i := 0, e := t.n } ops = specRun S ops := by
  rw [hqwt_len c hB hW S hne hb hS lens hlens hsyms ht]
  exact hqwt_iter c hB hW S hne hb hS lens hlens hsyms ht ops

theorem hqwt_forward :
    run (Huff.getUnchecked c t) { i := 0, e := S.length } (List.replicate S.length .next) =
      S.map Out.some :=
  forward_of (hqwt_iter c hB hW S hne hb hS lens hlens hsyms ht)

theorem hqwt_backward :
    run (Huff.getUnchecked c t) { i := 0, e := S.length } (List.replicate S.length .nextBack) =
      S.reverse.map Out.some :=
  backward_of (hqwt_iter c hB hW S hne hb hS lens hlens hsyms ht)

end hqwt

/-- the existential form (as `Closed.hqwt_correct`): the tree exists and iterates over `S` -/
theorem hqwt_iter_exists (c : Cfg) (hB : c.B = 256 ∨ c.B = 512) (hW : c.W ≤ 64)
    (S : List Nat) (hne : S ≠ []) (hb : ∀ x ∈ S, x < 2 ^ c.W) (hS : S.length < 2 ^ 43)
    (lens : List (Nat × Nat)) (hlens : C02.LensOK 4 lens)
    (hsyms : ∀ s, s ∈ lens.map (·.1) ↔ s ∈ S) :
    ∃ t, Huff.new c S.toArray lens = .ok t ∧ t.n = S.length ∧
      ∀ ops, run (Huff.getUnchecked c t) { i := 0, e := t.n } ops = specRun S ops := by
  obtain ⟨t, ht⟩ := hqwt_new c hB hW S hne hb hS lens hlens hsyms
  exact ⟨t, ht, hqwt_len c hB hW S hne hb hS lens hlens hsyms ht,
    hqwt_iter_rust c hB hW S hne hb hS lens hlens hsyms ht⟩

/-! ## One-ended iterators over the quad vector and the bit vectors

`QVectorIterator::next` is `self.i += 1; qv.get(self.i - 1)`; `BitVectorIter` / `BitVectorIntoIter`
index with a running counter.  With `get` correct (C13, C08) every history of `next`, `nth(k)` (what
`skip` and `step_by` call), `count` and `last` is that of the plain sequence. -/

theorem qv_iter_history (dbg : Bool) (q : QV.QVector) (h : QV.Inv q) (ops : List FwdOp) :
    fwdRun (QV.get dbg q) (QV.abs q).length 0 ops = specRun (QV.abs q) (ops.map FwdOp.toIterOp) :=
  C12.fwditer_history _ _ (fun i => QV.get_ok dbg h i) ops

theorem bv_iter_history (b : BV.BitVector) (h : BV.Inv b) (ops : List FwdOp) :
    fwdRun (fun i => (BV.get b i).map (·.map (fun x => if x then 1 else 0))) (BV.abs b).length 0 ops =
      specRun ((BV.abs b).map (fun x => if x then 1 else 0)) (ops.map FwdOp.toIterOp) := by
  have := C12.fwditer_history (fun i => (BV.get b i).map (·.map (fun x => if x then 1 else 0)))
    ((BV.abs b).map (fun x => if x then 1 else 0))
    (fun i => by rw [BV.get_ok b h i]; simp [Except.map, List.getElem?_map]) ops
  simpa using this

/-! ## non-vacuity -/

section examples

example (t : QWTree.QWT)
    (h : QWTree.new { pfs := true, W := 8 } [1, 0, 1, 0, 2, 4, 5, 3].toArray = .ok t) :
    run (QWTree.getUnchecked { pfs := true, W := 8 } t) { i := 0, e := QWTree.len t }
        [.next, .nextBack, .len, .next, .nextBack] =
      [Out.some 1, Out.some 3, Out.val 6, Out.some 0, Out.some 5] := by
  rw [qwt_iter_rust (Or.inl rfl) (by decide) (by decide) (by decide) h]; decide

/-- the hypothesis `new … = .ok t` of the example above is satisfiable, and the model itself
    evaluates to the same outcomes in both build profiles -/
example : ∀ d : Bool,
    (do let t ← QWTree.new { pfs := true, W := 8, dbg := d } #[1, 0, 1, 0, 2, 4, 5, 3]
        pure (run (QWTree.getUnchecked { pfs := true, W := 8, dbg := d } t)
          { i := 0, e := QWTree.len t } [.next, .nextBack, .len, .next, .nextBack])) =
      .ok [Out.some 1, Out.some 3, Out.val 6, Out.some 0, Out.some 5] := by decide +kernel

example (t : Huff.HQWT) (h : Huff.new C02.exC C02.exS.toArray C02.exLens = .ok t) :
    run (Huff.getUnchecked C02.exC t) { i := 0, e := C02.exS.length }
        (List.replicate C02.exS.length .next) = C02.exS.map Out.some :=
  hqwt_forward C02.exC (Or.inl rfl) (by decide) C02.exS (by decide) (by decide) (by decide)
    C02.exLens C02.exLensOK C02.exSyms h

example (t : BinWT.WT) (h : BinWT.new C03.exC false C03.exS.toArray [] = .ok t) :
    run (BinWT.getUnchecked C03.exC false t) { i := 0, e := C03.exS.length }
        (List.replicate C03.exS.length .nextBack) = C03.exS.reverse.map Out.some :=
  wt_backward C03.exC (by decide) C03.exS (by decide) (by decide) h

example (t : BinWT.WT) (h : BinWT.new C03.exC true C03.exHS.toArray C03.exLens = .ok t)
    (ops : List IterOp) :
    run (BinWT.getUnchecked C03.exC true t) { i := 0, e := t.n } ops = specRun C03.exHS ops :=
  hwt_iter_rust C03.exC (by decide) C03.exHS (by decide) (by decide) (by decide) C03.exLens
    C10.exLensOK2 C10.exOcc2 h ops

end examples

end Qwt.Props.C12Closed
