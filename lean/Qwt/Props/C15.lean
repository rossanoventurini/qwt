import Qwt.Proofs.Entropy

/-!
# Property C15

"For every sequence of length `n` with zero-order empirical entropy `H0` bits per symbol,
the level data of the Huffman-shaped quad tree holds at most `n·(H0+2)` bits and that of
the Huffman-shaped binary tree at most `n·(H0+1)` bits, and never more level data than the
corresponding plain tree."

This file states the information-theoretic part.  Setting (`Qwt/Proofs/Entropy.lean`):

* the alphabet of symbols that occur is `Fin k`; `f : Fin k → ℕ` are their frequencies
  (hypothesis `∀ i, 0 < f i`), `total f = Σ fᵢ = n` is the length of the sequence;
* `ℓ : Fin k → ℕ` are the code lengths counted in *fragments* (levels of the tree; one
  fragment is `b = 1` bit for the binary tree, `b = 2` bits for the quad tree, code arity
  `D = 2^b`); `cost f ℓ = Σ fᵢ·ℓᵢ` is the number of fragments written to the levels, so the
  level data holds `b · cost f ℓ` bits;
* `H0 f = Σ (fᵢ/n)·log₂(n/fᵢ)` (a real number);
* `Kraft D ℓ`: every `ℓᵢ ≥ 1` and `Σ D^(−ℓᵢ) ≤ 1`;
* `Optimal D f ℓ`: `Kraft D ℓ` and `cost f ℓ ≤ cost f ℓ'` for every `ℓ'` with `Kraft D ℓ'`.

`Optimal` is what the external crate `minimum_redundancy` is *assumed* to deliver (every
Kraft-feasible length vector is realised by a prefix code, and a `D`-ary Huffman code is
optimal among prefix codes).  It is a hypothesis of the theorems below, not proved; the
harness validates it on every case by comparing `Σ fᵢ·lenᵢ` with an independent Huffman
cost.  That the level data of the model is `Σ fᵢ·lenᵢ` fragments belongs to the tree models
(C02/C03), not to this file.

The theorems are stated for `f ℓ : Fin k → ℕ` and `Finset` sums rather than lists
(`Qwt.Entropy.total_get : total f.get = f.sum` links the two readings of `n`).
-/
namespace Qwt.Props.C15
open Qwt.Entropy

variable {k : ℕ}

/-! ### 1. Shannon lengths `max 1 ⌈log_D (n/fᵢ)⌉` are Kraft-feasible -/

theorem shannon_term_le {D : ℕ} (hD : 1 < D) (f : Fin k → ℕ) (i : Fin k) (hfi : 0 < f i) :
    1 / (D : ℝ) ^ shannonLen D f i ≤ (f i : ℝ) / (total f : ℝ) :=
  inv_pow_shannonLen_le hD hfi

/-- The Shannon lengths are Kraft-feasible (any number of symbols, any arity `D ≥ 2`). -/
theorem shannon_feasible {D : ℕ} (hD : 1 < D) (f : Fin k → ℕ) (hf : ∀ i, 0 < f i) :
    Kraft D (shannonLen D f) :=
  Qwt.Entropy.shannon_feasible hD hf

theorem shannon_len_lt {b : ℕ} (hb : 1 ≤ b) (f : Fin k → ℕ) (i : Fin k) (hfi : 0 < f i)
    (hlt : f i < total f) :
    (b : ℝ) * (shannonLen (2 ^ b) f i : ℝ)
      < Real.logb 2 ((total f : ℝ) / (f i : ℝ)) + b :=
  mul_shannonLen_lt hb hfi hlt

/-! ### 2. The entropy bounds (at least two symbols: strict) -/

theorem level_bits_lt {b : ℕ} (hb : 1 ≤ b) (f ℓ : Fin k → ℕ) (hf : ∀ i, 0 < f i)
    (hopt : Optimal (2 ^ b) f ℓ) (hk : 2 ≤ k) :
    (b : ℝ) * (cost f ℓ : ℝ) < (total f : ℝ) * (H0 f + b) :=
  Qwt.Entropy.level_bits_lt hb hopt hk hf

/-- **Quad tree**: `2·Σ fᵢ ℓᵢ < n·(H0 + 2)`. -/
theorem level_bits_lt_quad (f ℓ : Fin k → ℕ) (hf : ∀ i, 0 < f i) (hopt : Optimal 4 f ℓ)
    (hk : 2 ≤ k) :
    2 * (cost f ℓ : ℝ) < (total f : ℝ) * (H0 f + 2) := by
  have h := Qwt.Entropy.level_bits_lt (b := 2) (by decide) (f := f) (ℓ := ℓ) hopt hk hf
  rwa [Nat.cast_ofNat] at h

/-- **Binary tree**: `Σ fᵢ ℓᵢ < n·(H0 + 1)`. -/
theorem level_bits_lt_bin (f ℓ : Fin k → ℕ) (hf : ∀ i, 0 < f i) (hopt : Optimal 2 f ℓ)
    (hk : 2 ≤ k) :
    (cost f ℓ : ℝ) < (total f : ℝ) * (H0 f + 1) := by
  have h := Qwt.Entropy.level_bits_lt (b := 1) (le_refl 1) (f := f) (ℓ := ℓ) hopt hk hf
  rwa [Nat.cast_one, one_mul] at h

/-! ### 3. One symbol: equality -/

theorem H0_one_symbol (f : Fin 1 → ℕ) : H0 f = 0 := H0_one f

/-- One symbol, code `[1]`: the level data is exactly `b·n = n·(H0 + b)` bits. -/
theorem one_symbol_eq (f ℓ : Fin 1 → ℕ) (hℓ : ℓ 0 = 1) (b : ℕ) :
    (b : ℝ) * (cost f ℓ : ℝ) = (total f : ℝ) * (H0 f + b) := by
  have hc : cost f ℓ = total f := by simp [cost, total, hℓ]
  rw [H0_one, hc]; ring

theorem one_symbol (f ℓ : Fin 1 → ℕ) (hℓ : ℓ 0 = 1) (b : ℕ) :
    (b : ℝ) * (cost f ℓ : ℝ) ≤ (total f : ℝ) * (H0 f + b) :=
  (one_symbol_eq f ℓ hℓ b).le

/-- The bound of the property (`≤`, "at most") for every non-empty alphabet: with one
    symbol an optimal code has `ℓ = [1]` and the bound holds with equality, otherwise it is
    strict. -/
theorem level_bits_le {b : ℕ} (hb : 1 ≤ b) (f ℓ : Fin k → ℕ) (hf : ∀ i, 0 < f i)
    (hopt : Optimal (2 ^ b) f ℓ) (hk : 1 ≤ k) :
    (b : ℝ) * (cost f ℓ : ℝ) ≤ (total f : ℝ) * (H0 f + b) := by
  rcases Nat.lt_or_ge k 2 with h1 | h2
  · obtain rfl : k = 1 := by omega
    have hfeas : Kraft (2 ^ b) (fun _ : Fin 1 => 1) :=
      const_feasible (by rw [pow_one]; exact Nat.one_le_two_pow) (le_refl 1)
    have hle := hopt.2 _ hfeas
    rw [cost_const, mul_one] at hle
    have hle' : (cost f ℓ : ℝ) ≤ (total f : ℝ) := Nat.cast_le.2 hle
    have hb0 : (0 : ℝ) ≤ b := Nat.cast_nonneg _
    rw [H0_one, zero_add, mul_comm (total f : ℝ)]
    exact mul_le_mul_of_nonneg_left hle' hb0
  · exact (level_bits_lt hb f ℓ hf hopt h2).le

theorem level_bits_le_quad (f ℓ : Fin k → ℕ) (hf : ∀ i, 0 < f i) (hopt : Optimal 4 f ℓ)
    (hk : 1 ≤ k) :
    2 * (cost f ℓ : ℝ) ≤ (total f : ℝ) * (H0 f + 2) := by
  have h := level_bits_le (b := 2) (by decide) f ℓ hf hopt hk
  rwa [Nat.cast_ofNat] at h

theorem level_bits_le_bin (f ℓ : Fin k → ℕ) (hf : ∀ i, 0 < f i) (hopt : Optimal 2 f ℓ)
    (hk : 1 ≤ k) :
    (cost f ℓ : ℝ) ≤ (total f : ℝ) * (H0 f + 1) := by
  have h := level_bits_le (b := 1) (le_refl 1) f ℓ hf hopt hk
  rwa [Nat.cast_one, one_mul] at h

/-! ### 4. Never more level data than the plain tree -/

/-- The fixed-length code with `L ≥ 1` fragments is Kraft-feasible when the alphabet has at
    most `D^L` symbols. -/
theorem plain_feasible {D L : ℕ} (hk : k ≤ D ^ L) (hL : 1 ≤ L) :
    Kraft D (fun _ : Fin k => L) :=
  const_feasible hk hL

/-- The plain tree writes every symbol to all `L` levels (`n·L` fragments); an optimal code
    never writes more. -/
theorem le_plain {D L : ℕ} (f ℓ : Fin k → ℕ) (hopt : Optimal D f ℓ) (hk : k ≤ D ^ L)
    (hL : 1 ≤ L) :
    cost f ℓ ≤ total f * L := by
  have := hopt.2 _ (const_feasible hk hL)
  rwa [cost_const] at this

theorem le_plain_bits {D L : ℕ} (b : ℕ) (f ℓ : Fin k → ℕ) (hopt : Optimal D f ℓ)
    (hk : k ≤ D ^ L) (hL : 1 ≤ L) :
    b * cost f ℓ ≤ b * (total f * L) :=
  Nat.mul_le_mul_left b (le_plain f ℓ hopt hk hL)

/-! ### 5. Exact-arithmetic forms of the comparison `bits < n·(H0 + b)` -/

theorem two_rpow_entropy (f : Fin k → ℕ) (hf : ∀ i, 0 < f i) (hk : 1 ≤ k) :
    (2 : ℝ) ^ ((total f : ℝ) * H0 f) * ∏ i, ((f i : ℝ) ^ f i) = (total f : ℝ) ^ total f :=
  two_rpow_total_mul_H0 hf hk

/-- natural-number form without subtraction -/
theorem bits_lt_iff (f : Fin k → ℕ) (hf : ∀ i, 0 < f i) (hk : 1 ≤ k) (b bits : ℕ) :
    (bits : ℝ) < (total f : ℝ) * (H0 f + b)
      ↔ 2 ^ bits * ∏ i, f i ^ f i < 2 ^ (b * total f) * total f ^ total f :=
  bits_lt_iff_nat hf hk b bits

theorem bits_lt_iff_real (f : Fin k → ℕ) (hf : ∀ i, 0 < f i) (hk : 1 ≤ k) (b bits : ℕ) :
    (bits : ℝ) < (total f : ℝ) * (H0 f + b)
      ↔ (2 : ℝ) ^ ((bits : ℝ) - (b : ℝ) * (total f : ℝ)) * ∏ i, ((f i : ℝ) ^ (f i : ℝ))
          < (total f : ℝ) ^ (total f : ℝ) :=
  bits_lt_iff_rpow hf hk b bits

theorem bits_lt_iff_of_ge (f : Fin k → ℕ) (hf : ∀ i, 0 < f i) (hk : 1 ≤ k) (b bits : ℕ)
    (h : b * total f ≤ bits) :
    (bits : ℝ) < (total f : ℝ) * (H0 f + b)
      ↔ 2 ^ (bits - b * total f) * ∏ i, f i ^ f i < total f ^ total f :=
  bits_lt_iff_nat_ge hf hk h

theorem bits_lt_iff_of_le (f : Fin k → ℕ) (hf : ∀ i, 0 < f i) (hk : 1 ≤ k) (b bits : ℕ)
    (h : bits ≤ b * total f) :
    (bits : ℝ) < (total f : ℝ) * (H0 f + b)
      ↔ ∏ i, f i ^ f i < 2 ^ (b * total f - bits) * total f ^ total f :=
  bits_lt_iff_nat_le hf hk h

/-- The integer comparison the harness evaluates is implied by optimality (quad). -/
theorem harness_check_quad (f ℓ : Fin k → ℕ) (hf : ∀ i, 0 < f i) (hopt : Optimal 4 f ℓ)
    (hk : 2 ≤ k) :
    2 ^ (2 * cost f ℓ) * ∏ i, f i ^ f i < 2 ^ (2 * total f) * total f ^ total f := by
  rw [← bits_lt_iff f hf (Nat.le_of_succ_le hk) 2 (2 * cost f ℓ), Nat.cast_mul, Nat.cast_ofNat]
  exact level_bits_lt_quad f ℓ hf hopt hk

/-- The integer comparison the harness evaluates is implied by optimality (binary). -/
theorem harness_check_bin (f ℓ : Fin k → ℕ) (hf : ∀ i, 0 < f i) (hopt : Optimal 2 f ℓ)
    (hk : 2 ≤ k) :
    2 ^ cost f ℓ * ∏ i, f i ^ f i < 2 ^ total f * total f ^ total f := by
  have h := (bits_lt_iff f hf (Nat.le_of_succ_le hk) 1 (cost f ℓ)).1
    (by rw [Nat.cast_one]; exact level_bits_lt_bin f ℓ hf hopt hk)
  rwa [Nat.one_mul] at h

section Examples

/-- frequencies of `a a a a b b c d` -/
def fEx : Fin 4 → ℕ := ![4, 2, 1, 1]

example : total fEx = 8 := by decide +kernel
example : ∀ i, 0 < fEx i := by decide +kernel

/-- binary Huffman lengths `[1,2,3,3]`: Kraft holds with equality -/
example : Kraft 2 ![1, 2, 3, 3] := by
  refine ⟨by decide, ?_⟩
  simp [Fin.sum_univ_four]; norm_num

example : cost fEx ![1, 2, 3, 3] = 14 := by decide +kernel

/-- quad lengths `[1,1,1,1]` -/
example : Kraft 4 ![1, 1, 1, 1] := by
  refine ⟨by decide, ?_⟩
  simp [Fin.sum_univ_four]; norm_num

example : cost fEx ![1, 1, 1, 1] = 8 := by decide +kernel

/-- the Shannon lengths of `fEx` are feasible for both arities -/
example : Kraft 2 (shannonLen 2 fEx) := shannon_feasible (by decide) fEx (by decide)
example : Kraft 4 (shannonLen 4 fEx) := shannon_feasible (by decide) fEx (by decide)

/-- binary: 14 bits `< 8·(H0 + 1)`, through the integer form `2^14·2^10 < 2^8·8^8` -/
example : ((14 : ℕ) : ℝ) < (total fEx : ℝ) * (H0 fEx + (1 : ℕ)) := by
  rw [bits_lt_iff fEx (by decide) (by decide) 1 14]
  decide +kernel

/-- quad: 16 bits `< 8·(H0 + 2)` -/
example : ((16 : ℕ) : ℝ) < (total fEx : ℝ) * (H0 fEx + (2 : ℕ)) := by
  rw [bits_lt_iff fEx (by decide) (by decide) 2 16]
  decide +kernel

/-- `fEx` is dyadic: `n·H0 = 14` exactly, so 14 bits is *not* below `n·(H0 + 0)` and the
    15th bit is -/
example : ¬ ((14 : ℕ) : ℝ) < (total fEx : ℝ) * (H0 fEx + (0 : ℕ)) := by
  rw [bits_lt_iff fEx (by decide) (by decide) 0 14]
  decide +kernel

example : ((13 : ℕ) : ℝ) < (total fEx : ℝ) * (H0 fEx + (0 : ℕ)) := by
  rw [bits_lt_iff fEx (by decide) (by decide) 0 13]
  decide +kernel

/-- plain tree over 4 symbols: `L = 2` binary levels, `8·2 = 16 ≥ 14`; `L = 1` quad level -/
example : Kraft 2 (fun _ : Fin 4 => 2) := plain_feasible (by decide) (by decide)
example : Kraft 4 (fun _ : Fin 4 => 1) := plain_feasible (by decide) (by decide)
example (ℓ : Fin 4 → ℕ) (h : Optimal 2 fEx ℓ) : cost fEx ℓ ≤ 16 :=
  le_plain (L := 2) fEx ℓ h (by decide) (by decide)
example (ℓ : Fin 4 → ℕ) (h : Optimal 2 fEx ℓ) :
    (cost fEx ℓ : ℝ) < (total fEx : ℝ) * (H0 fEx + 1) :=
  level_bits_lt_bin fEx ℓ (by decide) h (by decide)
example (ℓ : Fin 4 → ℕ) (h : Optimal 4 fEx ℓ) :
    2 * (cost fEx ℓ : ℝ) < (total fEx : ℝ) * (H0 fEx + 2) :=
  level_bits_lt_quad fEx ℓ (by decide) h (by decide)

/-- one symbol occurring 5 times, quad tree: `2·5 = 5·(0 + 2)` -/
example : (2 : ℝ) * (cost ![5] ![1] : ℝ) = (total ![5] : ℝ) * (H0 ![5] + 2) := by
  simpa using one_symbol_eq ![5] ![1] rfl 2

end Examples

end Qwt.Props.C15
