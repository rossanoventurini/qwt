import Qwt.Props.C12Closed
import Qwt.Props.C08

/-!
# C12 / C08 — histories on the position iterators

`ones()`, `zeros()`, `ones_with_pos(p)`, `zeros_with_pos(p)` return a `BitVectorBitPositionsIter`; the crate
overrides none of the provided `Iterator` methods for it, so `nth`, `count`, `last` (and what the harness calls
terminally: `min`, `max`, `fold`, `for_each`, `reduce`) are repeated calls of `next`.

The theorems speak of the list `PosIter.collect …` of the answers of `next` up to its first `None`, read by index:
every history of calls over that list is the history of the deque specification over the positions of the wanted
bit from `p` on (`C08.posIter_ok`) — the statement the driver evaluates for the `ones_hist` / `zeros_hist` requests.
Reading the list beyond its end as `None` stands for the calls after the first `None`; that these answer `None`
again is `C08.posIter_none_stable`, a separate theorem which the statements here do not mention.
-/
namespace Qwt.Props.C12Closed
open Qwt Qwt.Iter

theorem pos_iter_history (bit : Bool) (b : BV.BitVector) (hb : BV.Inv b) (pos : Nat) (ops : List FwdOp) :
    fwdRun (fun i => .ok (BV.PosIter.collect bit b (b.nBits + 1) (BV.PosIter.withPos bit b pos))[i]?)
        (BV.PosIter.collect bit b (b.nBits + 1) (BV.PosIter.withPos bit b pos)).length 0 ops =
      specRun ((List.range b.nBits).filter (fun i => decide (pos ≤ i ∧ (BV.abs b)[i]! = bit)))
        (ops.map FwdOp.toIterOp) := by
  rw [C08.posIter_ok bit b hb pos]
  exact C12.fwditer_history _ _ (fun _ => rfl) ops

theorem pos_iter_new_history (bit : Bool) (b : BV.BitVector) (hb : BV.Inv b) (ops : List FwdOp) :
    fwdRun (fun i => .ok (BV.PosIter.collect bit b (b.nBits + 1) BV.PosIter.new)[i]?)
        (BV.PosIter.collect bit b (b.nBits + 1) BV.PosIter.new).length 0 ops =
      specRun (Spec.positions bit (BV.abs b)) (ops.map FwdOp.toIterOp) := by
  rw [C08.posIter_new_positions bit b hb]
  exact C12.fwditer_history _ _ (fun _ => rfl) ops

/-- non-vacuity of the deque reading on a concrete list of positions -/
example : specRun [3, 9, 64, 70] ([FwdOp.next, .nth 1, .count].map FwdOp.toIterOp) =
    [Out.some 3, Out.some 64, Out.val 1] := by decide

end Qwt.Props.C12Closed
