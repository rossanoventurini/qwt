import Qwt.Proofs.Interfaces
import Qwt.Proofs.RSQSelect
import Qwt.Proofs.RSQHolds

/-!
C05 — `RSQVector` (bit-packed rank/select over a quaternary sequence) answers every query
like the plain list it was built from, for both block sizes and both build profiles.

* `QV.Holds q s` (Qwt/Proofs/RSQHolds.lean): word-level meaning of a `QVector`.
* `RSQP.RepInv B r s` (Qwt/Proofs/RSQBuild.lean): the representation invariant that
  `RSQVector::from` establishes (`fromQV_repInv`): packed superblock words, sentinel block,
  select samples with sentinel, prefix counts.
* from `RepInv`: `get_ok`, `rank_ok`, `occs_ok`, `occsSmaller_ok`, `rankBlock_ok`, `select_ok`.
* `select` assumes `RSQP.SelHyp`, the correctness of `select_in_word_u128` (property C17).
-/
namespace Qwt.Props.C05
open Qwt Qwt.QV Qwt.RSQ Qwt.RSQP

variable {B : Nat} {r : RSQVector} {s : List Nat}

theorem fromQV_repInv {qv : QVector} (dbg : Bool) (hB : B = 256 ∨ B = 512) (h : QV.Holds qv s)
    (hs : ∀ x ∈ s, x < 4) (hl : s.length < 2 ^ 43) :
    ∃ r, RSQ.fromQV dbg B qv = .ok r ∧ RepInv B r s := fromQV_ok dbg hB h hs hl

theorem get_ok (h : RepInv B r s) (dbg : Bool) (i : Nat) : RSQ.get dbg r i = .ok s[i]? :=
  RSQP.get_ok h.holds h.syms dbg i

theorem getU_ok (h : RepInv B r s) (dbg : Bool) (i : Nat) (hi : i < s.length) :
    RSQ.getUnchecked dbg r i = .ok (s.getD i 0) := getUnchecked_ok h.holds h.syms dbg hi

theorem len_ok (h : RepInv B r s) : RSQ.len r = s.length := holds_len h.holds

/-! `rank` answers for every symbol (none above 3, no fault) and every position -/

theorem rank_ok (h : RepInv B r s) (dbg : Bool) (c i : Nat) :
    RSQ.rank dbg B r c i = .ok (if c ≤ 3 ∧ i ≤ s.length then some (Spec.rank c i s) else none) :=
  RSQP.rank_ok h dbg c i

theorem rankU_ok (h : RepInv B r s) (dbg : Bool) (c i : Nat) (hc : c ≤ 3) (hi : i ≤ s.length) :
    RSQ.rankUnchecked dbg B r c i = .ok (Spec.rank c i s) := rankUnchecked_ok h dbg hc hi

theorem occs_ok (h : RepInv B r s) (dbg : Bool) (c : Nat) :
    RSQ.occs dbg r c = .ok (if c ≤ 3 then some (s.count c) else none) := RSQP.occs_ok h dbg c

theorem occsU_ok (h : RepInv B r s) (dbg : Bool) (c : Nat) (hc : c ≤ 3) :
    RSQ.occsUnchecked dbg r c = .ok (s.count c) := occsUnchecked_ok h dbg hc

theorem occsSmaller_ok (h : RepInv B r s) (dbg : Bool) (c : Nat) :
    RSQ.occsSmaller dbg r c = .ok (if c ≤ 3 then some (Spec.occsSmaller id c s) else none) :=
  RSQP.occsSmaller_ok h dbg c

theorem occsSmallerU_ok (h : RepInv B r s) (dbg : Bool) (c : Nat) (hc : c ≤ 3) :
    RSQ.occsSmallerUnchecked dbg r c = .ok (Spec.occsSmaller id c s) :=
  occsSmallerUnchecked_ok h dbg hc

/-! the block counter: its exact value, hence a lower estimate of the rank -/

theorem rankBlock_eq (h : RepInv B r s) (dbg : Bool) (c i : Nat) (hc : c ≤ 3) (hi : i ≤ s.length) :
    RSQ.rankBlock dbg B r.rs c i = .ok (Spec.rank c (i / B * B) s) :=
  RSQP.rankBlock_ok h.rs h.hlen dbg hc hi

theorem rankBlock_ok (h : RepInv B r s) (dbg : Bool) (c i : Nat) (hc : c ≤ 3) (hi : i ≤ s.length) :
    ∃ v, RSQ.rankBlock dbg B r.rs c i = .ok v ∧ v ≤ Spec.rank c i s :=
  ⟨_, rankBlock_eq h dbg c i hc hi, Spec.rank_mono c s (Nat.div_mul_le_self _ _)⟩

/-- `select_block`: start of the block that contains occurrence `k` of `c` (at position `p`),
    and the rank at that block start -/
theorem selectBlock_ok (h : RepInv B r s) (c k p : Nat) (hc : c ≤ 3) (hp : s[p]? = some c)
    (hr : Spec.rank c p s = k) :
    RSQ.selectBlock B r.rs c (k + 1) = .ok (p / B * B, Spec.rank c (p / B * B) s) :=
  RSQP.selectBlock_ok (bsize_pos h.hB) h.rs h.hlen (Nat.lt_succ_of_le hc) hp hr

theorem select_ok (hsel : SelHyp) (h : RepInv B r s) (dbg : Bool) (c k : Nat) :
    RSQ.select dbg B r c k = .ok (if c ≤ 3 then Spec.select c k s else none) :=
  RSQP.select_ok hsel h dbg c k

theorem selectU_ok (hsel : SelHyp) (h : RepInv B r s) (dbg : Bool) (c k p : Nat) (hc : c ≤ 3)
    (hp : Spec.select c k s = some p) : RSQ.selectUnchecked dbg B r c k = .ok p := by
  have hk : k < s.count c := by
    rcases Nat.lt_or_ge k (s.count c) with hk | hk
    · exact hk
    · rw [Proofs.Word.select_none c s k hk] at hp; cases hp
  unfold RSQ.selectUnchecked
  rw [dbgAssert_true dbg (decide_eq_true hc), occs_ok h dbg c, if_pos hc]
  simp only [ok_bind]
  rw [dbgAssert_true dbg (decide_eq_true hk), select_ok hsel h dbg c k, if_pos hc, hp]
  rfl

/-- Every field of `Represents` but `select` holds without `SelHyp`: callers that have `select` by other
    means get `Represents` free of that hypothesis. -/
theorem represents_of_select (h : RepInv B r s)
    (hsel : ∀ dbg c k, RSQ.select dbg B r c k = .ok (if c ≤ 3 then Spec.select c k s else none)) :
    RSQ.Represents B r s where
  symbols := h.syms
  len_eq := len_ok h
  get := get_ok h
  getU := getU_ok h
  rank := rank_ok h
  rankU := rankU_ok h
  select := hsel
  occs := occs_ok h
  occsSmaller := occsSmaller_ok h
  occsSmallerU := occsSmallerU_ok h
  rankBlock := rankBlock_ok h

theorem represents_of_repInv (hsel : SelHyp) (h : RepInv B r s) : RSQ.Represents B r s :=
  represents_of_select h (select_ok hsel h)

/-- main theorem: construction from a `QVector` holding `s` yields a representing structure -/
theorem fromQV_represents {qv : QVector} (hsel : SelHyp) (dbg : Bool) (hB : B = 256 ∨ B = 512)
    (h : QV.Holds qv s) (hs : ∀ x ∈ s, x < 4) (hl : s.length < 2 ^ 43) :
    ∃ r, RSQ.fromQV dbg B qv = .ok r ∧ RSQ.Represents B r s := by
  obtain ⟨r, e, hr⟩ := fromQV_repInv dbg hB h hs hl
  exact ⟨r, e, represents_of_repInv hsel hr⟩

theorem holds_empty : QV.Holds {} [] := QV.holds_empty

theorem default_represents (hsel : SelHyp) (hB : B = 256 ∨ B = 512) :
    ∃ r, RSQ.default B = .ok r ∧ RSQ.Represents B r [] :=
  fromQV_represents hsel false hB holds_empty (fun x hx => by cases hx) (by decide)

theorem levelLaw (hsel : SelHyp) (dbg : Bool) (hB : B = 256 ∨ B = 512) : LevelLaw dbg B := by
  intro digits hd hlen
  have hlen' : digits.length < 2 ^ 43 := hlen
  obtain ⟨q, e, hq⟩ := holds_of_pushes digits hd (by
    have : two64 = 2 ^ 64 := by decide
    omega)
  obtain ⟨r, e2, hr⟩ := fromQV_represents hsel dbg hB hq hd hlen'
  refine ⟨r, ?_, hr⟩
  unfold RSQ.mkLevel
  rw [e]
  exact e2

/-! ### non-vacuity -/

/-- `Holds` of a concrete vector: `[1, 2, 3]` is high bits `0b110`, low bits `0b101` -/
example : QV.Holds { data := #[6, 0, 5, 0], position := 6 } [1, 2, 3] := by
  refine ⟨rfl, rfl, ?_, ?_, ?_⟩
  · intro w hw
    have h4 : w = 0 ∨ w = 1 ∨ w = 2 ∨ w = 3 := by
      have : w < 4 := hw
      omega
    rcases h4 with rfl | rfl | rfl | rfl <;> decide
  · intro l p hl hp
    have hl0 : l = 0 := by
      have : l < 1 := hl
      omega
    subst hl0
    revert p
    decide +kernel
  · intro l p hl hp
    have hl0 : l = 0 := by
      have : l < 1 := hl
      omega
    subst hl0
    revert p
    decide +kernel

/-- the builder produces exactly that vector -/
example : (QV.fromIter [1, 2, 3]).toOption = some { data := #[6, 0, 5, 0], position := 6 } := by
  decide +kernel

/-! concrete evaluation of the model on `[0,1,2,3,1]` -/
example : Out.ofOpt (RSQ.new false 256 [0, 1, 2, 3, 1] >>= fun r => RSQ.get false r 2) = .some 2 := by
  decide +kernel
example : Out.ofOpt (RSQ.new false 256 [0, 1, 2, 3, 1] >>= fun r => RSQ.get false r 5) = .none := by
  decide +kernel
example : Out.ofOpt (RSQ.new false 256 [0, 1, 2, 3, 1] >>= fun r => RSQ.rank false 256 r 1 5) = .some 2 := by
  decide +kernel
example : Out.ofOpt (RSQ.new true 512 [0, 1, 2, 3, 1] >>= fun r => RSQ.rank true 512 r 1 4) = .some 1 := by
  decide +kernel
example : Out.ofOpt (RSQ.new false 256 [0, 1, 2, 3, 1] >>= fun r => RSQ.rank false 256 r 7 2) = .none := by
  decide +kernel
example : Out.ofOpt (RSQ.new false 256 [0, 1, 2, 3, 1] >>= fun r => RSQ.rank false 256 r 1 6) = .none := by
  decide +kernel
example : Out.ofOpt (RSQ.new false 256 [0, 1, 2, 3, 1] >>= fun r => RSQ.select false 256 r 1 1) = .some 4 := by
  decide +kernel
example : Out.ofOpt (RSQ.new true 512 [0, 1, 2, 3, 1] >>= fun r => RSQ.select true 512 r 3 0) = .some 3 := by
  decide +kernel
example : Out.ofOpt (RSQ.new false 256 [0, 1, 2, 3, 1] >>= fun r => RSQ.select false 256 r 1 2) = .none := by
  decide +kernel
example : Out.ofOpt (RSQ.new false 256 [0, 1, 2, 3, 1] >>= fun r => RSQ.occs false r 1) = .some 2 := by
  decide +kernel
example : Out.ofOpt (RSQ.new false 256 [0, 1, 2, 3, 1] >>= fun r => RSQ.occsSmaller false r 3) = .some 4 := by
  decide +kernel
/-- and the specification agrees -/
example : Spec.rank 1 5 [0, 1, 2, 3, 1] = 2 ∧ Spec.select 1 1 [0, 1, 2, 3, 1] = some 4 ∧
    Spec.occsSmaller id 3 [0, 1, 2, 3, 1] = 4 := by decide

end Qwt.Props.C05
