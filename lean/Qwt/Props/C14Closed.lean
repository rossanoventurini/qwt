import Qwt.Props.C14
import Qwt.Props.Closed
import Qwt.Proofs.SpaceSizes

/-! C14, closed — the size hypotheses of `Qwt/Props/C14.lean` (`RSQSize`, `RSWSize`) are derived
from the construction paths, so the space bounds hold for *every* structure built by `new`;
hypotheses are only: element width, `|S| < 2^43`, block size `∈ {256, 512}`.

Summary (`n = |S|`, heap in bytes, `L` = number of levels):

* quad tree, block 256, no prefetch support: `800·heap ≤ L·(227 n + 260000)`,
  i.e. `heap bits ≤ 2nL·(1 + 1/8 + 1/100) + 2600·L`                         (`qwt_space_256`)
* quad tree, block 512: `1600·heap ≤ L·(429 n + 520000)` (`1/16` for `1/8`)   (`qwt_space_512`)
* prefetch support adds at most `L·(336·(n/2^20) + 1280)` bytes, i.e.
  `≤ L·(n/100 + 10240)` bits — under 0.5 % of `2nL`                          (`pfs_heap_le`)
  so `800·heap ≤ L·(228 n + 1284000)`, `1600·heap ≤ L·(430 n + 2568000)`     (`qwt_space_256_pfs`, `_512_pfs`)
* binary tree: `512·heap ≤ L·(67 n + 384000) + 4096·L`                        (`wt_space_closed`)
* stand-alone `RSQVector::new`, `RSWide::new`: the per-level bounds           (`rsq_space_*`, `rsw_space`)
* the model's `heap` is a function of the buffer lengths only                  (`no_slack_*`)

What does not hold: `RepInv` does not bound the sample arrays from above (`repInv_not_sufficient`), and `RSWSize`
is one entry too tight on the padded last line (`rsw_sizes_false`); `RSWSize'` (`n/8192 + 5`
sample entries) is what `RSWide::new` establishes, and it yields the same bit bound.

Tuning constants.  The select sampling periods and the sample shift of the prefetch support are
extracted from the crate (`Qwt/Extracted.lean`).  The size facts are stated with the extracted
names (`RSQSizeP`: `n / rsqSelectNumSamples + 8`, `RSWSize'`: `n / widePer + 5`,
`nbOf n = ⌈(n-1)/rate⌉ + 1` with `rate = 2 ^ pfsSampleShift`); for the values
8192, 8192, 2048 they are the literal facts (`…_8192`, `…_2048` corollaries, which
take the value of the constant as a hypothesis that `rfl` discharges).  The numeric space bounds
use only the side conditions `4096 ≤ rsqSelectNumSamples`,
`4096 ≤ wide*PerHint`, `1024 ≤ narrow*PerHint`, `10 ≤ pfsSampleShift`, decided on the extracted
values (larger periods only make the structures smaller). -/
namespace Qwt.Props.C14
open Qwt Qwt.Space Qwt.SpaceSizes

/-- the size facts follow from the representation invariant plus the (exact) sizes of the
    sample arrays, `sampLen (count c) = max 1 ⌈count c / P⌉ + 1`, `P = rsqSelectNumSamples` -/
theorem rsq_sizes {B : Nat} {r : RSQ.RSQVector} {s : List Nat} (h : RSQP.RepInv B r s)
    (hs : RSQSamples r s) : RSQSizeP B s.length r :=
  rsqSize_of h.holds h.rs hs

theorem rsq_fromQV {B : Nat} {qv : QV.QVector} {s : List Nat} (dbg : Bool) (hB : B = 256 ∨ B = 512)
    (h : QV.Holds qv s) (hs : ∀ x ∈ s, x < 4) (hl : s.length < 2 ^ 43) :
    ∃ r, RSQ.fromQV dbg B qv = .ok r ∧ RSQP.RepInv B r s ∧ RSQSamples r s ∧ RSQSizeP B s.length r := by
  obtain ⟨r, e, hinv⟩ := RSQP.fromQV_ok dbg hB h hs hl
  have hsm := fromQV_samples hB h hs hl e
  exact ⟨r, e, hinv, hsm, rsq_sizes hinv hsm⟩

theorem rsq_sizes_of_fromQV {B : Nat} {qv : QV.QVector} {s : List Nat} {r : RSQ.RSQVector} (dbg : Bool)
    (hB : B = 256 ∨ B = 512) (h : QV.Holds qv s) (hs : ∀ x ∈ s, x < 4) (hl : s.length < 2 ^ 43)
    (e : RSQ.fromQV dbg B qv = .ok r) : RSQSizeP B s.length r :=
  fromQV_sizes hB h hs hl e

/-- the literal forms (`Space.RSQSize`: `n / 8192 + 8` sample entries), for every sampling period
    of at least 8192 (`hP` by `decide` on the extracted value) -/
theorem rsq_sizes_8192 (hP : 8192 ≤ Extracted.rsqSelectNumSamples) {B : Nat} {r : RSQ.RSQVector}
    {s : List Nat} (h : RSQP.RepInv B r s) (hs : RSQSamples r s) : RSQSize B s.length r :=
  (rsq_sizes h hs).toRSQSize hP

theorem rsq_sizes_of_fromQV_8192 (hP : 8192 ≤ Extracted.rsqSelectNumSamples) {B : Nat}
    {qv : QV.QVector} {s : List Nat} {r : RSQ.RSQVector} (dbg : Bool)
    (hB : B = 256 ∨ B = 512) (h : QV.Holds qv s) (hs : ∀ x ∈ s, x < 4) (hl : s.length < 2 ^ 43)
    (e : RSQ.fromQV dbg B qv = .ok r) : RSQSize B s.length r :=
  (rsq_sizes_of_fromQV dbg hB h hs hl e).toRSQSize hP

/-- `RepInv` gives the lines and the superblocks of `RSQSize`; the bound on the sample arrays
    does not follow from it (`repInv_not_sufficient`) and is a hypothesis -/
theorem rsq_sizes_partial {B : Nat} {r : RSQ.RSQVector} {s : List Nat} (h : RSQP.RepInv B r s)
    (hsamples : (r.rs.selectSamples.toList.map Array.size).sum ≤ s.length / 8192 + 8) :
    RSQSize B s.length r :=
  ⟨h.holds.size_eq, h.rs.sbs_size, hsamples⟩

theorem rsw_sizes' {r : RSW.RSWide} {s : List Bool} (h : RSW.Inv r s) : RSWSize' s.length r :=
  RSWSize'.of_inv h

theorem rsn_sizes {r : RSN.RSNarrow} {s : List Bool} (h : RSN.Inv r s) : RSNSize s.length r :=
  RSNSize.of_inv h

/-- `RSW.Inv` gives the lines and the metadata of `RSWSize`; its sample bound does not follow
    (`rsw_sizes_false`) and is a hypothesis -/
theorem rsw_sizes_partial {r : RSW.RSWide} {s : List Bool} (h : RSW.Inv r s)
    (hsamples : (r.selectSamples.toList.map Array.size).sum ≤ s.length / 8192 + s.length / 8192 + 4) :
    RSWSize s.length r :=
  ⟨(RSWSize'.of_inv h).lines, (RSWSize'.of_inv h).sm, hsamples⟩

/-- one level of the binary tree from what `RSWide::new` establishes: same bound as
    `rsw_level_bits` -/
theorem rsw_level_bits' (n : Nat) (r : RSW.RSWide) (h : RSWSize' n r) :
    512 * ((rsw r).heap + (rsw r).self_) ≤ 67 * n + 384000 := h.bits

section qwt
variable {c : Cfg} {S : List Nat} {t : QWTree.QWT}

theorem qwt_levels (hB : c.B = 256 ∨ c.B = 512) (hS : ∀ x ∈ S, x < 2 ^ c.W)
    (hlen : S.length < 2 ^ 43) (hnew : QWTree.new c S.toArray = .ok t) :
    t.qvs.size = (Spec.bitlen (Spec.maxNat S) + 1) / 2 ∧
      ∀ r ∈ t.qvs.toList, RSQSizeP c.B S.length r :=
  ⟨(new_sizes c hB S hS hlen hnew).qsz, (new_sizes c hB S hS hlen hnew).qv⟩

/-- … with the literal size facts, for every sampling period of at least 8192 -/
theorem qwt_levels_8192 (hP : 8192 ≤ Extracted.rsqSelectNumSamples) (hB : c.B = 256 ∨ c.B = 512)
    (hW : 0 < c.W) (hS : ∀ x ∈ S, x < 2 ^ c.W)
    (hlen : S.length < 2 ^ 43) (hnew : QWTree.new c S.toArray = .ok t) :
    t.qvs.size = (Spec.bitlen (Spec.maxNat S) + 1) / 2 ∧
      ∀ r ∈ t.qvs.toList, RSQSize c.B S.length r :=
  ⟨(qwt_levels hB hS hlen hnew).1, fun r hr => ((qwt_levels hB hS hlen hnew).2 r hr).toRSQSize hP⟩

/-- quad tree, block size 256, without prefetch support:
    `heap bits ≤ 2nL·(1 + 1/8 + 1/100) + 2600·L` -/
theorem qwt_space_256 (hB : c.B = 256) (hp : c.pfs = false) (hW : 0 < c.W)
    (hS : ∀ x ∈ S, x < 2 ^ c.W) (hlen : S.length < 2 ^ 43)
    (hnew : QWTree.new c S.toArray = .ok t) :
    800 * (qwt t).heap ≤ (Spec.bitlen (Spec.maxNat S) + 1) / 2 * (227 * S.length + 260000) := by
  have hs := new_sizes c (Or.inl hB) S hS hlen hnew
  have := qwt_space_of_levels 800 _ t (fun r hr => (hB ▸ hs.qv r hr).level_bits_256)
  rwa [hs.pfs_none hp, show (pfsOpt t.nLevels none).heap = 0 from rfl, Nat.mul_zero,
    Nat.add_zero, hs.qsz] at this

/-- quad tree, block size 512, without prefetch support:
    `heap bits ≤ 2nL·(1 + 1/16 + 1/100) + 2600·L` -/
theorem qwt_space_512 (hB : c.B = 512) (hp : c.pfs = false) (hW : 0 < c.W)
    (hS : ∀ x ∈ S, x < 2 ^ c.W) (hlen : S.length < 2 ^ 43)
    (hnew : QWTree.new c S.toArray = .ok t) :
    1600 * (qwt t).heap ≤ (Spec.bitlen (Spec.maxNat S) + 1) / 2 * (429 * S.length + 520000) := by
  have hs := new_sizes c (Or.inr hB) S hS hlen hnew
  have := qwt_space_of_levels 1600 _ t (fun r hr => (hB ▸ hs.qv r hr).level_bits_512)
  rw [hs.pfs_none hp, show (pfsOpt t.nLevels none).heap = 0 from rfl, Nat.mul_zero,
    Nat.add_zero, hs.qsz] at this
  exact Nat.le_trans this (Nat.mul_le_mul_left _
    (Nat.add_le_add_right (Nat.mul_le_mul_right _ (by decide)) _))

/-- `nbOf n = ⌈(n-1)/rate⌉ + 1` sample bits occupy at most `n/(512·rate) + 2` lines of 512 bits
    (`rate = 2 ^ pfsSampleShift`; `n/2^20 + 2` for the shift 11, `nb_lines_2048`) -/
theorem nb_lines (n : Nat) : (PfsP.nbOf n + 511) / 512 ≤ n / (512 * PfsP.rate) + 2 := by
  have hR := PfsP.rate_pos
  have h1 : PfsP.nbOf n ≤ n / PfsP.rate + 2 := by
    unfold PfsP.nbOf
    split
    · exact Nat.zero_le _
    · exact Nat.add_le_add_right (Nat.le_trans (Nat.div_le_div_right (Nat.sub_le _ _))
        (Nat.le_of_eq (Nat.add_div_right n hR))) 1
  have h2 : n / (512 * PfsP.rate) = n / PfsP.rate / 512 := by
    rw [Nat.div_div_eq_div_mul, Nat.mul_comm]
  rw [h2]
  generalize n / PfsP.rate = q at *
  omega

theorem nb_lines_2048 (h11 : Extracted.pfsSampleShift = 11) (n : Nat) :
    (PfsP.nbOf n + 511) / 512 ≤ n / 1048576 + 2 := by
  have := nb_lines n
  rwa [PfsP.rate_2048 h11] at this

theorem rsn_level_heap (n : Nat) (r : RSN.RSNarrow) (h : RSNSize (PfsP.nbOf n) r) :
    (rsn r).heap ≤ 84 * (n / (512 * PfsP.rate)) + 232 := by
  have h1 := rsn_heap_le _ r h
  have h2 := nb_lines n
  omega

/-- the sampling structure of one level: four `RSNarrow` plus the boxed slice of four headers -/
theorem pfs_level_heap (n : Nat) (p : PFS.PrefetchSupport) (h : PfsSize n p) :
    (Space.pfs p).heap ≤ 336 * (n / (512 * PfsP.rate)) + 1248 := by
  have := scaled_sum_le rsn 1 0 _ p.samples.toList
    (fun r hr => Nat.le_trans (Nat.le_of_eq (Nat.one_mul _)) (rsn_level_heap n r (h.rsn r hr)))
  rw [pfs_heap, h.size]
  rw [Array.length_toList, h.size] at this
  omega

/-- all sampling structures of a tree with `L` levels: `≤ L·(336·(n/(512·rate)) + 1280)` bytes
    (`336·(n/2^20)` for the shift 11, `pfs_heap_le_2048`) -/
theorem pfs_heap_le (n L : Nat) (a : Array PFS.PrefetchSupport) (hsz : a.size = L)
    (h : ∀ p ∈ a.toList, PfsSize n p) :
    (pfsOpt L (some a)).heap ≤ L * (336 * (n / (512 * PfsP.rate)) + 1280) := by
  have := scaled_sum_le Space.pfs 1 32 _ a.toList
    (fun p hp => Nat.le_trans (Nat.le_of_eq (Nat.one_mul _))
      (Nat.add_le_add_right (pfs_level_heap n p (h p hp)) 32))
  rw [Array.length_toList, hsz, Nat.one_mul] at this
  rw [pfsOpt_heap]
  exact this

theorem pfs_heap_le_2048 (h11 : Extracted.pfsSampleShift = 11) (n L : Nat)
    (a : Array PFS.PrefetchSupport) (hsz : a.size = L) (h : ∀ p ∈ a.toList, PfsSize n p) :
    (pfsOpt L (some a)).heap ≤ L * (336 * (n / 1048576) + 1280) := by
  have := pfs_heap_le n L a hsz h
  rwa [PfsP.rate_2048 h11] at this

theorem pfs_heap_scaled (m K n L : Nat) (a : Array PFS.PrefetchSupport) (hsz : a.size = L)
    (h : ∀ p ∈ a.toList, PfsSize n p) (hK : m * (336 * (n / (512 * PfsP.rate)) + 1280) ≤ K) :
    m * (pfsOpt L (some a)).heap ≤ L * K :=
  calc m * (pfsOpt L (some a)).heap ≤ m * (L * (336 * (n / (512 * PfsP.rate)) + 1280)) :=
        Nat.mul_le_mul_left _ (pfs_heap_le n L a hsz h)
    _ = L * (m * (336 * (n / (512 * PfsP.rate)) + 1280)) := Nat.mul_left_comm ..
    _ ≤ L * K := Nat.mul_le_mul_left _ hK

/-- side condition on the extracted constant for the bit bounds of the sampling structures -/
theorem shift_ge_ten : 10 ≤ Extracted.pfsSampleShift := by decide

theorem pfs_lines_le {k : Nat} (hk : k ≤ Extracted.pfsSampleShift) (n : Nat) :
    n / (512 * PfsP.rate) ≤ n / (512 * 2 ^ k) :=
  Nat.div_le_div_left (Nat.mul_le_mul_left 512 (Nat.pow_le_pow_right (by decide) hk))
    (Nat.mul_pos (by decide) (Nat.two_pow_pos k))

/-- per level, in bits scaled by 100: `n/100 + 10240` for every sample shift `≥ 10` -/
theorem pfs_level_bits (n : Nat) : 800 * (336 * (n / (512 * PfsP.rate)) + 1280) ≤ n + 1024000 := by
  have := pfs_lines_le shift_ge_ten n
  omega

theorem pfs_level_bits_1600 (n : Nat) :
    1600 * (336 * (n / (512 * PfsP.rate)) + 1280) ≤ 2 * n + 2048000 := by
  have := pfs_level_bits n
  generalize 336 * (n / (512 * PfsP.rate)) + 1280 = X at this ⊢
  omega

/-- scaled by 100: the sampling structures cost at most `L·(n/100 + 10240)` bits, under half a
    percent of the `2nL` payload bits (every sample shift `≥ 10`) -/
theorem pfs_bits_le (n L : Nat) (a : Array PFS.PrefetchSupport) (hsz : a.size = L)
    (h : ∀ p ∈ a.toList, PfsSize n p) :
    800 * (pfsOpt L (some a)).heap ≤ L * (n + 1024000) :=
  pfs_heap_scaled 800 _ n L a hsz h (pfs_level_bits n)

/-- scaled by 200: `L·(n + 2048000)` for every sample shift `≥ 11` (`hR` by `decide` on the extracted
    value: `1600·336 / (512·rate) ≤ 1` needs `rate ≥ 1050`) -/
theorem pfs_bits_le_1600 (hR : 11 ≤ Extracted.pfsSampleShift) (n L : Nat)
    (a : Array PFS.PrefetchSupport) (hsz : a.size = L)
    (h : ∀ p ∈ a.toList, PfsSize n p) :
    1600 * (pfsOpt L (some a)).heap ≤ L * (n + 2048000) :=
  pfs_heap_scaled 1600 _ n L a hsz h (by have := pfs_lines_le hR n; omega)

theorem qwt_heap_split (t : QWTree.QWT) :
    (qwt t).heap = (qwt { t with pfs := none }).heap + (pfsOpt t.nLevels t.pfs).heap := by
  rw [qwt_heap, qwt_heap]
  rfl

theorem pfs_part_le (m K : Nat) (hs : QSizes c S t)
    (hK : m * (336 * (S.length / (512 * PfsP.rate)) + 1280) ≤ K) :
    m * (pfsOpt t.nLevels t.pfs).heap ≤ (Spec.bitlen (Spec.maxNat S) + 1) / 2 * K := by
  rcases hs.pfs with hn | ⟨a, ha, hL, hsz, hp⟩
  · rw [hn, show (pfsOpt t.nLevels none).heap = 0 from rfl, Nat.mul_zero]
    exact Nat.zero_le _
  · rw [ha, hL]
    exact pfs_heap_scaled m K _ _ a hsz hp hK

theorem qwt_space_pfs (m K₁ K₂ : Nat) (hs : QSizes c S t)
    (h1 : ∀ r ∈ t.qvs.toList, m * ((rsq r).heap + (rsq r).self_) ≤ K₁)
    (h2 : m * (336 * (S.length / (512 * PfsP.rate)) + 1280) ≤ K₂) :
    m * (qwt t).heap ≤ (Spec.bitlen (Spec.maxNat S) + 1) / 2 * (K₁ + K₂) := by
  have := qwt_space_of_levels m K₁ t h1
  rw [hs.qsz] at this
  rw [Nat.mul_add]
  exact Nat.le_trans this (Nat.add_le_add_left (pfs_part_le m K₂ hs h2) _)

/-- quad tree, block size 256, WITH prefetch support:
    `heap bits ≤ 2nL·(1 + 1/8 + 1/100 + 1/200) + 12840·L` (below `1 + 1/8 + 2/100`) -/
theorem qwt_space_256_pfs (hB : c.B = 256) (hW : 0 < c.W)
    (hS : ∀ x ∈ S, x < 2 ^ c.W) (hlen : S.length < 2 ^ 43)
    (hnew : QWTree.new c S.toArray = .ok t) :
    800 * (qwt t).heap ≤ (Spec.bitlen (Spec.maxNat S) + 1) / 2 * (228 * S.length + 1284000) := by
  have hs := new_sizes c (Or.inl hB) S hS hlen hnew
  have := qwt_space_pfs 800 _ _ hs (fun r hr => (hB ▸ hs.qv r hr).level_bits_256)
    (pfs_level_bits S.length)
  exact Nat.le_trans this (Nat.mul_le_mul_left _ (by omega))

/-- quad tree, block size 512, WITH prefetch support:
    `heap bits ≤ 2nL·(1 + 1/16 + 1/100 + 1/400) + 12840·L` -/
theorem qwt_space_512_pfs (hB : c.B = 512) (hW : 0 < c.W)
    (hS : ∀ x ∈ S, x < 2 ^ c.W) (hlen : S.length < 2 ^ 43)
    (hnew : QWTree.new c S.toArray = .ok t) :
    1600 * (qwt t).heap ≤ (Spec.bitlen (Spec.maxNat S) + 1) / 2 * (430 * S.length + 2568000) := by
  have hs := new_sizes c (Or.inr hB) S hS hlen hnew
  have := qwt_space_pfs 1600 _ _ hs (fun r hr => (hB ▸ hs.qv r hr).level_bits_512)
    (pfs_level_bits_1600 S.length)
  exact Nat.le_trans this (Nat.mul_le_mul_left _ (by omega))

end qwt

theorem heaps_wt' (n : Nat) (l : List RSW.RSWide) (h : ∀ r ∈ l, RSWSize' n r) :
    ∀ r ∈ l, 512 * ((rsw r).heap + (rsw r).self_) ≤ 67 * n + 384000 :=
  fun r hr => (h r hr).bits

theorem wt_space' (n : Nat) (t : BinWT.WT) (hl : t.lens.size = t.bvs.size)
    (h : ∀ r ∈ t.bvs.toList, RSWSize' n r) :
    512 * (wt false t).heap ≤ t.bvs.size * (67 * n + 384000) + 4096 * t.bvs.size :=
  wt_space_of_levels 512 _ t hl (heaps_wt' n _ h)

/-- plain binary tree: `heap bits ≤ L·n·(1 + 3/64) + 6064·L`, `L = bitlen (max S)` -/
theorem wt_space_closed (c : Cfg) (hW : 0 < c.W) (S : List Nat) (hb : ∀ x ∈ S, x < 2 ^ c.W)
    (hlen : S.length < 2 ^ 43) {t : BinWT.WT} (hnew : BinWT.new c false S.toArray [] = .ok t) :
    512 * (wt false t).heap ≤ Spec.bitlen (Spec.maxNat S) * (67 * S.length + 384000) +
      4096 * Spec.bitlen (Spec.maxNat S) := by
  obtain ⟨h1, h2, _⟩ := bin_new_shape c false _ _ hnew
  have h3 := bin_new_sizes c S hlen hnew
  have := wt_space' S.length t (by rw [h1, h2]) h3
  by_cases hne : S = []
  · subst hne
    have : t = {} := by
      have e : BinWT.new c false ([] : List Nat).toArray [] = .ok {} := rfl
      rw [e] at hnew; exact (Except.ok.inj hnew).symm
    subst this
    simp [wt]
  · rw [h1, ((of_exists_ok (Closed.wt_new c hW S hb hlen) hnew).2 hne).2] at this
    exact this

theorem rsq_new_sizes {dbg : Bool} {B : Nat} (hB : B = 256 ∨ B = 512) (vals : List Int)
    (hl : vals.length < 2 ^ 43) {r : RSQ.RSQVector} (h : RSQ.new dbg B vals = .ok r) :
    RSQSizeP B vals.length r := by
  unfold RSQ.new at h
  obtain ⟨qv, hq, h⟩ := bind_ok_inv h
  have h64 : two64 = 2 ^ 64 := by decide
  obtain ⟨hinv, habs⟩ := of_exists_ok (QV.fromIter_ok vals (by omega)) hq
  have hh := RSQP.holds_of_inv hinv
  have hlen : (QV.abs qv).length = vals.length := by rw [habs]; simp
  have := fromQV_sizes hB hh (by
    rw [habs]
    intro x hx
    obtain ⟨v, _, rfl⟩ := List.mem_map.mp hx
    omega) (by rw [hlen]; exact hl) h
  rwa [hlen] at this

/-- `RSQVector::<256>::new`: `(heap + 144)·8 ≤ 2n·(1 + 1/8 + 1/100) + 2600` bits -/
theorem rsq_space_256 (dbg : Bool) (vals : List Int) (hl : vals.length < 2 ^ 43) {r : RSQ.RSQVector}
    (h : RSQ.new dbg 256 vals = .ok r) :
    800 * ((rsq r).heap + (rsq r).self_) ≤ 227 * vals.length + 260000 :=
  (rsq_new_sizes (Or.inl rfl) vals hl h).level_bits_256

/-- `RSQVector::<512>::new`: `(heap + 144)·8 ≤ 2n·(1 + 1/16 + 1/100) + 2600` bits -/
theorem rsq_space_512 (dbg : Bool) (vals : List Int) (hl : vals.length < 2 ^ 43) {r : RSQ.RSQVector}
    (h : RSQ.new dbg 512 vals = .ok r) :
    1600 * ((rsq r).heap + (rsq r).self_) ≤ 429 * vals.length + 520000 :=
  Nat.le_trans (rsq_new_sizes (Or.inr rfl) vals hl h).level_bits_512
    (Nat.add_le_add_right (Nat.mul_le_mul_right _ (by decide)) _)

/-- `RSWide::new` over a bit vector holding `s`: `(heap + 88)·8 ≤ n·(1 + 3/64) + 6000` bits -/
theorem rsw_space {b : BV.BitVector} {s : List Bool} (hb : BV.Holds b s) (hl : s.length < 2 ^ 43)
    {r : RSW.RSWide} (h : RSW.new b = .ok r) :
    512 * ((rsw r).heap + (rsw r).self_) ≤ 67 * s.length + 384000 := by
  exact (RSWSize'.of_inv (of_exists_ok (RSW.new_inv hb hl) h).2).bits

/-- `RSNarrow::new` over a bit vector holding `s`: `heap ≤ 84·⌈n/512⌉ + 64` bytes -/
theorem rsn_space {b : BV.BitVector} {s : List Bool} (hb : BV.Holds b s)
    {r : RSN.RSNarrow} (h : RSN.new b = .ok r) :
    (rsn r).heap ≤ 84 * ((s.length + 511) / 512) + 64 := by
  exact rsn_heap_le _ _ (RSNSize.of_inv (of_exists_ok (RSN.new_inv hb) h).2)

/-! ### `heap` is a function of the buffer lengths alone

These are statements about the model: `Model/Space.lean` counts every buffer with capacity =
length (after `shrink_to_fit` / `into_boxed_slice`, or `with_capacity` filled exactly); that the
crate retains no more is what the `space` comparison checks case by case. -/

theorem no_slack_rsq (r : RSQ.RSQVector) :
    (rsq r).heap = 64 * (r.qv.data.size / 4) + 64 * (r.rs.superblocks.size / 4)
      + 4 * (r.rs.selectSamples.toList.map Array.size).sum :=
  rsq_heap r

theorem no_slack_rsq_n {B n : Nat} (r : RSQ.RSQVector) (h : RSQSize B n r) :
    (rsq r).heap = 64 * ((n + 255) / 256) + 64 * (n / (8 * B) + 1)
      + 4 * (r.rs.selectSamples.toList.map Array.size).sum := by
  rw [rsq_heap, h.lines, h.sbs, Nat.mul_div_cancel_left _ (by decide),
    Nat.mul_div_cancel_left _ (by decide)]

theorem no_slack_rsq_nP {B n : Nat} (r : RSQ.RSQVector) (h : RSQSizeP B n r) :
    (rsq r).heap = 64 * ((n + 255) / 256) + 64 * (n / (8 * B) + 1)
      + 4 * (r.rs.selectSamples.toList.map Array.size).sum := by
  rw [rsq_heap, h.lines, h.sbs, Nat.mul_div_cancel_left _ (by decide),
    Nat.mul_div_cancel_left _ (by decide)]

theorem no_slack_rsw (r : RSW.RSWide) :
    (rsw r).heap = 64 * (r.bv.data.size / 8) + 16 * r.superblockMetadata.size
      + 8 * (r.selectSamples.toList.map Array.size).sum :=
  rsw_heap r

theorem no_slack_rsn (r : RSN.RSNarrow) :
    (rsn r).heap = 64 * (r.bv.data.size / 8) + 8 * r.blockRankPairs.size
      + 8 * (r.selectSamples.toList.map Array.size).sum :=
  rsn_heap r

/-- the only buffer the crate creates above its length is the `Vec<PrefetchSupport>`
    (`with_capacity(n_levels)`); it is filled with exactly `n_levels` entries (`QSizes.pfs`) -/
theorem no_slack_qwt (t : QWTree.QWT) :
    (qwt t).heap = 144 * t.qvs.size + ((t.qvs.toList.map rsq).map (·.heap)).sum
      + (pfsOpt t.nLevels t.pfs).heap :=
  qwt_heap t

theorem no_slack_wt (t : BinWT.WT) :
    (wt false t).heap = 88 * t.bvs.size + 8 * t.lens.size + ((t.bvs.toList.map rsw).map (·.heap)).sum :=
  wt_heap t

/-! ### what the invariants do not give: `RepInv ⇏ RSQSize`, `RSW.Inv ⇏ RSWSize` -/

/-- a hundred spurious entries -/
def pad : Array Nat := Array.replicate 100 0
theorem pad_size : pad.size = 100 := Array.size_replicate ..

/-- `r` with a hundred spurious entries appended to its first sample array -/
def fatten (r : RSQ.RSQVector) : RSQ.RSQVector :=
  { r with rs := { r.rs with selectSamples := r.rs.selectSamples.modify 0 (fun a => a ++ pad) } }

theorem fatten_samples (r : RSQ.RSQVector) :
    (fatten r).rs.selectSamples = r.rs.selectSamples.modify 0 (fun a => a ++ pad) := rfl
theorem fatten_sbs (r : RSQ.RSQVector) : (fatten r).rs.superblocks = r.rs.superblocks := rfl
theorem fatten_qv (r : RSQ.RSQVector) : (fatten r).qv = r.qv := rfl
theorem fatten_occs (r : RSQ.RSQVector) : (fatten r).nOccsSmaller = r.nOccsSmaller := rfl

/-- `RepInv` says which entries the sample arrays must contain, not how long they are: the
    empty vector built by the model, fattened, still satisfies it -/
theorem fat_repInv : ∃ r : RSQ.RSQVector, RSQP.RepInv 256 r [] ∧
    100 ≤ (r.rs.selectSamples.toList.map Array.size).sum := by
  obtain ⟨r, _, hinv⟩ := RSQP.fromQV_ok (B := 256) false (Or.inl rfl) QV.holds_empty
    (fun x hx => by cases hx) (Nat.two_pow_pos 43)
  have hsz : (fatten r).rs.selectSamples.size = 4 := by
    rw [fatten_samples, Array.size_modify]; exact hinv.rs.samples_size
  refine ⟨fatten r, ⟨hinv.hB, by rw [fatten_qv]; exact hinv.holds, hinv.syms, hinv.hlen,
      ⟨by rw [fatten_sbs]; exact hinv.rs.sbs_size, by rw [fatten_sbs]; exact hinv.rs.sb,
        by rw [fatten_sbs]; exact hinv.rs.fl, hsz,
        fun c _ hpos => absurd hpos (by rw [List.count_nil]; exact Nat.lt_irrefl 0)⟩,
      by rw [fatten_occs]; exact hinv.occs⟩, ?_⟩
  rw [toList4 _ #[] hsz, List.map_cons, List.sum_cons, fatten_samples, getD_modify,
    if_pos ⟨rfl, by rw [hinv.rs.samples_size]; decide⟩, Array.size_append, pad_size]
  omega

/-- so a vector satisfying `RepInv` may carry arbitrarily long sample arrays, and
    `RepInv B r s → RSQSize B |s| r` is false (the sizes come from the construction, `rsq_fromQV`) -/
theorem repInv_not_sufficient :
    ¬ (∀ (B : Nat) (r : RSQ.RSQVector) (s : List Nat), RSQP.RepInv B r s → RSQSize B s.length r) := by
  intro H
  obtain ⟨r, hinv, h100⟩ := fat_repInv
  have h := (H 256 r [] hinv).samples
  rw [List.length_nil] at h
  omega

theorem repInv_not_sufficientP :
    ¬ (∀ (B : Nat) (r : RSQ.RSQVector) (s : List Nat), RSQP.RepInv B r s → RSQSizeP B s.length r) := by
  intro H
  obtain ⟨r, hinv, h100⟩ := fat_repInv
  have h := (H 256 r [] hinv).samples
  rw [List.length_nil, Nat.zero_div] at h
  omega

/-- `n` zero bits in `lines` lines of 512 bits -/
def zeroBV (lines n : Nat) : BV.BitVector := { data := Array.replicate (8 * lines) 0, nBits := n, nOnes := 0 }

theorem zeroBV_holds (lines n : Nat) (hl : lines = (n + 511) / 512) :
    BV.Holds (zeroBV lines n) (List.replicate n false) where
  nBits := by rw [List.length_replicate]; rfl
  size := by
    show (Array.replicate (8 * lines) 0).size = _
    rw [Array.size_replicate, List.length_replicate, hl]
  lt := by
    intro j hj
    have hj' : j < 8 * lines := by
      have : (Array.replicate (8 * lines) 0).size = 8 * lines := Array.size_replicate ..
      rw [← this]; exact hj
    show (Array.replicate (8 * lines) 0).getD j 0 < 2 ^ 64
    rw [Array.getD_eq_getD_getElem?, Array.getElem?_replicate, if_pos hj']
    exact Nat.two_pow_pos 64
  bit := by
    intro i hi
    have e : (zeroBV lines n).data.getD (i / 64) 0 = 0 := by
      show (Array.replicate (8 * lines) 0).getD (i / 64) 0 = 0
      rw [Array.getD_eq_getD_getElem?, Array.getElem?_replicate]
      split <;> rfl
    rw [e, Nat.zero_testBit, List.getD_eq_getElem?_getD, List.getElem?_replicate]
    split <;> rfl
  nOnes := by
    show 0 = (List.replicate n false).count true
    rw [List.count_replicate]; rfl

/-- `RSWide::new` on 8000 zero bits keeps 3 + 2 sample entries: the zero counter reaches 8192 on
    the padded last line, a second hint.  (A fact about the hint period 8192: with a period of
    16384 or more the 8192 zeros of the padded vector do not reach a second hint, and `RSWSize`
    does hold; so the period enters as a hypothesis, which `rfl` discharges on the extracted value.) -/
theorem zeros8000_samples (h0 : Extracted.wideZerosPerHint = 8192) :
    ∃ r, RSW.new (zeroBV 16 8000) = .ok r ∧ RSW.Inv r (List.replicate 8000 false) ∧
      (r.selectSamples.toList.map Array.size).sum = 5 := by
  obtain ⟨r, e, _, hinv⟩ := RSW.new_inv (zeroBV_holds 16 8000 (by decide))
    (by rw [List.length_replicate]; decide)
  refine ⟨r, e, hinv, ?_⟩
  rw [rsw_samples_zeros hinv (by rw [List.count_replicate]; rfl), hinv.holds.nLines_eq,
    List.length_replicate, RSW.per, if_neg Bool.false_ne_true, h0]

/-- `RSWSize.samples` (`≤ 2·(n/8192) + 4`) fails for the vector built from 8000 zero bits, although
    the vector satisfies `RSW.Inv`; `RSWSize'` (`≤ n/8192 + 5`) is what holds (`rsw_sizes'`) -/
theorem rsw_sizes_false (h1 : Extracted.wideOnesPerHint = 8192) (h0 : Extracted.wideZerosPerHint = 8192) :
    ¬ (∀ (r : RSW.RSWide) (s : List Bool), RSW.Inv r s → RSWSize s.length r) := by
  intro H
  obtain ⟨r, _, hinv, h5⟩ := zeros8000_samples h0
  have h := (H r _ hinv).samples
  rw [h5, List.length_replicate] at h
  exact absurd h (by decide)

/-! ### non-vacuity: concrete trees -/

/-- an 8-bit sequence, four levels, block 256, no prefetch support -/
example : (match QWTree.new { W := 8 } #[5, 200, 7, 0, 200, 255] with
    | .ok t => decide (800 * (qwt t).heap ≤ (Spec.bitlen 255 + 1) / 2 * (227 * 6 + 260000)) && t.qvs.size == 4
    | .error _ => false) = true := by decide +kernel

/-- the same with prefetch support, block 512 -/
example : (match QWTree.new { W := 8, B := 512, pfs := true } #[5, 200, 7, 0, 200, 255] with
    | .ok t => decide (1600 * (qwt t).heap ≤ (Spec.bitlen 255 + 1) / 2 * (430 * 6 + 2568000)) &&
        (t.pfs.map (·.size)) == some 4
    | .error _ => false) = true := by decide +kernel

/-- the plain binary tree -/
example : (match BinWT.new { W := 8 } false #[5, 200, 7, 0, 200, 255] [] with
    | .ok t => decide (512 * (wt false t).heap ≤ 8 * (67 * 6 + 384000) + 4096 * 8) && t.bvs.size == 8
    | .error _ => false) = true := by decide +kernel

/-- the hypotheses of the closed theorems are satisfiable -/
example : (∀ x ∈ [5, 200, 7, 0, 200, 255], x < 2 ^ ({ W := 8 } : Cfg).W) ∧
    [5, 200, 7, 0, 200, 255].length < 2 ^ 43 ∧ Spec.maxNat [5, 200, 7, 0, 200, 255] = 255 := by decide +kernel

/-- the size facts of a concrete stand-alone vector -/
example : (match RSQ.new false 256 [0, 1, 2, 3, 1] with
    | .ok r => r.qv.data.size == 4 && r.rs.superblocks.size == 4 &&
        (r.rs.selectSamples.toList.map Array.size).sum == 8 && (rsq r).heap == 160
    | .error _ => false) = true := by decide +kernel

end Qwt.Props.C14
