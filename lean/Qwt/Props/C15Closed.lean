import Qwt.Props.C15
import Qwt.Props.Closed
import Qwt.Proofs.BinHWMBits
import Mathlib.Data.Finset.Card
import Mathlib.Data.List.Nodup

/-!
# Property C15, closed over the model

`Qwt/Props/C15.lean` proves the information-theoretic inequality over abstract frequency and
length vectors `f ℓ : Fin k → ℕ`.  This file instantiates it with the trees the model builds.

Setting: `S : List ℕ` is the sequence, `lens : List (ℕ × ℕ)` the `(symbol, code length in
fragments)` table handed over by the external crate `minimum_redundancy` (one entry per
occurring symbol, `LensOK`), `k = lens.length` the number of distinct symbols, and

* `freq S lens i  = S.count (lens[i]).1`   the frequency of the `i`-th symbol,
* `flen lens i    = (lens[i]).2`           its code length in fragments (levels).

Then (`total_freq`, `cost_freq`) `total (freq S lens) = |S|` and the level data of the tree
returned by `new` holds exactly `cost (freq S lens) (flen lens)` fragments
(`hqwt_level_cost`, `hwt_level_cost`: `Σ_k t.lens[k] = cost …`), i.e. `2·cost` bits for the quad
tree and `cost` bits for the binary tree.

The only hypothesis that is not about the input is `Optimal D (freq S lens) (flen lens)`:
the ASSUMPTION that `minimum_redundancy` returns the lengths of an optimal `D`-ary prefix
code.  It is validated at run time by the harness on every case, never proved.
-/
namespace Qwt.Props.C15
open Qwt Qwt.Entropy

theorem sum_indicator (g : ℕ → ℕ) (syms : List ℕ) (hnd : syms.Nodup) (a : ℕ) (ha : a ∈ syms) :
    (syms.map (fun s => if a = s then g s else 0)).sum = g a := by
  induction syms with
  | nil => cases ha
  | cons b l ih =>
    rw [List.nodup_cons] at hnd
    simp only [List.map_cons, List.sum_cons]
    by_cases hab : a = b
    · subst hab
      have hz : (l.map (fun s => if a = s then g s else 0)).sum = 0 := by
        apply List.sum_eq_zero
        intro x hx
        obtain ⟨s, hs, rfl⟩ := List.mem_map.mp hx
        have : a ≠ s := fun e => hnd.1 (e ▸ hs)
        simp [this]
      simp [hz]
    · have hal : a ∈ l := by
        rcases List.mem_cons.mp ha with h | h
        · exact absurd h hab
        · exact h
      rw [if_neg hab, ih hnd.2 hal]
      simp

/-- **Counting lemma**: a sum over the sequence is the sum over its distinct symbols, weighted
    by their frequencies. -/
theorem sum_map_eq_count (S : List ℕ) (g : ℕ → ℕ) (syms : List ℕ) (hnd : syms.Nodup)
    (hall : ∀ x ∈ S, x ∈ syms) :
    (S.map g).sum = (syms.map (fun s => S.count s * g s)).sum := by
  induction S with
  | nil => simp
  | cons a S ih =>
    have hfun : (fun s => (a :: S).count s * g s) =
        (fun s => S.count s * g s + (if a = s then g s else 0)) := by
      funext s
      rw [List.count_cons]
      by_cases h : a = s
      · subst h; simp [Nat.add_mul]
      · have : (a == s) = false := by simpa using h
        simp [this, h]
    rw [hfun, Qwt.HQWM.sum_map_add, ← ih (fun x hx => hall x (by simp [hx])),
      sum_indicator g syms hnd a (hall a (by simp))]
    simp only [List.map_cons, List.sum_cons]
    omega

theorem sum_map_eq_fin (S : List ℕ) (g : ℕ → ℕ) (syms : List ℕ) (hnd : syms.Nodup)
    (hall : ∀ x ∈ S, x ∈ syms) :
    (S.map g).sum = ∑ i : Fin syms.length, S.count syms[i.1] * g syms[i.1] :=
  (sum_map_eq_count S g syms hnd hall).trans (Fin.sum_univ_fun_getElem syms (fun s => S.count s * g s)).symm

/-- frequency of the `i`-th symbol of the table in `S` -/
def freq (S : List ℕ) (lens : List (ℕ × ℕ)) : Fin lens.length → ℕ := fun i => S.count (lens[i.1]).1

/-- code length, in fragments, of the `i`-th symbol of the table -/
def flen (lens : List (ℕ × ℕ)) : Fin lens.length → ℕ := fun i => (lens[i.1]).2

section vectors
variable (S : List ℕ) (lens : List (ℕ × ℕ)) (hnd : (lens.map (·.1)).Nodup)
  (hsyms : ∀ s, s ∈ lens.map (·.1) ↔ s ∈ S)
include hnd hsyms

theorem sum_map_eq_table (g : ℕ → ℕ) (h : ℕ × ℕ → ℕ) (hg : ∀ p ∈ lens, g p.1 = h p) :
    (S.map g).sum = ∑ i : Fin lens.length, freq S lens i * h lens[i.1] := by
  rw [sum_map_eq_count S g _ hnd (fun x hx => (hsyms x).mpr hx), List.map_map,
    ← Fin.sum_univ_fun_getElem lens]
  refine Finset.sum_congr rfl fun i _ => ?_
  simp only [Function.comp, freq]
  rw [hg _ (List.getElem_mem i.2)]

theorem total_freq : total (freq S lens) = S.length := by
  have h := sum_map_eq_table S lens hnd hsyms (fun _ => 1) (fun _ => 1) (fun _ _ => rfl)
  simp only [List.map_const', List.sum_replicate, smul_eq_mul, mul_one] at h
  rw [total, h]

omit hnd in
theorem freq_pos (i : Fin lens.length) : 0 < freq S lens i := by
  apply List.count_pos_iff.mpr
  exact (hsyms _).mp (List.mem_map.mpr ⟨lens[i.1], List.getElem_mem i.2, rfl⟩)

theorem cost_freq (g : ℕ → ℕ) (b : ℕ) (hg : ∀ p ∈ lens, g p.1 = b * p.2) :
    (S.map g).sum = b * cost (freq S lens) (flen lens) := by
  rw [sum_map_eq_table S lens hnd hsyms g (fun p => b * p.2) hg, cost, Finset.mul_sum]
  refine Finset.sum_congr rfl fun i _ => ?_
  simp only [flen]
  ring

theorem card_le_max : lens.length ≤ Spec.maxNat S + 1 := by
  have h1 : (lens.map (·.1)).toFinset ⊆ Finset.range (Spec.maxNat S + 1) := by
    intro x hx
    rw [List.mem_toFinset] at hx
    rw [Finset.mem_range]
    exact Nat.lt_succ_of_le (Closed.le_maxNat' S x ((hsyms x).mp hx))
  have h2 := Finset.card_le_card h1
  rw [List.toFinset_card_of_nodup hnd, Finset.card_range, List.length_map] at h2
  exact h2

end vectors

theorem table_pos (S : List ℕ) (hne : S ≠ []) (lens : List (ℕ × ℕ))
    (hsyms : ∀ s, s ∈ lens.map (·.1) ↔ s ∈ S) : 1 ≤ lens.length := by
  cases S with
  | nil => exact absurd rfl hne
  | cons a S' =>
    have := List.length_pos_of_mem ((hsyms a).mpr List.mem_cons_self)
    rwa [List.length_map] at this

section hqwt
variable (c : Cfg) (hB : c.B = 256 ∨ c.B = 512) (hW : c.W ≤ 64)
  (S : List ℕ) (hne : S ≠ []) (hb : ∀ x ∈ S, x < 2 ^ c.W) (hS : S.length < 2 ^ 43)
  (lens : List (ℕ × ℕ)) (hlens : C02.LensOK 4 lens)
  (hsyms : ∀ s, s ∈ lens.map (·.1) ↔ s ∈ S)
  {t : Huff.HQWT} (ht : Huff.new c S.toArray lens = .ok t)
include hB hW hne hb hS hlens hsyms ht

/-- the levels of the tree returned by `new` hold exactly `cost f ℓ` two-bit symbols -/
theorem hqwt_level_cost : t.lens.toList.sum = cost (freq S lens) (flen lens) := by
  obtain ⟨codes, t', _, _, ht', _, _, _, hlen, hbits⟩ :=
    Closed.hqwt_correct c hB hW S hne hb hS lens hlens hsyms
  rw [ht] at ht'; cases ht'
  exact Nat.eq_of_mul_eq_mul_left (by decide : 0 < 2)
    (hbits.trans (cost_freq S lens hlens.nodup hsyms (fun x => codes[x]!.len) 2 hlen))

/-- **C15, quad tree, at least two distinct symbols**: the level data (two bits per stored
    symbol) is strictly below `n·(H0 + 2)` bits. -/
theorem hqwt_entropy_bound (hopt : Optimal 4 (freq S lens) (flen lens)) (hk : 2 ≤ lens.length) :
    ((2 * t.lens.toList.sum : ℕ) : ℝ) < (S.length : ℝ) * (H0 (freq S lens) + 2) := by
  have h := level_bits_lt_quad (freq S lens) (flen lens)
    (freq_pos S lens hsyms) hopt hk
  rw [total_freq S lens hlens.nodup hsyms] at h
  rw [hqwt_level_cost c hB hW S hne hb hS lens hlens hsyms ht]
  push_cast
  exact h

/-- **C15, quad tree, every non-empty sequence** (also a single distinct symbol): at most
    `n·(H0 + 2)` bits. -/
theorem hqwt_entropy_bound_le (hopt : Optimal 4 (freq S lens) (flen lens)) :
    ((2 * t.lens.toList.sum : ℕ) : ℝ) ≤ (S.length : ℝ) * (H0 (freq S lens) + 2) := by
  have h := level_bits_le_quad (freq S lens) (flen lens)
    (freq_pos S lens hsyms) hopt (table_pos S hne lens hsyms)
  rw [total_freq S lens hlens.nodup hsyms] at h
  rw [hqwt_level_cost c hB hW S hne hb hS lens hlens hsyms ht]
  push_cast
  exact h

/-- **C15, quad tree**: never more level data than the plain quad tree, which writes every
    element to all `(bitlen(max S) + 1) / 2` levels. -/
theorem hqwt_le_plain (hopt : Optimal 4 (freq S lens) (flen lens)) :
    2 * t.lens.toList.sum ≤ 2 * S.length * ((Spec.bitlen (Spec.maxNat S) + 1) / 2) := by
  have hk : lens.length ≤ 4 ^ QWTree.nLevelsOf (Spec.maxNat S) :=
    Nat.le_trans (card_le_max S lens hlens.nodup hsyms)
      (Nat.succ_le_of_lt (QWTree.lt_pow_nLevelsOf _))
  have h := le_plain (freq S lens) (flen lens) hopt hk
    (Nat.pos_of_ne_zero (QWTree.nLevelsOf_pos _))
  rw [total_freq S lens hlens.nodup hsyms] at h
  rw [hqwt_level_cost c hB hW S hne hb hS lens hlens hsyms ht, Nat.mul_assoc]
  exact Nat.mul_le_mul_left 2 h

/-- the comparison the harness evaluates (exact integer arithmetic) -/
theorem hqwt_harness_check (hopt : Optimal 4 (freq S lens) (flen lens)) (hk : 2 ≤ lens.length) :
    2 ^ (2 * t.lens.toList.sum) * ∏ i, freq S lens i ^ freq S lens i
      < 2 ^ (2 * S.length) * S.length ^ S.length := by
  have h := harness_check_quad (freq S lens) (flen lens)
    (freq_pos S lens hsyms) hopt hk
  rw [total_freq S lens hlens.nodup hsyms] at h
  rw [hqwt_level_cost c hB hW S hne hb hS lens hlens hsyms ht]
  exact h

end hqwt

section hwt
variable (c : Cfg) (hW : c.W ≤ 64)
  (S : List ℕ) (hne : S ≠ []) (hb : ∀ x ∈ S, x < 2 ^ c.W) (hS : S.length < 2 ^ 43)
  (lens : List (ℕ × ℕ)) (hlens : C02.LensOK 2 lens)
  (hsyms : ∀ s, s ∈ lens.map (·.1) ↔ s ∈ S)
  {t : BinWT.WT} (ht : BinWT.new c true S.toArray lens = .ok t)
include hW hne hb hS hlens hsyms ht

/-- the binary analogue of `C02.hqwt_level_bits`: one bit per element and code bit -/
theorem hwt_level_bits : ∃ codes,
    Huff.craftWmCodes 2 lens (Utils.asUsize (Spec.maxNat S)) = .ok codes ∧
    (∀ p ∈ lens, codes[p.1]!.len = p.2) ∧
    t.lens.toList.sum = (S.map (fun x => codes[x]!.len)).sum := by
  have hlt := Closed.maxNat_lt_two64' c.W hW S hb
  have hsig : Utils.asUsize (Spec.maxNat S) = Spec.maxNat S := by
    simp [Utils.asUsize, Nat.mod_eq_of_lt hlt]
  obtain ⟨codes, hc, hv⟩ := Closed.hwt_codes c hW S hne hb hS lens hlens hsyms
  have hs : ∀ p ∈ lens, p.1 ≤ Utils.asUsize (Spec.maxNat S) := by
    intro p hp
    rw [hsig]
    exact Closed.le_maxNat' S p.1 ((hsyms p.1).mp (List.mem_map.mpr ⟨p, hp, rfl⟩))
  have hlen := (C02.craft_lens (Or.inr rfl) hlens hs hc).2.1
  have hinv := C03.hwt_inv c hW Closed.binLevelLaw S hne hb hS lens codes hc _ hv hsyms ht
  refine ⟨codes, hc, ?_, BinWM.invH_level_bits hinv⟩
  intro p hp
  rw [hlen p hp]
  simp [C02.bitsOf]

/-- the levels of the tree returned by `new` hold exactly `cost f ℓ` bits -/
theorem hwt_level_cost : t.lens.toList.sum = cost (freq S lens) (flen lens) := by
  obtain ⟨codes, _, hlen, hbits⟩ := hwt_level_bits c hW S hne hb hS lens hlens hsyms ht
  have h := cost_freq S lens hlens.nodup hsyms (fun x => codes[x]!.len) 1
    (fun p hp => by rw [hlen p hp, Nat.one_mul])
  rw [hbits, h, Nat.one_mul]

/-- **C15, binary tree, at least two distinct symbols**: strictly below `n·(H0 + 1)` bits. -/
theorem hwt_entropy_bound (hopt : Optimal 2 (freq S lens) (flen lens)) (hk : 2 ≤ lens.length) :
    (t.lens.toList.sum : ℝ) < (S.length : ℝ) * (H0 (freq S lens) + 1) := by
  have h := level_bits_lt_bin (freq S lens) (flen lens)
    (freq_pos S lens hsyms) hopt hk
  rw [total_freq S lens hlens.nodup hsyms] at h
  rw [hwt_level_cost c hW S hne hb hS lens hlens hsyms ht]
  exact h

/-- **C15, binary tree, every non-empty sequence**: at most `n·(H0 + 1)` bits. -/
theorem hwt_entropy_bound_le (hopt : Optimal 2 (freq S lens) (flen lens)) :
    (t.lens.toList.sum : ℝ) ≤ (S.length : ℝ) * (H0 (freq S lens) + 1) := by
  have h := level_bits_le_bin (freq S lens) (flen lens)
    (freq_pos S lens hsyms) hopt (table_pos S hne lens hsyms)
  rw [total_freq S lens hlens.nodup hsyms] at h
  rw [hwt_level_cost c hW S hne hb hS lens hlens hsyms ht]
  exact h

/-- **C15, binary tree**: never more level data than the plain binary tree, which writes every
    element to all `bitlen(max S)` levels. -/
theorem hwt_le_plain (hopt : Optimal 2 (freq S lens) (flen lens)) :
    t.lens.toList.sum ≤ S.length * Spec.bitlen (Spec.maxNat S) := by
  have hk : lens.length ≤ 2 ^ Spec.bitlen (Spec.maxNat S) :=
    Nat.le_trans (card_le_max S lens hlens.nodup hsyms)
      (Nat.succ_le_of_lt (BinWM.lt_two_pow_bitlen _))
  have h := le_plain (freq S lens) (flen lens) hopt hk
    (by simp [Spec.bitlen])
  rw [total_freq S lens hlens.nodup hsyms] at h
  rw [hwt_level_cost c hW S hne hb hS lens hlens hsyms ht]
  exact h

/-- the comparison the harness evaluates (exact integer arithmetic) -/
theorem hwt_harness_check (hopt : Optimal 2 (freq S lens) (flen lens)) (hk : 2 ≤ lens.length) :
    2 ^ t.lens.toList.sum * ∏ i, freq S lens i ^ freq S lens i
      < 2 ^ S.length * S.length ^ S.length := by
  have h := harness_check_bin (freq S lens) (flen lens)
    (freq_pos S lens hsyms) hopt hk
  rw [total_freq S lens hlens.nodup hsyms] at h
  rw [hwt_level_cost c hW S hne hb hS lens hlens hsyms ht]
  exact h

end hwt

/-! ## non-vacuity: the vectors of the example of `Props/C02` -/

example : total (freq C02.exS C02.exLens) = 16 := by decide
example : cost (freq C02.exS C02.exLens) (flen C02.exLens) = 32 := by decide

end Qwt.Props.C15
