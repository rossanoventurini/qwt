import Qwt.Proofs.Interfaces
import Qwt.Proofs.RSBinWide
import Qwt.Proofs.RSBinNarrow
import Qwt.Proofs.BitVectorOps

/-! C06 — the rank/select bit vectors `RSWide` (rs_wide.rs) and `RSNarrow` (rs_narrow.rs) answer
`get` / `rank` / `select` / `n_ones` / `n_zeros` like the plain bit list they were built from,
and never fault.

* `BV.Holds b s` (Proofs/RSBinHolds) is the word-level statement "`b` stores `s`"; `holds_of_inv`
  derives it from the `BitVector` invariant of C08, `holds_fromBools` for the push loop.
* `RSW.Inv r s` (Proofs/RSBinWide) is the representation invariant: packed superblock words
  (44-bit absolute count, seven 12-bit line counts, fillers repeat the running count, sentinel
  entry), select hints, `n_zeros`.  `RSW.new` establishes it (`rsw_new_inv`) for `|s| < 2^43`.
* select is proved under `BV.SelSpec`, the statement of property C17 about `select_in_word`. -/
namespace Qwt.Props.C06
open Qwt Qwt.BV Qwt.RSBin

/-- bridge from the C08 invariant / abstraction -/
theorem holds_of_inv {b : BitVector} (hb : BV.Inv b) : BV.Holds b (BV.abs b) where
  nBits := by simp
  size := by rw [hb.size]; simp
  lt := by
    intro j hj
    have := hb.words j hj
    simpa [Array.getD, hj] using this
  bit := by
    intro i _
    have e : b.data.getD (i / 64) 0 = wordAt b.data (i / 64) := by
      unfold wordAt Array.getD
      by_cases h : i / 64 < b.data.size <;> simp [h]
    rw [e, List.getD_eq_getElem?_getD, abs_getElem?]
    by_cases h : i < b.nBits
    · simp [h, bitAt, bitD]
    · have := hb.pad i (by omega)
      simp only [bitAt, bitD] at this
      simp [h, this]
  nOnes := hb.ones

/-- the push loop of the level constructors stores exactly the pushed bits -/
theorem holds_fromBools (bits : List Bool) (hn : bits.length < two64) :
    ∃ b, bits.foldlM BV.push ({} : BitVector) = .ok b ∧ BV.Holds b bits := by
  obtain ⟨b', h1, h2, h3⟩ := extendBools_spec bits {} BV.init_inv.1 (by simpa using hn)
  refine ⟨b', h1, ?_⟩
  have := holds_of_inv h2
  rwa [h3, BV.init_inv.2, List.nil_append] at this

theorem rsw_new_inv {b : BitVector} {s : List Bool} (h : BV.Holds b s) (hl : s.length < 2 ^ 43) :
    ∃ r, RSW.new b = .ok r ∧ r.bv = b ∧ RSW.Inv r s := RSW.new_inv h hl

section fields
variable {r : RSW.RSWide} {s : List Bool}

theorem rsw_get (hv : RSW.Inv r s) (i : Nat) : RSW.get r i = .ok s[i]? := hv.get_eq i

theorem rsw_getUnchecked (hv : RSW.Inv r s) (i : Nat) (hi : i < s.length) :
    RSW.getUnchecked r i = .ok (s.getD i false) := hv.getUnchecked_eq i hi

/-- every index, also beyond `2^64`; every query on the empty vector is `None` -/
theorem rsw_rank1 (hv : RSW.Inv r s) (i : Nat) :
    RSW.rank1 r i = .ok (if s ≠ [] ∧ i ≤ s.length then some (Spec.rank true i s) else none) :=
  hv.rank1_eq i

theorem rsw_rank0 (hv : RSW.Inv r s) (i : Nat) :
    RSW.rank0 r i = .ok (if s ≠ [] ∧ i ≤ s.length then some (Spec.rank false i s) else none) :=
  hv.rank0_eq i

theorem rsw_rank1Unchecked (hv : RSW.Inv r s) (i : Nat) (hi : i ≤ s.length) :
    RSW.rank1Unchecked r i = .ok (Spec.rank true i s) := hv.rank1Unchecked_eq i hi

theorem rsw_rank0Unchecked (hv : RSW.Inv r s) (i : Nat) (hi : i ≤ s.length) :
    RSW.rank0Unchecked r i = .ok (Spec.rank false i s) := by
  unfold RSW.rank0Unchecked
  rw [hv.rank1Unchecked_eq i hi]
  exact sub_rank s i hi

theorem rsw_len (hv : RSW.Inv r s) : r.bv.nBits = s.length := hv.holds.nBits
theorem rsw_nZeros (hv : RSW.Inv r s) : r.nZeros = s.count false := hv.nZeros
theorem rsw_nOnes (hv : RSW.Inv r s) : RSW.nOnes r = .ok (s.count true) := hv.nOnes_eq

theorem rsw_select1 (hsel : BV.SelSpec) (hv : RSW.Inv r s) (k : Nat) :
    RSW.select1 r k = .ok (Spec.select true k s) := hv.select1_eq hsel k

theorem rsw_select0 (hsel : BV.SelSpec) (hv : RSW.Inv r s) (k : Nat) :
    RSW.select0 r k = .ok (Spec.select false k s) := hv.select0_eq hsel k

/-- the unchecked select inside its precondition -/
theorem rsw_selectUnchecked (hsel : BV.SelSpec) (hv : RSW.Inv r s) (bit : Bool) (k : Nat)
    (hk : k < s.count bit) :
    ∃ p, RSW.selectUnchecked r bit k = .ok p ∧ Spec.select bit k s = some p :=
  hv.selectUnchecked_eq hsel bit k hk

theorem rsw_represents_of_inv (hsel : BV.SelSpec) (hv : RSW.Inv r s) : RSW.Represents r s where
  len_eq := rsw_len hv
  nZeros_eq := rsw_nZeros hv
  get := rsw_get hv
  getU := rsw_getUnchecked hv
  rank1 := rsw_rank1 hv
  rank0 := rsw_rank0 hv
  rank1U := rsw_rank1Unchecked hv
  select1 := rsw_select1 hsel hv
  select0 := rsw_select0 hsel hv

end fields

/-- C06 for `RSWide` -/
theorem rsw_represents (hsel : BV.SelSpec) {b : BitVector} {s : List Bool} (h : BV.Holds b s)
    (hl : s.length < 2 ^ 43) : ∃ r, RSW.new b = .ok r ∧ RSW.Represents r s := by
  obtain ⟨r, h1, _, h3⟩ := rsw_new_inv h hl
  exact ⟨r, h1, rsw_represents_of_inv hsel h3⟩

/-- the rank half needs no hypothesis on `select_in_word` -/
theorem rsw_rank_total {b : BitVector} {s : List Bool} (h : BV.Holds b s) (hl : s.length < 2 ^ 43) :
    ∃ r, RSW.new b = .ok r ∧ (∀ i, RSW.get r i = .ok s[i]?) ∧
      (∀ i, RSW.rank1 r i = .ok (if s ≠ [] ∧ i ≤ s.length then some (Spec.rank true i s) else none)) ∧
      (∀ i, RSW.rank0 r i = .ok (if s ≠ [] ∧ i ≤ s.length then some (Spec.rank false i s) else none)) ∧
      r.nZeros = s.count false ∧ RSW.nOnes r = .ok (s.count true) := by
  obtain ⟨r, h1, _, h3⟩ := rsw_new_inv h hl
  exact ⟨r, h1, rsw_get h3, rsw_rank1 h3, rsw_rank0 h3, rsw_nZeros h3, rsw_nOnes h3⟩

/-- the level constructor of the binary wavelet trees (C06 with C08) -/
theorem binLevelLaw (hsel : BV.SelSpec) : BinLevelLaw := by
  intro bits hlen
  have h64 : bits.length < two64 := by
    have : (2:Nat) ^ 43 < two64 := by decide
    omega
  obtain ⟨b, hb, hh⟩ := holds_fromBools bits h64
  obtain ⟨r, hr, hrep⟩ := rsw_represents hsel hh hlen
  refine ⟨r, ?_, hrep⟩
  unfold RSW.mkLevel
  have : (bits.foldlM (fun (b : BitVectorMut) x => BV.push b x) {} : M BitVector) = .ok b := hb
  rw [this]; exact hr

/-! ### the empty vector and the derived `Default` -/

theorem rsw_empty_inv {b : BitVector} (h : BV.Holds b []) :
    ∃ r, RSW.new b = .ok r ∧ RSW.Inv r [] := by
  obtain ⟨r, h1, _, h3⟩ := rsw_new_inv h (by decide)
  exact ⟨r, h1, h3⟩

theorem rsw_empty_queries (hsel : BV.SelSpec) {r : RSW.RSWide} (hv : RSW.Inv r []) (i : Nat) :
    RSW.get r i = .ok none ∧ RSW.rank1 r i = .ok none ∧ RSW.rank0 r i = .ok none ∧
    RSW.select1 r i = .ok none ∧ RSW.select0 r i = .ok none ∧
    r.nZeros = 0 ∧ RSW.nOnes r = .ok 0 := by
  refine ⟨by simpa using rsw_get hv i, by simpa using rsw_rank1 hv i, by simpa using rsw_rank0 hv i,
    by simpa [Spec.select] using rsw_select1 hsel hv i, by simpa [Spec.select] using rsw_select0 hsel hv i,
    by simpa using rsw_nZeros hv, by simpa using rsw_nOnes hv⟩

/-- `RSWide::default()`: no query faults (independently of C17) -/
theorem rsw_default_queries (i : Nat) :
    RSW.get {} i = .ok none ∧ RSW.rank1 {} i = .ok none ∧ RSW.rank0 {} i = .ok none ∧
    RSW.select1 {} i = .ok none ∧ RSW.select0 {} i = .ok none ∧ RSW.nOnes {} = .ok 0 := by
  refine ⟨?_, ?_, ?_, ?_, ?_, ?_⟩
  · simp [RSW.get, BV.get]; rfl
  · rfl
  · rfl
  · simp [RSW.select1, RSW.nOnes, sub, bind, Except.bind]; rfl
  · simp [RSW.select0]; rfl
  · rfl

/-- the structure built from the empty vector (no hypothesis at all) -/
theorem rsw_new_empty : RSW.new {} = .ok
    { bv := {}, superblockMetadata := #[0], selectSamples := #[#[0, 0], #[0, 0]], nZeros := 0 } := by
  decide

/-! ## RSNarrow

No length bound is needed: the model of `RSNarrow::new` has no narrowing arithmetic (absolute
counts are full 64-bit words; the Rust counters cannot overflow below `2^64` bits). -/

theorem rsn_new_inv {b : BitVector} {s : List Bool} (h : BV.Holds b s) :
    ∃ r, RSN.new b = .ok r ∧ r.bv = b ∧ RSN.Inv r s := RSN.new_inv h

section fieldsN
variable {r : RSN.RSNarrow} {s : List Bool}

theorem rsn_len (hv : RSN.Inv r s) : r.bv.nBits = s.length := hv.holds.nBits

theorem rsn_get (hv : RSN.Inv r s) (i : Nat) : RSN.get r i = .ok s[i]? := hv.get_eq i

theorem rsn_rank1 (hv : RSN.Inv r s) (i : Nat) :
    RSN.rank1 r i = .ok (if s ≠ [] ∧ i ≤ s.length then some (Spec.rank true i s) else none) :=
  hv.rank1_eq i

theorem rsn_rank0 (hv : RSN.Inv r s) (i : Nat) :
    RSN.rank0 r i = .ok (if s ≠ [] ∧ i ≤ s.length then some (Spec.rank false i s) else none) :=
  hv.rank0_eq i

theorem rsn_rank1Unchecked (hv : RSN.Inv r s) (i : Nat) (hi : i ≤ s.length) :
    RSN.rank1Unchecked r i = .ok (Spec.rank true i s) := hv.rank1Unchecked_eq i hi

/-- computed by a rank and an access on the last bit; 0 on the empty vector -/
theorem rsn_nOnes (hv : RSN.Inv r s) : RSN.nOnes r = .ok (s.count true) := hv.nOnes_eq
theorem rsn_nZeros (hv : RSN.Inv r s) : RSN.nZeros r = .ok (s.count false) := hv.nZeros_eq

theorem rsn_select1 (hsel : BV.SelSpec) (hv : RSN.Inv r s) (k : Nat) :
    RSN.select1 r k = .ok (Spec.select true k s) := hv.select1_eq hsel k

theorem rsn_select0 (hsel : BV.SelSpec) (hv : RSN.Inv r s) (k : Nat) :
    RSN.select0 r k = .ok (Spec.select false k s) := hv.select0_eq hsel k

theorem rsn_selectUnchecked (hsel : BV.SelSpec) (hv : RSN.Inv r s) (bit : Bool) (k : Nat)
    (hk : k < s.count bit) :
    ∃ p, RSN.selectUnchecked r bit k = .ok p ∧ Spec.select bit k s = some p :=
  hv.selectUnchecked_eq hsel bit k hk

theorem rsn_represents_of_inv (hsel : BV.SelSpec) (hv : RSN.Inv r s) : RSN.Represents r s where
  len_eq := rsn_len hv
  get := rsn_get hv
  rank1 := rsn_rank1 hv
  rank0 := rsn_rank0 hv
  select1 := rsn_select1 hsel hv
  select0 := rsn_select0 hsel hv
  nOnes := rsn_nOnes hv
  nZeros := rsn_nZeros hv

end fieldsN

/-- C06 for `RSNarrow` -/
theorem rsn_represents (hsel : BV.SelSpec) {b : BitVector} {s : List Bool} (h : BV.Holds b s) :
    ∃ r, RSN.new b = .ok r ∧ RSN.Represents r s := by
  obtain ⟨r, h1, _, h3⟩ := rsn_new_inv h
  exact ⟨r, h1, rsn_represents_of_inv hsel h3⟩

/-- the same under the bound `usize` puts on the length, which the proof does not use -/
theorem rsn_represents' (hsel : BV.SelSpec) {b : BitVector} {s : List Bool} (h : BV.Holds b s)
    (_hl : s.length < 2 ^ 64) : ∃ r, RSN.new b = .ok r ∧ RSN.Represents r s :=
  rsn_represents hsel h

/-- the rank half needs no hypothesis on `select_in_word` -/
theorem rsn_rank_total {b : BitVector} {s : List Bool} (h : BV.Holds b s) :
    ∃ r, RSN.new b = .ok r ∧ (∀ i, RSN.get r i = .ok s[i]?) ∧
      (∀ i, RSN.rank1 r i = .ok (if s ≠ [] ∧ i ≤ s.length then some (Spec.rank true i s) else none)) ∧
      (∀ i, RSN.rank0 r i = .ok (if s ≠ [] ∧ i ≤ s.length then some (Spec.rank false i s) else none)) ∧
      RSN.nOnes r = .ok (s.count true) ∧ RSN.nZeros r = .ok (s.count false) := by
  obtain ⟨r, h1, _, h3⟩ := rsn_new_inv h
  exact ⟨r, h1, rsn_get h3, rsn_rank1 h3, rsn_rank0 h3, rsn_nOnes h3, rsn_nZeros h3⟩

/-- `RSNarrow` over the bits pushed one by one -/
theorem rsn_fromBools (hsel : BV.SelSpec) (bits : List Bool) (hn : bits.length < two64) :
    ∃ b r, bits.foldlM BV.push ({} : BitVector) = .ok b ∧ RSN.new b = .ok r ∧ RSN.Represents r bits := by
  obtain ⟨b, hb, hh⟩ := holds_fromBools bits hn
  obtain ⟨r, hr, hrep⟩ := rsn_represents hsel hh
  exact ⟨b, r, hb, hr, hrep⟩

theorem rsn_empty_queries (hsel : BV.SelSpec) {r : RSN.RSNarrow} (hv : RSN.Inv r []) (i : Nat) :
    RSN.get r i = .ok none ∧ RSN.rank1 r i = .ok none ∧ RSN.rank0 r i = .ok none ∧
    RSN.select1 r i = .ok none ∧ RSN.select0 r i = .ok none ∧
    RSN.nOnes r = .ok 0 ∧ RSN.nZeros r = .ok 0 := by
  refine ⟨by simpa using rsn_get hv i, by simpa using rsn_rank1 hv i, by simpa using rsn_rank0 hv i,
    by simpa [Spec.select] using rsn_select1 hsel hv i, by simpa [Spec.select] using rsn_select0 hsel hv i,
    by simpa using rsn_nOnes hv, by simpa using rsn_nZeros hv⟩

/-- `RSNarrow::default()`: no query faults (independently of C17) -/
theorem rsn_default_queries (i : Nat) :
    RSN.get {} i = .ok none ∧ RSN.rank1 {} i = .ok none ∧ RSN.rank0 {} i = .ok none ∧
    RSN.select1 {} i = .ok none ∧ RSN.select0 {} i = .ok none ∧
    RSN.nOnes {} = .ok 0 ∧ RSN.nZeros {} = .ok 0 := by
  refine ⟨?_, ?_, ?_, ?_, ?_, ?_, ?_⟩
  · simp [RSN.get, BV.get]; rfl
  · rfl
  · rfl
  · have : RSN.nOnes {} = .ok 0 := rfl
    simp [RSN.select1, this, bind, Except.bind]; rfl
  · have : RSN.nZeros {} = .ok 0 := rfl
    simp [RSN.select0, this, bind, Except.bind]; rfl
  · rfl
  · rfl

/-- the structure built from the empty vector (no hypothesis at all) -/
theorem rsn_new_empty : RSN.new {} = .ok
    { bv := {}, blockRankPairs := #[0, 0], selectSamples := #[#[0, 0], #[0, 0]] } := by
  decide

-- a concrete vector satisfying `Holds`: the bits `1,0,1`
set_option maxRecDepth 8192 in
example : BV.Holds { data := #[5, 0, 0, 0, 0, 0, 0, 0], nBits := 3, nOnes := 2 } [true, false, true] where
  nBits := rfl
  size := rfl
  lt := by decide +kernel
  bit := by decide +kernel
  nOnes := rfl

example : Spec.rank true 3 [true, false, true] = 2 := by decide
example : Spec.select true 1 [true, false, true] = some 2 := by decide
example : Spec.select false 0 [true, false, true] = some 1 := by decide

/-- the theorems instantiated on `1,0,1` -/
example : ∃ r, RSW.mkLevel [true, false, true] = .ok r ∧ RSW.rank1 r 3 = .ok (some 2) ∧
    RSW.rank0 r 2 = .ok (some 1) ∧ RSW.rank1 r 4 = .ok none ∧ RSW.get r 2 = .ok (some true) := by
  obtain ⟨b, hb, hh⟩ := holds_fromBools [true, false, true] (by decide)
  obtain ⟨r, h1, _, h3⟩ := rsw_new_inv hh (by decide)
  refine ⟨r, ?_, ?_, ?_, ?_, ?_⟩
  · unfold RSW.mkLevel
    have : ([true, false, true].foldlM (fun (b : BitVectorMut) x => BV.push b x) {} : M BitVector) = .ok b := hb
    rw [this]; exact h1
  · rw [rsw_rank1 h3]; decide
  · rw [rsw_rank0 h3]; decide
  · rw [rsw_rank1 h3]; decide
  · rw [rsw_get h3]; rfl

example : ∃ b r, [true, false, true].foldlM BV.push ({} : BitVector) = .ok b ∧ RSN.new b = .ok r ∧
    RSN.rank1 r 3 = .ok (some 2) ∧ RSN.rank0 r 2 = .ok (some 1) ∧ RSN.rank1 r 4 = .ok none ∧
    RSN.nOnes r = .ok 2 ∧ RSN.nZeros r = .ok 1 := by
  obtain ⟨b, hb, hh⟩ := holds_fromBools [true, false, true] (by decide)
  obtain ⟨r, h1, _, h3⟩ := rsn_new_inv hh
  refine ⟨b, r, hb, h1, ?_, ?_, ?_, ?_, ?_⟩
  · rw [rsn_rank1 h3]; decide
  · rw [rsn_rank0 h3]; decide
  · rw [rsn_rank1 h3]; decide
  · rw [rsn_nOnes h3]; decide
  · rw [rsn_nZeros h3]; decide

/-- select, given the C17 statement -/
example (hsel : BV.SelSpec) : ∃ r, RSW.mkLevel [true, false, true] = .ok r ∧
    RSW.select1 r 1 = .ok (some 2) ∧ RSW.select0 r 0 = .ok (some 1) ∧ RSW.select0 r 1 = .ok none := by
  obtain ⟨r, h1, h2⟩ := binLevelLaw hsel [true, false, true] (by decide)
  refine ⟨r, h1, ?_, ?_, ?_⟩
  · rw [h2.select1]; decide
  · rw [h2.select0]; decide
  · rw [h2.select0]; decide

/-! concrete evaluations of the model itself (kernel reduction, no extra axioms): 530 bits
`1,0,0,1,0,0,…` — two lines, the second one mostly padding, so `select0` near the end is the
delicate case; and the word-level `select_in_word` the select proofs assume (C17). -/

def bits530 : List Bool := (List.range 530).map (fun i => i % 3 == 0)

/-- checked together, so that the kernel reduces the common `RSW.mkLevel bits530` once; the
examples below are the conjuncts (likewise `rsn_bits530`) -/
theorem rsw_bits530 :
    (do let r ← RSW.mkLevel bits530; RSW.select1 r 176) = .ok (some 528) ∧
    (do let r ← RSW.mkLevel bits530; RSW.select0 r 352) = .ok (some 529) ∧
    (do let r ← RSW.mkLevel bits530; RSW.select0 r 353) = .ok none ∧
    (do let r ← RSW.mkLevel bits530; RSW.rank1 r 530) = .ok (some 177) := by decide +kernel

theorem rsn_bits530 :
    (do let b ← bits530.foldlM BV.push {}; let r ← RSN.new b; RSN.select0 r 352)
      = .ok (Spec.select false 352 bits530) ∧
    (do let b ← bits530.foldlM BV.push {}; let r ← RSN.new b; RSN.select1 r 177) = .ok none ∧
    (do let b ← bits530.foldlM BV.push {}; let r ← RSN.new b; RSN.rank0 r 529) = .ok (some 352) := by
  decide +kernel

example : (do let r ← RSW.mkLevel bits530; RSW.select1 r 176) = .ok (some 528) := rsw_bits530.1
example : (do let r ← RSW.mkLevel bits530; RSW.select0 r 352) = .ok (some 529) := rsw_bits530.2.1
example : (do let r ← RSW.mkLevel bits530; RSW.select0 r 353) = .ok none := rsw_bits530.2.2.1
example : (do let r ← RSW.mkLevel bits530; RSW.rank1 r 530) = .ok (some 177) := rsw_bits530.2.2.2
example : (do let b ← bits530.foldlM BV.push {}; let r ← RSN.new b; RSN.select0 r 352)
    = .ok (Spec.select false 352 bits530) := rsn_bits530.1
example : (do let b ← bits530.foldlM BV.push {}; let r ← RSN.new b; RSN.select1 r 177) = .ok none :=
  rsn_bits530.2.1
example : (do let b ← bits530.foldlM BV.push {}; let r ← RSN.new b; RSN.rank0 r 529)
    = .ok (some 352) := rsn_bits530.2.2
example : Utils.selectInWord 5 1 = .ok 2 ∧ Spec.select true 1 (Spec.bitsOf 5 64) = some 2 := by
  decide +kernel

end Qwt.Props.C06
