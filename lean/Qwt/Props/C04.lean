import Qwt.Props.C19
import Qwt.Props.C12Closed

/-!
# C04 — the safe API is total for every argument and every reachable state

"No call to a safe public method of any structure in any state reachable through the safe API
— including empty and default-constructed structures — and with any argument values reads or
writes memory outside the structure's own allocations, overflows an arithmetic operation, aborts
the process or panics; arguments that do not denote a valid position, symbol or occurrence
produce `None`.  The only permitted panics are the documented ones."

## Reading of the model

Every model function returns `M α = Except Fault α`.  A fault is one of: `oob` (an unchecked
access outside the allocation — undefined behaviour in Rust), `indexPanic`, `overflow`
(arithmetic; raised in BOTH profiles, so a release-mode wrap is a fault too), `unwrapNone`,
`assertFail`, `debugAssert` (only with `dbg = true`) and `assertDoc` (a DOCUMENTED panic).
`Total x` (`∃ v, x = .ok v`) therefore says: this call performs no out-of-allocation access, no
overflow, no panic, no failed (debug) assertion.  All statements quantify over the build flag
(`Cfg.dbg` / `dbg`): optimised builds and builds with debug assertions + overflow checks.

## States covered ("reachable through the safe API")

* construction from ARBITRARY input under the documented limits: elements fit the element
  type, length `< 2^43` (the `RSQVector` / `RSWide` limit), and for the Huffman-shaped trees the
  length table of the external `minimum_redundancy` crate is admissible (`LensOK`);
* the empty input and the derived `Default` value of every type (the `*_default`, `*_empty` theorems);
* `Clone` and `decode ∘ encode`: the identity on model states (C11, `C19` §4), so every theorem
  here applies to the copy verbatim;
* mutators: only the bit vector has any; `C08.reachable_ok` (every history of mutator calls
  whose documented preconditions hold) — `bv_safe_api`.
* the iterators of the trees (every history of the seven calls of `Iter.IterOp`): `*_iter_total`,
  from `Props/C12Closed.lean`; the one-ended bit / quad vector iterators are in C08 / C13.

## The only faults (documented panics), stated positively by the `doc_*` theorems

`BitVectorMut::set` / `set_bits` / `append_bits` outside their documented preconditions,
`get_word` with an out-of-range word index, `select0` on a `DArray` built without select0
support, and the `2^43` length assertion of `RSSupportPlain::new`.

## NOT covered by these theorems

* **Memory safety of the compiled code.**  The theorems are about the model; that the Rust
  code performs the same accesses as the model is validated (not proved) by the differential
  runs of the correspondence harness in two build profiles, under Miri / sanitizers.
* **Allocation failure** (and inputs so large that `usize` length arithmetic overflows: the
  explicit `… < 2^64` guards of C08/C13).
* `FromIterator<usize>` for bit vectors with a non-increasing / non-convertible position list
  (a documented panic of the real constructor; the model's `extendPositions` accepts any order).
* The code-length computation of the external crate (enters as `LensOK`).
-/
namespace Qwt.Props.C04
open Qwt
open Qwt.Props.C02 (LensOK WMValid)

/-- the call returns a value: no fault of any kind -/
def Total {α : Type} (x : M α) : Prop := ∃ v, x = .ok v

theorem Total.of_eq {α : Type} {x : M α} {v : α} (h : x = .ok v) : Total x := ⟨v, h⟩

theorem Total.no_fault {α : Type} {x : M α} (h : Total x) : ∀ f, x ≠ .error f :=
  (Cor.total_iff x).mp h

theorem total_iff_no_fault {α : Type} (x : M α) : Total x ↔ ∀ f, x ≠ .error f := Cor.total_iff x

theorem two43_le_usize_max : (2 : Nat) ^ 43 ≤ two64 - 1 := by decide

/-! The checked methods are specified on every argument: as `S[i]?`, as
`if valid then some … else none`, or through `Spec.select`.  Outside the domain that is `none`: -/

theorem none_of_getElem? {α : Type} {x : M (Option α)} {S : List α} {i : Nat}
    (h : x = .ok S[i]?) (hi : S.length ≤ i) : x = .ok none := by
  rw [h, List.getElem?_eq_none hi]

theorem none_of_ite {α : Type} {x : M (Option α)} {p : Prop} [Decidable p] {v : Option α}
    (h : x = .ok (if p then v else none)) (hp : ¬ p) : x = .ok none := by
  rw [h, if_neg hp]

theorem none_of_select {α : Type} [BEq α] [LawfulBEq α] {x : M (Option Nat)} {p : Prop}
    [Decidable p] {sym : α} {k : Nat} {S : List α}
    (h : x = .ok (if p then Spec.select sym k S else none)) (hk : S.count sym ≤ k) :
    x = .ok none := by
  rw [h, Proofs.Word.select_none _ _ _ hk, ite_self]

/-! ## 1. `QWaveletTree` — all four aliases -/

section qwt
variable (c : Cfg) (hB : c.B = 256 ∨ c.B = 512) (hW : 0 < c.W) (S : List Nat)
  (hS : ∀ x ∈ S, x < 2 ^ c.W) (hlen : S.length < 2 ^ 43)
include hB hW hS hlen

theorem qwt_new_total : Total (QWTree.new c S.toArray) := by
  obtain ⟨t, h, _⟩ := C09.new_ok c S hB hW hS hlen
  exact ⟨t, h⟩

variable {t : QWTree.QWT} (hnew : QWTree.new c S.toArray = .ok t)
include hnew

theorem qwt_get_total (i : Nat) : Total (QWTree.get c t i) :=
  .of_eq (C09.get_ok hB hW hS hlen hnew i)

theorem qwt_rank_total (sym i : Nat) : Total (QWTree.rank c t sym i) :=
  .of_eq (C09.rank_ok hB hW hS hlen hnew sym i)

theorem qwt_select_total (sym k : Nat) : Total (QWTree.select c t sym k) :=
  .of_eq (C09.select_ok hB hW hS hlen hnew sym k)

theorem qwt_rankPrefetch_total (sym i : Nat) : Total (QWTree.rankPrefetch c t sym i) :=
  .of_eq (C09.rankPrefetch_ok hB hW hS hlen hnew sym i)

/-! arguments outside the domain produce `None` -/

theorem qwt_get_out (i : Nat) (hi : S.length ≤ i) : QWTree.get c t i = .ok none :=
  none_of_getElem? (C09.get_ok hB hW hS hlen hnew i) hi

theorem qwt_get_usize_max : QWTree.get c t (two64 - 1) = .ok none :=
  qwt_get_out c hB hW S hS hlen hnew _ (Nat.le_trans (Nat.le_of_lt hlen) two43_le_usize_max)

/-- a symbol above the maximum (however far: `sym` is any natural number) -/
theorem qwt_far_symbol (sym i : Nat) (hs : Spec.maxNat S < sym) :
    QWTree.rank c t sym i = .ok none ∧ QWTree.rankPrefetch c t sym i = .ok none ∧
      QWTree.select c t sym i = .ok none :=
  ⟨none_of_ite (C09.rank_ok hB hW hS hlen hnew sym i) fun h => Nat.not_lt_of_le h.2.1 hs,
    none_of_ite (C09.rankPrefetch_ok hB hW hS hlen hnew sym i) fun h => Nat.not_lt_of_le h.2.1 hs,
    none_of_ite (C09.select_ok hB hW hS hlen hnew sym i) fun h => Nat.not_lt_of_le h.2 hs⟩

theorem qwt_rank_out (sym i : Nat) (hi : S.length < i) :
    QWTree.rank c t sym i = .ok none ∧ QWTree.rankPrefetch c t sym i = .ok none :=
  ⟨none_of_ite (C09.rank_ok hB hW hS hlen hnew sym i) fun h => Nat.not_lt_of_le h.2.2 hi,
    none_of_ite (C09.rankPrefetch_ok hB hW hS hlen hnew sym i) fun h => Nat.not_lt_of_le h.2.2 hi⟩

theorem qwt_rank_usize_max (sym : Nat) :
    QWTree.rank c t sym (two64 - 1) = .ok none ∧ QWTree.rankPrefetch c t sym (two64 - 1) = .ok none :=
  qwt_rank_out c hB hW S hS hlen hnew sym _ (Nat.lt_of_lt_of_le hlen two43_le_usize_max)

theorem qwt_select_out (sym k : Nat) (hk : S.count sym ≤ k) : QWTree.select c t sym k = .ok none :=
  none_of_select (C09.select_ok hB hW hS hlen hnew sym k) hk

theorem qwt_select_usize_max (sym : Nat) : QWTree.select c t sym (two64 - 1) = .ok none :=
  qwt_select_out c hB hW S hS hlen hnew sym _
    (Nat.le_trans List.count_le_length (Nat.le_trans (Nat.le_of_lt hlen) two43_le_usize_max))

end qwt

/-- summary: `QWaveletTree` (`QWT256`, `QWT512`, `QWT256Pfs`, `QWT512Pfs`), every input under
    the documented limits, every argument, both build profiles -/
theorem qwt_safe_api (c : Cfg) (hB : c.B = 256 ∨ c.B = 512) (hW : 0 < c.W) (S : List Nat)
    (hS : ∀ x ∈ S, x < 2 ^ c.W) (hlen : S.length < 2 ^ 43) :
    ∃ t, QWTree.new c S.toArray = .ok t ∧
      QWTree.len t = S.length ∧
      (∀ i, Total (QWTree.get c t i)) ∧
      (∀ sym i, Total (QWTree.rank c t sym i)) ∧
      (∀ sym i, Total (QWTree.rankPrefetch c t sym i)) ∧
      (∀ sym k, Total (QWTree.select c t sym k)) ∧
      (∀ i, S.length ≤ i → QWTree.get c t i = .ok none) ∧
      (∀ sym i, Spec.maxNat S < sym ∨ S.length < i →
        QWTree.rank c t sym i = .ok none ∧ QWTree.rankPrefetch c t sym i = .ok none) ∧
      (∀ sym k, Spec.maxNat S < sym ∨ S.count sym ≤ k → QWTree.select c t sym k = .ok none) := by
  obtain ⟨t, h, hn, _⟩ := C09.new_ok c S hB hW hS hlen
  have far := qwt_far_symbol c hB hW S hS hlen h
  exact ⟨t, h, hn, qwt_get_total c hB hW S hS hlen h, qwt_rank_total c hB hW S hS hlen h,
    qwt_rankPrefetch_total c hB hW S hS hlen h, qwt_select_total c hB hW S hS hlen h,
    qwt_get_out c hB hW S hS hlen h,
    fun sym i hor => hor.elim (fun hs => ⟨(far sym i hs).1, (far sym i hs).2.1⟩)
      (qwt_rank_out c hB hW S hS hlen h sym i),
    fun sym k hor => hor.elim (fun hs => (far sym k hs).2.2)
      (qwt_select_out c hB hW S hS hlen h sym k)⟩

/-! ### default: the empty input and the derived `Default` -/

/-- `QWaveletTree::default()` (derived: every field empty): every query answers `None` -/
theorem qwt_default (c : Cfg) (sym i : Nat) :
    QWTree.get c {} i = .ok none ∧ QWTree.rank c {} sym i = .ok none ∧
      QWTree.rankPrefetch c {} sym i = .ok none ∧ QWTree.select c {} sym i = .ok none ∧
      QWTree.len {} = 0 ∧ QWTree.isEmpty {} = true ∧ QWTree.sigma? {} = none :=
  ⟨rfl, rfl, rfl, rfl, rfl, rfl, rfl⟩

theorem qwt_empty (c : Cfg) (hB : c.B = 256 ∨ c.B = 512) :
    ∃ t, QWTree.new c #[] = .ok t ∧ QWTree.len t = 0 ∧ QWTree.isEmpty t = true ∧
      QWTree.sigma? t = none ∧
      (∀ i, QWTree.get c t i = .ok none) ∧
      (∀ sym i, QWTree.rank c t sym i = .ok none) ∧
      (∀ sym i, QWTree.rankPrefetch c t sym i = .ok none) ∧
      (∀ sym k, QWTree.select c t sym k = .ok none) :=
  C01.empty_ok c (Closed.levelLaw c.dbg hB)

/-! ## 2. `HuffQWaveletTree` — all four aliases -/

section hqwt
variable (c : Cfg) (hB : c.B = 256 ∨ c.B = 512) (hW : c.W ≤ 64) (S : List Nat) (hne : S ≠ [])
  (hb : ∀ x ∈ S, x < 2 ^ c.W) (hS : S.length < 2 ^ 43) (lens : List (Nat × Nat))
  (hlens : LensOK 4 lens) (hsyms : ∀ s, s ∈ lens.map (·.1) ↔ s ∈ S)
include hB hW hne hb hS hlens hsyms

theorem hqwt_new_total : Total (Huff.new c S.toArray lens) := by
  obtain ⟨_, t, _, _, h, _⟩ := Closed.hqwt_correct c hB hW S hne hb hS lens hlens hsyms
  exact ⟨t, h⟩

variable {t : Huff.HQWT} (ht : Huff.new c S.toArray lens = .ok t)
include ht

theorem hqwt_get_total (i : Nat) : Total (Huff.get c t i) :=
  .of_eq (C10.hqwt_get_ok c hB hW S hne hb hS lens hlens hsyms ht i)

theorem hqwt_rank_total (sym i : Nat) : Total (Huff.rank c t sym i) :=
  .of_eq (C10.hqwt_rank_ok c hB hW S hne hb hS lens hlens hsyms ht sym i)

theorem hqwt_rankPrefetch_total (sym i : Nat) : Total (Huff.rankPrefetch c t sym i) :=
  .of_eq (C10.hqwt_rankPrefetch_ok c hB hW S hne hb hS lens hlens hsyms ht sym i)

theorem hqwt_select_total (sym k : Nat) : Total (Huff.select c t sym k) :=
  .of_eq (C10.hqwt_select_ok c hB hW S hne hb hS lens hlens hsyms ht sym k)

theorem hqwt_get_out (i : Nat) (hi : S.length ≤ i) : Huff.get c t i = .ok none :=
  none_of_getElem? (C10.hqwt_get_ok c hB hW S hne hb hS lens hlens hsyms ht i) hi

/-- a symbol that does not occur — in particular one beyond the code table, however far -/
theorem hqwt_absent_symbol (sym i : Nat) (hs : sym ∉ S) :
    Huff.rank c t sym i = .ok none ∧ Huff.rankPrefetch c t sym i = .ok none ∧
      Huff.select c t sym i = .ok none :=
  ⟨none_of_ite (C10.hqwt_rank_ok c hB hW S hne hb hS lens hlens hsyms ht sym i) fun h => hs h.1,
   none_of_ite (C10.hqwt_rankPrefetch_ok c hB hW S hne hb hS lens hlens hsyms ht sym i)
     fun h => hs h.1,
   none_of_ite (C10.hqwt_select_ok c hB hW S hne hb hS lens hlens hsyms ht sym i) hs⟩

theorem hqwt_rank_out (sym i : Nat) (hi : S.length < i) :
    Huff.rank c t sym i = .ok none ∧ Huff.rankPrefetch c t sym i = .ok none :=
  ⟨none_of_ite (C10.hqwt_rank_ok c hB hW S hne hb hS lens hlens hsyms ht sym i)
     fun h => Nat.not_lt_of_le h.2 hi,
   none_of_ite (C10.hqwt_rankPrefetch_ok c hB hW S hne hb hS lens hlens hsyms ht sym i)
     fun h => Nat.not_lt_of_le h.2 hi⟩

theorem hqwt_select_out (sym k : Nat) (hk : S.count sym ≤ k) : Huff.select c t sym k = .ok none :=
  none_of_select (C10.hqwt_select_ok c hB hW S hne hb hS lens hlens hsyms ht sym k) hk

theorem hqwt_usize_max (sym : Nat) :
    Huff.get c t (two64 - 1) = .ok none ∧ Huff.rank c t sym (two64 - 1) = .ok none ∧
      Huff.rankPrefetch c t sym (two64 - 1) = .ok none ∧
      Huff.select c t sym (two64 - 1) = .ok none := by
  have h2 : S.length < two64 - 1 := Nat.lt_of_lt_of_le hS two43_le_usize_max
  have hr := hqwt_rank_out c hB hW S hne hb hS lens hlens hsyms ht sym _ h2
  exact ⟨hqwt_get_out c hB hW S hne hb hS lens hlens hsyms ht _ (Nat.le_of_lt h2), hr.1, hr.2,
    hqwt_select_out c hB hW S hne hb hS lens hlens hsyms ht sym _
      (Nat.le_trans List.count_le_length (Nat.le_of_lt h2))⟩

end hqwt

theorem hqwt_safe_api (c : Cfg) (hB : c.B = 256 ∨ c.B = 512) (hW : c.W ≤ 64) (S : List Nat)
    (hne : S ≠ []) (hb : ∀ x ∈ S, x < 2 ^ c.W) (hS : S.length < 2 ^ 43) (lens : List (Nat × Nat))
    (hlens : LensOK 4 lens) (hsyms : ∀ s, s ∈ lens.map (·.1) ↔ s ∈ S) :
    ∃ t, Huff.new c S.toArray lens = .ok t ∧
      (∀ i, Total (Huff.get c t i)) ∧
      (∀ sym i, Total (Huff.rank c t sym i)) ∧
      (∀ sym i, Total (Huff.rankPrefetch c t sym i)) ∧
      (∀ sym k, Total (Huff.select c t sym k)) ∧
      (∀ i, S.length ≤ i → Huff.get c t i = .ok none) ∧
      (∀ sym i, sym ∉ S ∨ S.length < i →
        Huff.rank c t sym i = .ok none ∧ Huff.rankPrefetch c t sym i = .ok none) ∧
      (∀ sym k, sym ∉ S ∨ S.count sym ≤ k → Huff.select c t sym k = .ok none) := by
  obtain ⟨t, h⟩ := hqwt_new_total c hB hW S hne hb hS lens hlens hsyms
  have absent := hqwt_absent_symbol c hB hW S hne hb hS lens hlens hsyms h
  exact ⟨t, h, hqwt_get_total c hB hW S hne hb hS lens hlens hsyms h,
    hqwt_rank_total c hB hW S hne hb hS lens hlens hsyms h,
    hqwt_rankPrefetch_total c hB hW S hne hb hS lens hlens hsyms h,
    hqwt_select_total c hB hW S hne hb hS lens hlens hsyms h,
    hqwt_get_out c hB hW S hne hb hS lens hlens hsyms h,
    fun sym i hor => hor.elim (fun hs => ⟨(absent sym i hs).1, (absent sym i hs).2.1⟩)
      (hqwt_rank_out c hB hW S hne hb hS lens hlens hsyms h sym i),
    fun sym k hor => hor.elim (fun hs => (absent sym k hs).2.2)
      (hqwt_select_out c hB hW S hne hb hS lens hlens hsyms h sym k)⟩

theorem hqwt_default_codeOf (sym : Nat) : Huff.codeOf {} sym = none := by
  unfold Huff.codeOf
  split
  · rfl
  · simp

theorem hqwt_default (c : Cfg) (sym i : Nat) :
    Huff.get c {} i = .ok none ∧ Huff.rank c {} sym i = .ok none ∧
      Huff.rankPrefetch c {} sym i = .ok none ∧ Huff.select c {} sym i = .ok none := by
  refine ⟨rfl, ?_, ?_, ?_⟩
  · simp only [Huff.rank, hqwt_default_codeOf, ite_self]
    rfl
  · simp only [Huff.rankPrefetch, hqwt_default_codeOf, ite_self]
    rfl
  · simp only [Huff.select, hqwt_default_codeOf]
    rfl

/-- the tree built from the empty sequence (whatever the length table) -/
theorem hqwt_empty (c : Cfg) (hB : c.B = 256 ∨ c.B = 512) (lens : List (Nat × Nat)) :
    ∃ t, Huff.new c #[] lens = .ok t ∧ ∀ sym i,
      Huff.get c t i = .ok none ∧ Huff.rank c t sym i = .ok none ∧
        Huff.rankPrefetch c t sym i = .ok none ∧ Huff.select c t sym i = .ok none := by
  obtain ⟨t, ht⟩ := C02.hqwt_empty_new_ok c (Closed.levelLaw c.dbg hB) lens
  exact ⟨t, ht, fun sym i => (C02.hqwt_empty c lens ht sym i).2.2⟩

/-! ## 3. `WT` and `HWT` -/

section wt
variable (c : Cfg) (hW : 0 < c.W) (S : List Nat) (hb : ∀ x ∈ S, x < 2 ^ c.W)
  (hS : S.length < 2 ^ 43)
include hW hb hS

theorem wt_safe_api :
    ∃ t, BinWT.new c false S.toArray [] = .ok t ∧
      (∀ i, Total (BinWT.get c false t i)) ∧
      (∀ sym i, Total (BinWT.rank c false t sym i)) ∧
      (∀ sym k, Total (BinWT.select c false t sym k)) ∧
      (∀ i, S.length ≤ i → BinWT.get c false t i = .ok none) ∧
      (∀ sym i, Spec.maxNat S < sym ∨ S.length < i → BinWT.rank c false t sym i = .ok none) ∧
      (∀ sym k, Spec.maxNat S < sym ∨ S.count sym ≤ k → BinWT.select c false t sym k = .ok none) := by
  obtain ⟨t, h, _⟩ := Closed.wt_new c hW S hb hS
  have hg := Closed.wt_get c hW S hb hS h
  have hr := Closed.wt_rank c hW S hb hS h
  have hs := Closed.wt_select c hW S hb hS h
  exact ⟨t, h, fun i => .of_eq (hg i), fun sym i => .of_eq (hr sym i),
    fun sym k => .of_eq (hs sym k), fun i => none_of_getElem? (hg i),
    fun sym i hor => none_of_ite (hr sym i) fun hc =>
      hor.elim (Nat.not_lt_of_le hc.2.1) (Nat.not_lt_of_le hc.2.2),
    fun sym k hor => hor.elim (fun h' => none_of_ite (hs sym k) fun hc => Nat.not_lt_of_le hc.2 h')
      (none_of_select (hs sym k))⟩

theorem wt_usize_max {t : BinWT.WT} (ht : BinWT.new c false S.toArray [] = .ok t) (sym : Nat) :
    BinWT.get c false t (two64 - 1) = .ok none ∧ BinWT.rank c false t sym (two64 - 1) = .ok none ∧
      BinWT.select c false t sym (two64 - 1) = .ok none := by
  have h2 : S.length < two64 - 1 := Nat.lt_of_lt_of_le hS two43_le_usize_max
  exact ⟨none_of_getElem? (Closed.wt_get c hW S hb hS ht _) (Nat.le_of_lt h2),
    none_of_ite (Closed.wt_rank c hW S hb hS ht sym _) fun hc => Nat.not_lt_of_le hc.2.2 h2,
    none_of_select (Closed.wt_select c hW S hb hS ht sym _)
      (Nat.le_trans List.count_le_length (Nat.le_of_lt h2))⟩

end wt

section hwt
variable (c : Cfg) (hW : c.W ≤ 64) (S : List Nat) (hne : S ≠ [])
  (hb : ∀ x ∈ S, x < 2 ^ c.W) (hS : S.length < 2 ^ 43) (lens : List (Nat × Nat))
  (hlens : LensOK 2 lens) (hocc : ∀ s, s ∈ lens.map (·.1) ↔ s ∈ S)
include hW hne hb hS hlens hocc

theorem hwt_safe_api :
    ∃ t, BinWT.new c true S.toArray lens = .ok t ∧
      (∀ i, Total (BinWT.get c true t i)) ∧
      (∀ sym i, Total (BinWT.rank c true t sym i)) ∧
      (∀ sym k, Total (BinWT.select c true t sym k)) ∧
      (∀ i, S.length ≤ i → BinWT.get c true t i = .ok none) ∧
      (∀ sym i, sym ∉ S ∨ S.length < i → BinWT.rank c true t sym i = .ok none) ∧
      (∀ sym k, sym ∉ S ∨ S.count sym ≤ k → BinWT.select c true t sym k = .ok none) := by
  obtain ⟨t, h, _⟩ := Closed.hwt_new c hW S hne hb hS lens hlens hocc
  have hg := Closed.hwt_get c hW S hne hb hS lens hlens hocc h
  have hr := Closed.hwt_rank c hW S hne hb hS lens hlens hocc h
  have hs := Closed.hwt_select c hW S hne hb hS lens hlens hocc h
  exact ⟨t, h, fun i => .of_eq (hg i), fun sym i => .of_eq (hr sym i),
    fun sym k => .of_eq (hs sym k), fun i => none_of_getElem? (hg i),
    fun sym i hor => none_of_ite (hr sym i) fun hc =>
      hor.elim (fun h' => h' hc.1) (Nat.not_lt_of_le hc.2),
    fun sym k hor => hor.elim (none_of_ite (hs sym k)) (none_of_select (hs sym k))⟩

end hwt

/-- `WT::default()` / `HWT::default()` (derived) and the trees built from the empty sequence:
    the same state `{}`; every query answers `None` -/
theorem wt_default (c : Cfg) (comp : Bool) (lens : List (Nat × Nat)) (sym i : Nat) :
    BinWT.new c comp #[] lens = .ok {} ∧
      BinWT.get c comp {} i = .ok none ∧ BinWT.rank c comp {} sym i = .ok none ∧
      BinWT.select c comp {} sym i = .ok none := by
  cases comp
  · exact ⟨rfl, C03.wt_empty_get c rfl i, C03.wt_empty_rank c rfl sym i,
      C03.wt_empty_select c rfl sym i⟩
  · exact ⟨rfl, (C03.hwt_empty c lens rfl sym i).2⟩

/-! ## 4. `RSQVector` -/

section rsq
open Qwt.RSQP (RepInv)
variable {B : Nat} {r : RSQ.RSQVector} {s : List Nat} (h : RepInv B r s) (dbg : Bool)
include h

theorem rsq_total (c i : Nat) :
    Total (RSQ.get dbg r i) ∧ Total (RSQ.rank dbg B r c i) ∧ Total (RSQ.select dbg B r c i) ∧
      Total (RSQ.occs dbg r c) ∧ Total (RSQ.occsSmaller dbg r c) :=
  ⟨.of_eq (C05.get_ok h dbg i), .of_eq (C05.rank_ok h dbg c i),
    .of_eq (C05.select_ok Closed.selHyp h dbg c i), .of_eq (C05.occs_ok h dbg c),
    .of_eq (C05.occsSmaller_ok h dbg c)⟩

/-- a quad symbol `4..=255` — or anything larger — is answered with `None` by every method
    that takes a symbol (undefined behaviour in the crate before its repair) -/
theorem rsq_bad_symbol (c i : Nat) (hc : 3 < c) :
    RSQ.rank dbg B r c i = .ok none ∧ RSQ.select dbg B r c i = .ok none ∧
      RSQ.occs dbg r c = .ok none ∧ RSQ.occsSmaller dbg r c = .ok none :=
  ⟨none_of_ite (C05.rank_ok h dbg c i) fun hh => Nat.not_lt_of_le hh.1 hc,
   none_of_ite (C05.select_ok Closed.selHyp h dbg c i) (Nat.not_le_of_lt hc),
   none_of_ite (C05.occs_ok h dbg c) (Nat.not_le_of_lt hc),
   none_of_ite (C05.occsSmaller_ok h dbg c) (Nat.not_le_of_lt hc)⟩

theorem rsq_out (c i : Nat) (hi : s.length < i) :
    RSQ.get dbg r i = .ok none ∧ RSQ.rank dbg B r c i = .ok none ∧
      RSQ.select dbg B r c i = .ok none :=
  ⟨none_of_getElem? (C05.get_ok h dbg i) (Nat.le_of_lt hi),
    none_of_ite (C05.rank_ok h dbg c i) fun hh => Nat.not_lt_of_le hh.2 hi,
    none_of_select (C05.select_ok Closed.selHyp h dbg c i)
      (Nat.le_trans List.count_le_length (Nat.le_of_lt hi))⟩

end rsq

theorem rsq_usize_max {B : Nat} {r : RSQ.RSQVector} {s : List Nat} (h : RSQP.RepInv B r s)
    (hl : s.length < 2 ^ 43) (dbg : Bool) (c : Nat) :
    RSQ.get dbg r (two64 - 1) = .ok none ∧ RSQ.rank dbg B r c (two64 - 1) = .ok none ∧
      RSQ.select dbg B r c (two64 - 1) = .ok none :=
  rsq_out h dbg c _ (Nat.lt_of_lt_of_le hl two43_le_usize_max)

/-- summary: construction from any well-formed quad vector (`From<QVector>`) below the limit -/
theorem rsq_safe_api {B : Nat} (dbg0 : Bool) (hB : B = 256 ∨ B = 512) {qv : QV.QVector}
    (hq : QV.Inv qv) (hl : (QV.abs qv).length < 2 ^ 43) :
    ∃ r, RSQ.fromQV dbg0 B qv = .ok r ∧ RSQ.len r = (QV.abs qv).length ∧
      ∀ dbg c i, Total (RSQ.get dbg r i) ∧ Total (RSQ.rank dbg B r c i) ∧
        Total (RSQ.select dbg B r c i) ∧ Total (RSQ.occs dbg r c) ∧
        Total (RSQ.occsSmaller dbg r c) ∧
        (3 < c → RSQ.rank dbg B r c i = .ok none ∧ RSQ.select dbg B r c i = .ok none ∧
          RSQ.occs dbg r c = .ok none ∧ RSQ.occsSmaller dbg r c = .ok none) ∧
        ((QV.abs qv).length < i → RSQ.get dbg r i = .ok none ∧ RSQ.rank dbg B r c i = .ok none ∧
          RSQ.select dbg B r c i = .ok none) := by
  obtain ⟨r, e, hinv⟩ := C05.fromQV_repInv (B := B) dbg0 hB (RSQP.holds_of_inv hq)
    (QV.abs_lt_four qv) hl
  refine ⟨r, e, C05.len_ok hinv, fun dbg c i => ?_⟩
  obtain ⟨t1, t2, t3, t4, t5⟩ := rsq_total hinv dbg c i
  exact ⟨t1, t2, t3, t4, t5, rsq_bad_symbol hinv dbg c i, rsq_out hinv dbg c i⟩

/-- `new` / `collect` from arbitrary integers (any sign, any width): total -/
theorem rsq_new_total {B : Nat} (dbg0 : Bool) (hB : B = 256 ∨ B = 512) (vals : List Int)
    (hl : vals.length < 2 ^ 43) : Total (RSQ.new dbg0 B vals) := by
  obtain ⟨q, e, hq, a⟩ := C13.fromIter_ok vals (C10.two_mul_lt_two64 hl)
  obtain ⟨r, hr, _⟩ := rsq_safe_api (B := B) dbg0 hB hq (by rw [a, List.length_map]; exact hl)
  exact ⟨r, by rw [C19.rsq_paths_equal dbg0 B vals e]; exact hr⟩

theorem rsq_default {B : Nat} (hB : B = 256 ∨ B = 512) :
    ∃ r, RSQ.default B = .ok r ∧ RSQ.len r = 0 ∧ ∀ dbg c i,
      RSQ.get dbg r i = .ok none ∧ Total (RSQ.rank dbg B r c i) ∧
        RSQ.select dbg B r c i = .ok none ∧ Total (RSQ.occs dbg r c) ∧
        Total (RSQ.occsSmaller dbg r c) ∧ (0 < i ∨ 3 < c → RSQ.rank dbg B r c i = .ok none) := by
  obtain ⟨r, e, hr⟩ := C05.default_represents (B := B) Closed.selHyp hB
  exact ⟨r, e, hr.len_eq, fun dbg c i => ⟨by rw [hr.get]; rfl, .of_eq (hr.rank dbg c i),
    none_of_select (hr.select dbg c i) (Nat.zero_le _), .of_eq (hr.occs dbg c),
    .of_eq (hr.occsSmaller dbg c), fun hor => none_of_ite (hr.rank dbg c i) fun hh =>
      hor.elim (Nat.not_lt_of_le hh.2) (Nat.not_lt_of_le hh.1)⟩⟩

/-! ## 5. `RSWide` / `RSNarrow` -/

theorem rsw_safe_api {b : BV.BitVector} (hb : BV.Inv b) (hl : (BV.abs b).length < 2 ^ 43) :
    ∃ r, RSW.new b = .ok r ∧ ∀ i,
      Total (RSW.get r i) ∧ Total (RSW.rank1 r i) ∧ Total (RSW.rank0 r i) ∧
        Total (RSW.select1 r i) ∧ Total (RSW.select0 r i) ∧ Total (RSW.nOnes r) ∧
        ((BV.abs b).length < i → RSW.get r i = .ok none ∧ RSW.rank1 r i = .ok none ∧
          RSW.rank0 r i = .ok none ∧ RSW.select1 r i = .ok none ∧ RSW.select0 r i = .ok none) := by
  obtain ⟨r, e, _, hv⟩ := C06.rsw_new_inv (C06.holds_of_inv hb) hl
  refine ⟨r, e, fun i => ⟨.of_eq (C06.rsw_get hv i), .of_eq (C06.rsw_rank1 hv i),
    .of_eq (C06.rsw_rank0 hv i), .of_eq (C06.rsw_select1 Closed.selSpec hv i),
    .of_eq (C06.rsw_select0 Closed.selSpec hv i), .of_eq (C06.rsw_nOnes hv), fun hi => ?_⟩⟩
  have hc : ∀ bit, (BV.abs b).count bit ≤ i := fun _ =>
    Nat.le_trans List.count_le_length (Nat.le_of_lt hi)
  exact ⟨none_of_getElem? (C06.rsw_get hv i) (Nat.le_of_lt hi),
    none_of_ite (C06.rsw_rank1 hv i) fun hh => Nat.not_lt_of_le hh.2 hi,
    none_of_ite (C06.rsw_rank0 hv i) fun hh => Nat.not_lt_of_le hh.2 hi,
    Proofs.Word.select_none _ _ _ (hc true) ▸ C06.rsw_select1 Closed.selSpec hv i,
    Proofs.Word.select_none _ _ _ (hc false) ▸ C06.rsw_select0 Closed.selSpec hv i⟩

theorem rsn_safe_api {b : BV.BitVector} (hb : BV.Inv b) :
    ∃ r, RSN.new b = .ok r ∧ ∀ i,
      Total (RSN.get r i) ∧ Total (RSN.rank1 r i) ∧ Total (RSN.rank0 r i) ∧
        Total (RSN.select1 r i) ∧ Total (RSN.select0 r i) ∧ Total (RSN.nOnes r) ∧
        Total (RSN.nZeros r) ∧
        ((BV.abs b).length < i → RSN.get r i = .ok none ∧ RSN.rank1 r i = .ok none ∧
          RSN.rank0 r i = .ok none ∧ RSN.select1 r i = .ok none ∧ RSN.select0 r i = .ok none) := by
  obtain ⟨r, e, _, hv⟩ := C06.rsn_new_inv (C06.holds_of_inv hb)
  refine ⟨r, e, fun i => ⟨.of_eq (C06.rsn_get hv i), .of_eq (C06.rsn_rank1 hv i),
    .of_eq (C06.rsn_rank0 hv i), .of_eq (C06.rsn_select1 Closed.selSpec hv i),
    .of_eq (C06.rsn_select0 Closed.selSpec hv i), .of_eq (C06.rsn_nOnes hv),
    .of_eq (C06.rsn_nZeros hv), fun hi => ?_⟩⟩
  have hc : ∀ bit, (BV.abs b).count bit ≤ i := fun _ =>
    Nat.le_trans List.count_le_length (Nat.le_of_lt hi)
  exact ⟨none_of_getElem? (C06.rsn_get hv i) (Nat.le_of_lt hi),
    none_of_ite (C06.rsn_rank1 hv i) fun hh => Nat.not_lt_of_le hh.2 hi,
    none_of_ite (C06.rsn_rank0 hv i) fun hh => Nat.not_lt_of_le hh.2 hi,
    Proofs.Word.select_none _ _ _ (hc true) ▸ C06.rsn_select1 Closed.selSpec hv i,
    Proofs.Word.select_none _ _ _ (hc false) ▸ C06.rsn_select0 Closed.selSpec hv i⟩

/-- `RSWide::default()` / `RSNarrow::default()` (derived), and the structures built from the
    empty bit vector -/
theorem rsw_default (i : Nat) :
    RSW.get {} i = .ok none ∧ RSW.rank1 {} i = .ok none ∧ RSW.rank0 {} i = .ok none ∧
      RSW.select1 {} i = .ok none ∧ RSW.select0 {} i = .ok none ∧ RSW.nOnes {} = .ok 0 :=
  C06.rsw_default_queries i

theorem rsn_default (i : Nat) :
    RSN.get {} i = .ok none ∧ RSN.rank1 {} i = .ok none ∧ RSN.rank0 {} i = .ok none ∧
      RSN.select1 {} i = .ok none ∧ RSN.select0 {} i = .ok none ∧
      RSN.nOnes {} = .ok 0 ∧ RSN.nZeros {} = .ok 0 :=
  C06.rsn_default_queries i

theorem rsw_rsn_empty : Total (RSW.new {}) ∧ Total (RSN.new {}) :=
  ⟨.of_eq C06.rsw_new_empty, .of_eq C06.rsn_new_empty⟩

/-! ## 6. `DArray<false>` / `DArray<true>` -/

theorem da_safe_api (s0 : Bool) {b : BV.BitVector} (hb : BV.Inv b) (k : Nat) :
    Total (DA.select1 (DA.new s0 b) k) ∧ Total (DA.get (DA.new s0 b) k) ∧
      Total (DA.countZeros (DA.new s0 b)) ∧
      (s0 = true → Total (DA.select0 s0 (DA.new s0 b) k)) ∧
      (s0 = false → DA.select0 s0 (DA.new s0 b) k = .error .assertDoc) ∧
      ((BV.abs b).length ≤ k → DA.select1 (DA.new s0 b) k = .ok none ∧
        DA.get (DA.new s0 b) k = .ok none) := by
  refine ⟨.of_eq (Closed.darray_select1 s0 hb k), .of_eq (C07.get_ok_inv s0 hb k),
    .of_eq (C07.countZeros_ok_inv s0 hb), ?_, ?_, ?_⟩
  · intro e; subst e; exact .of_eq (Closed.darray_select0 hb k)
  · intro e; subst e; rfl
  · intro hk
    exact ⟨Proofs.Word.select_none _ _ _ (Nat.le_trans List.count_le_length hk) ▸ Closed.darray_select1 s0 hb k,
      none_of_getElem? (C07.get_ok_inv s0 hb k) hk⟩

theorem da_default (s0 : Bool) (k : Nat) :
    DA.select1 (DA.new s0 {}) k = .ok none ∧
    DA.select0 s0 (DA.new s0 {}) k = (if s0 then .ok none else .error .assertDoc) ∧
    DA.countOnes (DA.new s0 {}) = 0 ∧ DA.countZeros (DA.new s0 {}) = .ok 0 ∧
    DA.len (DA.new s0 {}) = 0 ∧ DA.get (DA.new s0 {}) k = .ok none := C07.default_ok s0 k

/-! ## 7. `BitVector` / `BitVectorMut`, `QVector` -/

section bv
variable (b : BV.BitVector) (hb : BV.Inv b)
include hb

/-- observers: total for every argument (`get_word` aside, see the documented panics) -/
theorem bv_observers_total (i len : Nat) :
    Total (BV.get b i) ∧ Total (BV.getBits b i len) ∧ Total (BV.getBitsMut b i len) ∧
      Total (BV.countZeros b) ∧ Total (BV.BitIter.next b { i := i }) :=
  ⟨.of_eq (C08.get_ok b hb i), .of_eq (C08.getBits_ok b hb i len),
    .of_eq (C08.getBitsMut_pinned b hb i len), .of_eq (C08.countZeros_ok b hb),
    .of_eq (C08.bitIter_next_ok b hb i)⟩

theorem bv_get_out (i : Nat) (hi : b.nBits ≤ i) : BV.get b i = .ok none :=
  none_of_getElem? (C08.get_ok b hb i) ((BV.abs_length b).symm ▸ hi)

/-- `get_bits(usize::MAX, len)`: no overflow in `index + len` -/
theorem bv_getBits_usize_max (hn : b.nBits < two64) (len : Nat) :
    BV.getBits b (two64 - 1) len = .ok none := C08.getBits_max_index b hb hn len

theorem bv_getBits_out (i len : Nat) (h : len = 0 ∨ 64 < len ∨ b.nBits < i + len) :
    BV.getBits b i len = .ok none :=
  none_of_ite (C08.getBits_ok b hb i len) fun hh => by omega

/-- `get_word`: total inside the range, the documented panic outside -/
theorem bv_getWord (w : Nat) :
    Total (BV.getWord b w) ∨ BV.getWord b w = .error .assertDoc :=
  (Decidable.em (w < 8 * ((b.nBits + 511) / 512))).imp
    (fun hw => .of_eq (C08.getWord_ok b hb w hw)) (C08.getWord_out_of_range b hb w)

/-- mutators: the call succeeds (and keeps the invariant) when the documented precondition
    holds, and is the documented panic otherwise — nothing else can happen -/
theorem bv_set (i : Nat) (bit : Bool) :
    (∃ b', BV.set b i bit = .ok b' ∧ BV.Inv b') ∨ BV.set b i bit = .error .assertDoc :=
  (Decidable.em (i < b.nBits)).imp
    (fun hpre => (C08.set_step b i bit hb hpre).imp fun _ h => ⟨h.1, h.2.1⟩) (C08.set_panic b i bit)

theorem bv_setBits (i len bits : Nat) (hu : bits < two64) :
    (∃ b', BV.setBits b i len bits = .ok b' ∧ BV.Inv b') ∨
      BV.setBits b i len bits = .error .assertDoc :=
  (Decidable.em (i + len ≤ b.nBits ∧ len ≤ 64 ∧ bits < 2 ^ len)).imp
    (fun hpre => (C08.setBits_step b i len bits hb hpre).imp fun _ h => ⟨h.1, h.2.1⟩)
    (C08.setBits_panic b i len bits hu)

/-- (`hn`: the vector stays below `2^64` bits — beyond is allocation failure territory) -/
theorem bv_appendBits (bits len : Nat) (hu : bits < two64) (hn : b.nBits + len < two64) :
    (∃ b', BV.appendBits b bits len = .ok b' ∧ BV.Inv b') ∨
      BV.appendBits b bits len = .error .assertDoc :=
  (Decidable.em (len ≤ 64 ∧ bits < 2 ^ len)).imp
    (fun hpre => (C08.appendBits_step b bits len hb hpre hn).imp fun _ h => ⟨h.1, h.2.1⟩)
    (C08.appendBits_panic b bits len hu)

theorem bv_push (bit : Bool) (hn : b.nBits + 1 < two64) :
    ∃ b', BV.push b bit = .ok b' ∧ BV.Inv b' :=
  (C08.push_step b bit hb hn).imp fun _ h => ⟨h.1, h.2.1⟩

theorem bv_extendWithZeros (n : Nat) (hn : b.nBits + n + 511 < two64) :
    ∃ b', BV.extendWithZeros b n = .ok b' ∧ BV.Inv b' :=
  (C08.extendWithZeros_step b n hb hn).imp fun _ h => ⟨h.1, h.2.1⟩

end bv

/-- summary: every state reachable by constructors and mutators (any history of calls whose
    documented preconditions hold) exists, satisfies the invariant, and every observer is
    total on it -/
theorem bv_safe_api (h : List BV.Op) (hp : BV.HistPre h []) :
    ∃ b, BV.run h {} = .ok b ∧ BV.Inv b ∧ BV.abs b = BV.runSpec h [] ∧
      ∀ i len, Total (BV.get b i) ∧ Total (BV.getBits b i len) ∧ Total (BV.getBitsMut b i len) ∧
        Total (BV.countZeros b) ∧ Total (BV.BitIter.next b { i := i }) ∧
        (Total (BV.getWord b i) ∨ BV.getWord b i = .error .assertDoc) ∧
        (∀ bit, (∃ b', BV.set b i bit = .ok b' ∧ BV.Inv b') ∨ BV.set b i bit = .error .assertDoc) := by
  obtain ⟨b, h1, h2, h3⟩ := C08.reachable_ok h hp
  refine ⟨b, h1, h2, h3, fun i len => ?_⟩
  obtain ⟨t1, t2, t3, t4, t5⟩ := bv_observers_total b h2 i len
  exact ⟨t1, t2, t3, t4, t5, bv_getWord b h2 i, fun bit => bv_set b h2 i bit⟩

theorem bv_default (i len : Nat) :
    BV.Inv {} ∧ BV.get {} i = .ok none ∧ BV.getBits {} i len = .ok none ∧
      BV.countZeros {} = .ok 0 ∧ BV.getWord {} i = .error .assertDoc := by
  have hinv := C08.init_inv.1
  refine ⟨hinv, bv_get_out {} hinv i (Nat.zero_le _), ?_, rfl, ?_⟩
  · exact none_of_ite (C08.getBits_ok {} hinv i len) fun hh =>
      Nat.not_succ_le_zero _ (Nat.le_trans (Nat.add_le_add_left hh.1 i) hh.2.2)
  · exact C08.getWord_out_of_range {} hinv i (by show ¬ i < 8 * ((0 + 511) / 512); omega)

/-- `QVector`: every collected vector; `get` total for every index, both profiles -/
theorem qv_safe_api (vals : List Int) (hn : 2 * vals.length < two64) :
    ∃ q, QV.fromIter vals = .ok q ∧ QV.Inv q ∧ QV.len q = vals.length ∧
      ∀ dbg i, Total (QV.get dbg q i) ∧ (vals.length ≤ i → QV.get dbg q i = .ok none) := by
  obtain ⟨q, e, hq, a⟩ := C13.fromIter_ok vals hn
  have hl : (QV.abs q).length = vals.length := by rw [a, List.length_map]
  exact ⟨q, e, hq, by rw [C13.len_ok q hq, hl], fun dbg i =>
    ⟨.of_eq (C13.get_ok dbg q hq i), fun hi => none_of_getElem? (C13.get_ok dbg q hq i) (hl ▸ hi)⟩⟩

theorem qv_default (dbg : Bool) (i : Nat) :
    QV.Inv {} ∧ QV.get dbg {} i = .ok none ∧ QV.len {} = 0 ∧ QV.isEmpty {} = true := by
  refine ⟨C13.empty_inv.1, ?_, rfl, rfl⟩
  rw [C13.get_ok dbg {} C13.empty_inv.1 i, C13.empty_inv.2]; rfl

/-! ## 7b. the iterators of the trees (`iter()`, `into_iter()`: `next`, `next_back`, `len`)

Every history of iterator calls produces the outcomes of a deque over the sequence
(`Props/C12Closed.lean`), and the specification never produces a fault. -/

theorem specStep_no_fault (rem : List Nat) (op : Iter.IterOp) (f : Fault) :
    (Iter.specStep rem op).2 ≠ .fault f := by
  cases op with
  | next => exact Iter.next_out rem f
  | nextBack => exact Iter.back_out rem f
  | len => simp [Iter.specStep]
  | nth k => simp only [Iter.specStep]; cases rem[k]? <;> simp
  | nthBack k => simp only [Iter.specStep]; cases rem.reverse[k]? <;> simp
  | count => simp [Iter.specStep]
  | last => simp only [Iter.specStep]; cases rem.getLast? <;> simp

theorem specRun_no_fault : ∀ (ops : List Iter.IterOp) (rem : List Nat) (o : Out),
    o ∈ Iter.specRun rem ops → ∀ f, o ≠ .fault f
  | [], _, o, h => by simp [Iter.specRun] at h
  | op :: ops, rem, o, h => by
    simp only [Iter.specRun, List.mem_cons] at h
    rcases h with rfl | h
    · exact specStep_no_fault rem op
    · exact specRun_no_fault ops _ o h

theorem no_fault_of_spec {outs : List Out} {S : List Nat} {ops : List Iter.IterOp}
    (h : outs = Iter.specRun S ops) : ∀ o ∈ outs, ∀ f, o ≠ .fault f :=
  fun o ho => specRun_no_fault ops S o (h ▸ ho)

theorem qwt_iter_total (c : Cfg) (hB : c.B = 256 ∨ c.B = 512) (hW : 0 < c.W) (S : List Nat)
    (hS : ∀ x ∈ S, x < 2 ^ c.W) (hlen : S.length < 2 ^ 43) {t : QWTree.QWT}
    (hnew : QWTree.new c S.toArray = .ok t) (ops : List Iter.IterOp) :
    Iter.run (QWTree.getUnchecked c t) { i := 0, e := S.length } ops = Iter.specRun S ops ∧
      ∀ o ∈ Iter.run (QWTree.getUnchecked c t) { i := 0, e := S.length } ops, ∀ f, o ≠ .fault f :=
  have h := C12Closed.qwt_iter hB hW hS hlen hnew ops
  ⟨h, no_fault_of_spec h⟩

theorem hqwt_iter_total (c : Cfg) (hB : c.B = 256 ∨ c.B = 512) (hW : c.W ≤ 64) (S : List Nat)
    (hne : S ≠ []) (hb : ∀ x ∈ S, x < 2 ^ c.W) (hS : S.length < 2 ^ 43) (lens : List (Nat × Nat))
    (hlens : LensOK 4 lens) (hsyms : ∀ s, s ∈ lens.map (·.1) ↔ s ∈ S) {t : Huff.HQWT}
    (ht : Huff.new c S.toArray lens = .ok t) (ops : List Iter.IterOp) :
    Iter.run (Huff.getUnchecked c t) { i := 0, e := S.length } ops = Iter.specRun S ops ∧
      ∀ o ∈ Iter.run (Huff.getUnchecked c t) { i := 0, e := S.length } ops, ∀ f, o ≠ .fault f :=
  have h := C12Closed.hqwt_iter c hB hW S hne hb hS lens hlens hsyms ht ops
  ⟨h, no_fault_of_spec h⟩

theorem wt_iter_total (c : Cfg) (hW : 0 < c.W) (S : List Nat) (hb : ∀ x ∈ S, x < 2 ^ c.W)
    (hS : S.length < 2 ^ 43) {t : BinWT.WT} (ht : BinWT.new c false S.toArray [] = .ok t)
    (ops : List Iter.IterOp) :
    Iter.run (BinWT.getUnchecked c false t) { i := 0, e := S.length } ops = Iter.specRun S ops ∧
      ∀ o ∈ Iter.run (BinWT.getUnchecked c false t) { i := 0, e := S.length } ops,
        ∀ f, o ≠ .fault f :=
  have h := C12Closed.wt_iter c hW S hb hS ht ops
  ⟨h, no_fault_of_spec h⟩

/-! ## 8. the documented panics (the only faults of the safe API) -/

/-- `BitVectorMut::set(i, _)` with `i ≥ len` -/
theorem doc_set (b : BV.BitVector) (i : Nat) (bit : Bool) (hpre : ¬ i < b.nBits) :
    BV.set b i bit = .error .assertDoc := C08.set_panic b i bit hpre

/-- `set_bits` out of bounds, with `len > 64`, or with stray bits above `len` -/
theorem doc_setBits (b : BV.BitVector) (i len bits : Nat) (hu : bits < two64)
    (hpre : ¬ (i + len ≤ b.nBits ∧ len ≤ 64 ∧ bits < 2 ^ len)) :
    BV.setBits b i len bits = .error .assertDoc := C08.setBits_panic b i len bits hu hpre

/-- `append_bits` with `len > 64` or stray bits -/
theorem doc_appendBits (b : BV.BitVector) (bits len : Nat) (hu : bits < two64)
    (hpre : ¬ (len ≤ 64 ∧ bits < 2 ^ len)) :
    BV.appendBits b bits len = .error .assertDoc := C08.appendBits_panic b bits len hu hpre

/-- `get_word` with an out-of-range word index -/
theorem doc_getWord (b : BV.BitVector) (hb : BV.Inv b) (w : Nat)
    (hw : ¬ w < 8 * ((b.nBits + 511) / 512)) : BV.getWord b w = .error .assertDoc :=
  C08.getWord_out_of_range b hb w hw

/-- `select0` on a `DArray` built without select0 support -/
theorem doc_select0 (d : DA.DArray) (k : Nat) : DA.select0 false d k = .error .assertDoc :=
  C07.select0_unsupported d k

/-- exceeding the `2^43` length limit: the first assertion of `RSSupportPlain::new`, for every
    block size and in both profiles … -/
theorem doc_rsNew_limit (dbg : Bool) (B : Nat) (qv : QV.QVector) (h : 2 ^ 43 ≤ QV.len qv) :
    RSQ.rsNew dbg B qv = .error .assertDoc := by
  have h1 : decide (QV.len qv < 2 ^ Extracted.rsqLenLimitLog) = false :=
    decide_eq_false (by show ¬ QV.len qv < 2 ^ 43; omega)
  unfold RSQ.rsNew
  rw [h1]
  rfl

/-- … hence `RSQVector::from` / `new` panic with the documented message (and nothing else) -/
theorem doc_fromQV_limit (dbg : Bool) (B : Nat) (qv : QV.QVector) (h : 2 ^ 43 ≤ QV.len qv) :
    RSQ.fromQV dbg B qv = .error .assertDoc := by
  unfold RSQ.fromQV
  rw [doc_rsNew_limit dbg B qv h]
  rfl

/-- the limit is sharp: below it construction succeeds (`rsq_safe_api`), at it the assertion
    fires -/
theorem doc_rsNew_sharp (dbg : Bool) (qv : QV.QVector) (hq : QV.Inv qv) :
    (QV.len qv < 2 ^ 43 → Total (RSQ.fromQV dbg 256 qv)) ∧
      (2 ^ 43 ≤ QV.len qv → RSQ.fromQV dbg 256 qv = .error .assertDoc) := by
  refine ⟨fun hl => ?_, doc_fromQV_limit dbg 256 qv⟩
  obtain ⟨r, e, _⟩ := rsq_safe_api (B := 256) dbg (Or.inl rfl) hq (by rw [← QV.len_ok]; exact hl)
  exact ⟨r, e⟩

/-! ## non-vacuity -/

section examples

/-- the hypotheses of the tree theorems are satisfiable (8 levels over `u16`, prefetch on) -/
example : ∃ t, QWTree.new { pfs := true, W := 16 } [5, 300, 7, 0, 300, 65535].toArray = .ok t ∧
    QWTree.rank { pfs := true, W := 16 } t 65536 3 = .ok none ∧
    QWTree.select { pfs := true, W := 16 } t 300 (two64 - 1) = .ok none ∧
    QWTree.get { pfs := true, W := 16 } t (two64 - 1) = .ok none := by
  obtain ⟨t, h, _, _, _, _, _, hg, hr, hs⟩ :=
    qwt_safe_api { pfs := true, W := 16 } (Or.inl rfl) (by decide) [5, 300, 7, 0, 300, 65535]
      (by decide) (by decide)
  exact ⟨t, h, (hr 65536 3 (Or.inl (by decide))).1, hs 300 _ (Or.inr (by decide)),
    hg _ (by decide)⟩

example : ∀ d : Bool,
    (do let t ← QWTree.new { W := 8, dbg := d } #[1, 0, 1, 0, 2, 4, 5, 3]
        let a ← QWTree.rank { W := 8, dbg := d } t 1000000 3
        let b ← QWTree.select { W := 8, dbg := d } t 1 18446744073709551615
        let e ← QWTree.get { W := 8, dbg := d } t 18446744073709551615
        let f ← QWTree.rankPrefetch { W := 8, dbg := d } t 6 8
        pure [a, b, e, f]) = .ok [none, none, none, none] := by decide +kernel

example : ∀ d : Bool,
    (do let r ← RSQ.new d 512 [0, 1, 2, 3, 1]
        let a ← RSQ.rank d 512 r 4 2
        let b ← RSQ.rank d 512 r 255 0
        let e ← RSQ.select d 512 r 7 0
        let f ← RSQ.rank d 512 r 1 18446744073709551615
        pure [a, b, e, f]) = .ok [none, none, none, none] := by decide +kernel

/-- `RSQVector::default()` evaluates, and `rank(_, 0)` on it is `Some(0)` (position 0 is valid) -/
example : (do let r ← RSQ.default 256; RSQ.rank false 256 r 2 0) = .ok (some 0) := by
  decide +kernel
example : (do let r ← RSQ.default 256; RSQ.rank true 256 r 200 0) = .ok none := by
  decide +kernel

/-- a reachable bit vector (the hypothesis `HistPre` is decidable) -/
example : ∃ b, BV.run [.push true, .appendBits 5 3, .extendWithZeros 100, .set 2 false] {} = .ok b ∧
    BV.getBits b (two64 - 1) 7 = .ok none ∧ BV.set b 104 true = .error .assertDoc := by
  obtain ⟨b, h1, h2, h3, _⟩ := bv_safe_api
    [.push true, .appendBits 5 3, .extendWithZeros 100, .set 2 false] (by decide)
  have hn : b.nBits = 104 := by rw [← BV.abs_length, h3]; decide
  exact ⟨b, h1, bv_getBits_usize_max b h2 (by rw [hn]; decide) 7,
    doc_set b 104 true (by rw [hn]; decide)⟩

/-- the length assertion on a (hypothetical) vector of `2^43` symbols: only `position` matters -/
example : RSQ.rsNew true 256 { data := #[], position := 2 ^ 44 } = .error .assertDoc :=
  doc_rsNew_limit true 256 _ (by decide)

end examples

end Qwt.Props.C04
