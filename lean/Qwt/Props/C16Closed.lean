import Qwt.Props.C16
import Qwt.Proofs.SpaceSizes
import Qwt.Proofs.SpaceTables

/-! C16, closed — `usage` (the transcription of `space_usage_byte`) against `heap + size_of_val`
for the sampling structures and the trees, and the hypotheses `selectSamples.size = 4 / 2` of `qwt_close`,
`wt_close` discharged for every tree built by `new` (no hypothesis on the input at all: the
shape lemmas of `Qwt/Proofs/SpaceSizes.lean` follow the construction path).

* vectors: `usage = heap + self_` (`RSWide`: 8 bytes short)                — `Props/C16.lean`
* sampling structure: `usage = heap`                                      — `pfs_exact`
* quad tree with prefetch support: `usage + 32·L = heap + 16`             — `qwt_pfs_exact`
  (the `Vec<PrefetchSupport>` of capacity `L` is not counted)
* every quad tree built by `new`: `usage + (32·L if pfs) = heap + 16`      — `qwt_close_new`
* every binary tree built by `new`: `usage + 8·L = heap + 16`              — `wt_close_new`
* Huffman quad tree: `usage + tables (+ 32·L) = heap + 16 + 2048 + 5·entries` — `hqwt_exact`
  hence `|usage − (heap + 16)| ≤ 2048 + 5·entries + 32·L + 8·|enc| + 24·|dec| + e·(2·entries + 4·|dec|)`
  with `|enc| = σ + 1`, `|dec| = maxLen + 1`, `entries ≤ σ + 1`, `e = max 8 (2·size_of T)` — `hqwt_close`
* Huffman binary tree: `usage + 8·L + tables = heap + 16 + 2048 + 5·|dec|`  — `hwt_exact` -/
namespace Qwt.Props.C16
open Qwt Qwt.Space Qwt.SpaceSizes

theorem sum_rsn (l : List RSN.RSNarrow) (h : ∀ r ∈ l, r.selectSamples.size = 2) :
    ((l.map rsn).map (·.usage)).sum = ((l.map rsn).map (·.heap)).sum + 80 * l.length := by
  have := sum_usage rsn 80 0 l (fun r hr => rsn_usage r (h r hr))
  rwa [Nat.zero_mul, Nat.add_zero] at this

/-- `PrefetchSupport`: the reported bytes are exactly the heap bytes (four `RSNarrow` headers of
    80 bytes in the boxed slice, plus their buffers) -/
theorem pfs_exact (p : PFS.PrefetchSupport) (h2 : ∀ r ∈ p.samples.toList, r.selectSamples.size = 2) :
    (Space.pfs p).usage = (Space.pfs p).heap := by
  rw [pfs_usage, pfs_heap, sum_rsn _ h2, Array.length_toList, Nat.add_comm]

theorem sum_pfs (l : List PFS.PrefetchSupport)
    (h : ∀ p ∈ l, ∀ r ∈ p.samples.toList, r.selectSamples.size = 2) :
    ((l.map Space.pfs).map (·.usage)).sum = ((l.map Space.pfs).map (·.heap)).sum := by
  have := sum_usage Space.pfs 0 0 l (fun p hp => pfs_exact p (h p hp))
  rwa [Nat.zero_mul, Nat.add_zero] at this

/-- the `Vec<PrefetchSupport>` (`with_capacity(n_levels)`, 32 bytes per entry) is not reported -/
theorem pfsOpt_exact (L : Nat) (a : Array PFS.PrefetchSupport)
    (h2 : ∀ p ∈ a.toList, ∀ r ∈ p.samples.toList, r.selectSamples.size = 2) :
    (pfsOpt L (some a)).usage + 32 * L = (pfsOpt L (some a)).heap := by
  rw [pfsOpt_usage, pfsOpt_heap, sum_pfs _ h2, Nat.add_comm]

/-- what the prefetch support contributes to `heap − usage` -/
def pfsGap (L : Nat) (p : Option (Array PFS.PrefetchSupport)) : Nat :=
  match p with
  | some _ => 32 * L
  | none => 0

theorem pfsOpt_gap (L : Nat) (p : Option (Array PFS.PrefetchSupport))
    (h2 : ∀ a, p = some a → ∀ q ∈ a.toList, ∀ r ∈ q.samples.toList, r.selectSamples.size = 2) :
    (pfsOpt L p).usage + pfsGap L p = (pfsOpt L p).heap := by
  cases p with
  | none => rfl
  | some a => exact pfsOpt_exact L a (h2 a rfl)

/-- exact identity: `usage = heap + 16 − 32·L` with prefetch support, `heap + 16` without -/
theorem qwt_exact (t : QWTree.QWT) (h4 : ∀ r ∈ t.qvs.toList, r.rs.selectSamples.size = 4)
    (h2 : ∀ a, t.pfs = some a → ∀ q ∈ a.toList, ∀ r ∈ q.samples.toList, r.selectSamples.size = 2) :
    (qwt t).usage + pfsGap t.nLevels t.pfs = (qwt t).heap + 16 := by
  rw [qwt_usage, qwt_heap, sum_rsq _ h4, Array.length_toList, ← pfsOpt_gap t.nLevels t.pfs h2]
  ac_rfl

theorem qwt_pfs_exact (t : QWTree.QWT) (a : Array PFS.PrefetchSupport) (ha : t.pfs = some a)
    (h4 : ∀ r ∈ t.qvs.toList, r.rs.selectSamples.size = 4)
    (h2 : ∀ q ∈ a.toList, ∀ r ∈ q.samples.toList, r.selectSamples.size = 2) :
    (qwt t).usage + 32 * t.nLevels = (qwt t).heap + 16 := by
  have := qwt_exact t h4 (fun a' e q hq r hr => by
    rw [ha] at e; cases e; exact h2 q hq r hr)
  rw [ha] at this
  exact this

/-- `qwt_close` for every quad tree built by `new` (all four aliases, every input) -/
theorem qwt_close_new (c : Cfg) (seq : Array Nat) {t : QWTree.QWT} (hnew : QWTree.new c seq = .ok t) :
    (qwt t).usage + pfsGap t.nLevels t.pfs = (qwt t).heap + 16 := by
  have hs := qwt_new_shape c seq hnew
  exact qwt_exact t hs.1.q4 (fun a ha => (hs.1.pfs_some a ha).2)

theorem qwt_close_new_nopfs (c : Cfg) (hp : c.pfs = false) (seq : Array Nat) {t : QWTree.QWT}
    (hnew : QWTree.new c seq = .ok t) : (qwt t).usage = (qwt t).heap + 16 := by
  have hs := qwt_new_shape c seq hnew
  have := qwt_close_new c seq hnew
  rw [hs.2 hp] at this
  exact this

theorem qwt_close_new_pfs (c : Cfg) (seq : Array Nat) {t : QWTree.QWT}
    (hnew : QWTree.new c seq = .ok t) (a : Array PFS.PrefetchSupport) (ha : t.pfs = some a) :
    (qwt t).usage + 32 * t.nLevels = (qwt t).heap + 16 ∧ a.size = t.nLevels := by
  have hs := qwt_new_shape c seq hnew
  have := qwt_close_new c seq hnew
  rw [ha] at this
  exact ⟨this, (hs.1.pfs_some a ha).1⟩

/-- `wt_close` for every plain binary tree built by `new`: 8 bytes per level short -/
theorem wt_close_new (c : Cfg) (seq : Array Nat) {t : BinWT.WT}
    (hnew : BinWT.new c false seq [] = .ok t) :
    (wt false t).usage + 8 * t.nLevels = (wt false t).heap + 16 := by
  obtain ⟨h1, _, h2⟩ := bin_new_shape c false seq [] hnew
  have := wt_close t h2
  rw [h1] at this
  exact this

theorem tables_of (w : Nat) (t : BinWT.WT) (e : Array Huff.PrefixCode) (d : Array (Array (Nat × Nat)))
    (he : t.codesEncode = some e) (hd : t.codesDecode = some d) :
    (wtW w true t).heap = (wt true t).heap + tablesHeap w e d := by
  simp [wtW, wt, he, hd]

theorem hwt_exact (w : Nat) (t : BinWT.WT) (e : Array Huff.PrefixCode) (d : Array (Array (Nat × Nat)))
    (he : t.codesEncode = some e) (hd : t.codesDecode = some d)
    (h2 : ∀ r ∈ t.bvs.toList, r.selectSamples.size = 2) :
    (wtW w true t).usage + 8 * t.bvs.size + tablesHeap w e d =
      (wtW w true t).heap + 16 + 2048 + 5 * d.size := by
  have := sum_rsw t.bvs.toList h2
  rw [Array.length_toList] at this
  rw [wtW_usage w t d hd, wtW_heap w t e d he hd]
  omega

/-- every Huffman-shaped binary tree built by `new` on a non-empty input -/
theorem hwt_close_new (w : Nat) (c : Cfg) (seq : Array Nat) (lens : List (Nat × Nat)) {t : BinWT.WT}
    (hnew : BinWT.new c true seq lens = .ok t) (e : Array Huff.PrefixCode)
    (d : Array (Array (Nat × Nat))) (he : t.codesEncode = some e) (hd : t.codesDecode = some d) :
    (wtW w true t).usage + 8 * t.nLevels + tablesHeap w e d =
      (wtW w true t).heap + 16 + 2048 + 5 * d.size := by
  obtain ⟨h1, _, h2⟩ := bin_new_shape c true seq lens hnew
  have := hwt_exact w t e d he hd h2
  rw [h1] at this
  exact this

/-- number of `(code, symbol)` entries of the decode tables -/
def entries (dec : Array (Array (Nat × Nat))) : Nat := (dec.toList.map Array.size).sum

theorem foldl_entries (dec : Array (Array (Nat × Nat))) (k : Nat) :
    dec.foldl (fun a v => a + v.size * k) 0 = k * entries dec := by
  rw [array_foldl_add_eq, Nat.zero_add, entries]
  induction dec.toList with
  | nil => simp
  | cons x xs ih =>
    rw [List.map_cons, List.sum_cons, ih, List.map_cons, List.sum_cons, Nat.mul_add,
      Nat.mul_comm x.size k]

/-- exact identity: the tables are the only difference (besides the constants and the
    uncounted `Vec<PrefetchSupport>`) -/
theorem hqwt_exact (w : Nat) (t : Huff.HQWT) (h4 : ∀ r ∈ t.qvs.toList, r.rs.selectSamples.size = 4)
    (h2 : ∀ a, t.pfs = some a → ∀ q ∈ a.toList, ∀ r ∈ q.samples.toList, r.selectSamples.size = 2) :
    (hqwtW w t).usage + pfsGap t.nLevels t.pfs + tablesHeap w t.codesEncode t.codesDecode =
      (hqwtW w t).heap + 16 + 2048 + 5 * entries t.codesDecode := by
  rw [hqwtW_usage, hqwtW_heap, sum_rsq _ h4, foldl_entries, Array.length_toList,
    ← pfsOpt_gap t.nLevels t.pfs h2]
  ac_rfl

/-- amortised capacity of a vector grown by `push`: doubling stops at the first capacity that
    holds the length, so it never passes twice the length -/
theorem pushCap_go_le (len : Nat) : ∀ f c, c ≤ 2 * len → pushCap.go len f c ≤ 2 * len := by
  intro f
  induction f with
  | zero => intro c hc; exact hc
  | succ f ih =>
    intro c hc
    rw [pushCap.go]
    split
    · exact hc
    · exact ih (2 * c) (Nat.mul_le_mul_left 2 (Nat.le_of_lt (Nat.lt_of_not_ge ‹_›)))

theorem pushCap_le (len : Nat) : pushCap len ≤ 2 * len + 4 := by
  unfold pushCap
  split
  · exact Nat.zero_le _
  · by_cases h : 4 ≤ 2 * len
    · exact Nat.le_trans (pushCap_go_le len 64 4 h) (Nat.le_add_right _ _)
    · rw [pushCap.go, if_pos (by omega)]
      exact Nat.le_add_left _ _

theorem tables_sum_le (k : Nat) (l : List (Array (Nat × Nat))) :
    (l.map (fun v => pushCap v.size * k)).sum ≤ k * (2 * (l.map Array.size).sum + 4 * l.length) := by
  induction l with
  | nil => simp
  | cons x xs ih =>
    simp only [List.map_cons, List.sum_cons, List.length_cons]
    have h1 := pushCap_le x.size
    have h2 : pushCap x.size * k ≤ (2 * x.size + 4) * k := Nat.mul_le_mul_right _ h1
    have e : k * (2 * (x.size + (xs.map Array.size).sum) + 4 * (xs.length + 1)) =
        (2 * x.size + 4) * k + k * (2 * (xs.map Array.size).sum + 4 * xs.length) := by
      rw [Nat.mul_comm (2 * x.size + 4) k, ← Nat.mul_add]; congr 1; omega
    rw [e]
    exact Nat.add_le_add h2 ih

/-- the tables: `σ + 1` encode slots, `maxLen + 1` vector headers, and at most twice the
    entries (plus 4 per table) of `max 8 (2·size_of T)` bytes -/
theorem tablesHeap_le (w : Nat) (enc : Array Huff.PrefixCode) (dec : Array (Array (Nat × Nat))) :
    tablesHeap w enc dec ≤ 8 * enc.size + 24 * dec.size +
      max 8 (2 * w) * (2 * entries dec + 4 * dec.size) := by
  have := tables_sum_le (max 8 (2 * w)) dec.toList
  simp only [tablesHeap, array_foldl_add_eq, Nat.zero_add, entries, Array.length_toList] at *
  omega

/-- the two-sided bound: `usage` is within the table sizes of `heap + 16` -/
theorem hqwt_close (w : Nat) (t : Huff.HQWT) (h4 : ∀ r ∈ t.qvs.toList, r.rs.selectSamples.size = 4)
    (h2 : ∀ a, t.pfs = some a → ∀ q ∈ a.toList, ∀ r ∈ q.samples.toList, r.selectSamples.size = 2) :
    (hqwtW w t).usage ≤ (hqwtW w t).heap + 16 + (2048 + 5 * entries t.codesDecode) ∧
    (hqwtW w t).heap + 16 ≤ (hqwtW w t).usage + (32 * t.nLevels + 8 * t.codesEncode.size +
      24 * t.codesDecode.size + max 8 (2 * w) * (2 * entries t.codesDecode + 4 * t.codesDecode.size)) := by
  have h := hqwt_exact w t h4 h2
  have hg : pfsGap t.nLevels t.pfs ≤ 32 * t.nLevels := by
    unfold pfsGap; split
    · exact Nat.le_refl _
    · exact Nat.zero_le _
  constructor
  · -- `usage ≤ usage + gap + tables = heap + 16 + 2048 + 5·entries`
    rw [← Nat.add_assoc, ← h, Nat.add_assoc]
    exact Nat.le_add_right _ _
  · -- `heap + 16 ≤ heap + 16 + 2048 + 5·entries = usage + gap + tables`, both bounded above
    rw [Nat.add_assoc (32 * t.nLevels), Nat.add_assoc (32 * t.nLevels)]
    refine Nat.le_trans (Nat.le_trans (Nat.le_add_right _ (2048 + 5 * entries t.codesDecode))
      (Nat.le_of_eq ?_)) (Nat.add_le_add_left (Nat.add_le_add hg
        (tablesHeap_le w t.codesEncode t.codesDecode)) _)
    rw [← Nat.add_assoc, ← h, Nat.add_assoc]

/-- every Huffman-shaped quad tree built by `new` (all four aliases, every input) -/
theorem hqwt_exact_new (w : Nat) (c : Cfg) (seq : Array Nat) (lens : List (Nat × Nat)) {t : Huff.HQWT}
    (hnew : Huff.new c seq lens = .ok t) :
    (hqwtW w t).usage + pfsGap t.nLevels t.pfs + tablesHeap w t.codesEncode t.codesDecode =
      (hqwtW w t).heap + 16 + 2048 + 5 * entries t.codesDecode := by
  have hs := huff_new_shape c seq lens hnew
  exact hqwt_exact w t hs.q4 (fun a ha => (hs.pfs_some a ha).2)

theorem hqwt_close_new (w : Nat) (c : Cfg) (seq : Array Nat) (lens : List (Nat × Nat)) {t : Huff.HQWT}
    (hnew : Huff.new c seq lens = .ok t) :
    (hqwtW w t).usage ≤ (hqwtW w t).heap + 16 + (2048 + 5 * entries t.codesDecode) ∧
    (hqwtW w t).heap + 16 ≤ (hqwtW w t).usage + (32 * t.nLevels + 8 * t.codesEncode.size +
      24 * t.codesDecode.size + max 8 (2 * w) * (2 * entries t.codesDecode + 4 * t.codesDecode.size)) := by
  have hs := huff_new_shape c seq lens hnew
  exact hqwt_close w t hs.q4 (fun a ha => (hs.pfs_some a ha).2)

/-- in terms of the largest symbol value `σ` and the longest code `maxLen` only: the
    difference between the reported and the retained bytes is bounded by a constant plus a
    multiple of `σ + 1` and `maxLen + 1` (`e = max 8 (2·size_of T)` bytes per table entry) -/
theorem hqwt_close_sigma (w : Nat) (c : Cfg) (seq : Array Nat) (lens : List (Nat × Nat)) {t : Huff.HQWT}
    (hnew : Huff.new c seq lens = .ok t) (hne : seq.isEmpty = false) (σ maxLen : Nat)
    (hσ : σ = Utils.asUsize (seq.foldl max 0))
    (hm : maxLen = t.codesEncode.foldl (fun m x => max m x.len) 0) :
    t.codesEncode.size = σ + 1 ∧ t.codesDecode.size = maxLen + 1 ∧ entries t.codesDecode ≤ σ + 1 ∧
    (hqwtW w t).usage ≤ (hqwtW w t).heap + 16 + (2048 + 5 * (σ + 1)) ∧
    (hqwtW w t).heap + 16 ≤ (hqwtW w t).usage + (16 * maxLen + 8 * (σ + 1) + 24 * (maxLen + 1) +
      max 8 (2 * w) * (2 * (σ + 1) + 4 * (maxLen + 1))) := by
  have h32 : 32 * (maxLen / 2) ≤ 16 * maxLen := by omega
  obtain ⟨h1, h2, h3, h4⟩ := huff_new_tables c seq lens hnew hne
  obtain ⟨a, b⟩ := hqwt_close_new w c seq lens hnew
  rw [← hσ] at h1
  rw [← hm] at h2 h4
  have h3' : entries t.codesDecode ≤ σ + 1 := h1 ▸ h3
  refine ⟨h1, h2, h3',
    Nat.le_trans a (Nat.add_le_add_left (Nat.add_le_add_left (Nat.mul_le_mul_left 5 h3') _) _),
    Nat.le_trans b (Nat.add_le_add_left ?_ _)⟩
  rw [h1, h2, h4]
  exact Nat.add_le_add (Nat.add_le_add_right (Nat.add_le_add_right h32 _) _)
    (Nat.mul_le_mul_left _ (Nat.add_le_add_right (Nat.mul_le_mul_left 2 h3') _))

/-- Huffman-shaped binary tree on a non-empty input: the exact identity with the table
    sizes as functions of `σ` and `maxLen` (`= nLevels`) -/
theorem hwt_close_sigma (w : Nat) (c : Cfg) (seq : Array Nat) (lens : List (Nat × Nat)) {t : BinWT.WT}
    (hnew : BinWT.new c true seq lens = .ok t) (hne : seq.isEmpty = false) :
    ∃ e d, t.codesEncode = some e ∧ t.codesDecode = some d ∧
      e.size = Utils.asUsize (seq.foldl max 0) + 1 ∧ d.size = t.nLevels + 1 ∧ entries d ≤ e.size ∧
      (wtW w true t).usage + 8 * t.nLevels + tablesHeap w e d =
        (wtW w true t).heap + 16 + 2048 + 5 * (t.nLevels + 1) ∧
      tablesHeap w e d ≤ 8 * e.size + 24 * (t.nLevels + 1) +
        max 8 (2 * w) * (2 * e.size + 4 * (t.nLevels + 1)) := by
  obtain ⟨e, d, he, hd, h1, h2, h3, h4⟩ := hwt_new_tables c seq lens hnew hne
  have hx := hwt_close_new w c seq lens hnew e d he hd
  have ht := tablesHeap_le w e d
  rw [← h4] at h2
  rw [h2] at hx ht
  have h3' : entries d ≤ e.size := h3
  exact ⟨e, d, he, hd, h1, h2, h3', hx, Nat.le_trans ht (Nat.add_le_add_left
    (Nat.mul_le_mul_left _ (Nat.add_le_add_right (Nat.mul_le_mul_left 2 h3') _)) _)⟩

theorem da_close (d : DA.DArray) :
    (da d).usage ≤ (da d).heap + (da d).self_ ∧ (da d).heap + (da d).self_ ≤ (da d).usage + 56 := by
  have := da_exact d
  cases hz : d.zeroes with
  | none => rw [hz] at this; simp only at this; omega
  | some z => rw [hz] at this; simp only at this; omega

/-! ### non-vacuity -/

example : (match QWTree.new { W := 8, pfs := true } #[5, 200, 7, 0, 200, 255] with
    | .ok t => decide ((qwt t).usage + 32 * t.nLevels = (qwt t).heap + 16) && t.nLevels == 4 &&
        t.pfs.isSome
    | .error _ => false) = true := by decide +kernel

example : (match QWTree.new { W := 8 } #[5, 200, 7, 0, 200, 255] with
    | .ok t => decide ((qwt t).usage = (qwt t).heap + 16) && t.pfs.isNone
    | .error _ => false) = true := by decide +kernel

example : (match BinWT.new { W := 8 } false #[5, 200, 7, 0, 200, 255] [] with
    | .ok t => decide ((wt false t).usage + 8 * 8 = (wt false t).heap + 16) && t.nLevels == 8
    | .error _ => false) = true := by decide +kernel

/-- a Huffman-shaped quad tree over `{0 ↦ 1 fragment, 1, 2 ↦ 2 fragments …}` -/
example : (match Huff.new { W := 8 } #[0, 1, 0, 2, 0, 3, 0, 4] [(0, 1), (1, 2), (2, 2), (3, 2), (4, 2)] with
    | .ok t => decide ((hqwtW 1 t).usage + tablesHeap 1 t.codesEncode t.codesDecode =
          (hqwtW 1 t).heap + 16 + 2048 + 5 * entries t.codesDecode) && entries t.codesDecode == 5
    | .error _ => false) = true := by decide +kernel

example : pushCap 0 = 0 ∧ pushCap 1 = 4 ∧ pushCap 5 = 8 ∧ pushCap 9 = 16 := by decide +kernel

end Qwt.Props.C16
