import Qwt.Proofs.CodecTree

/-!
# Property C11 — serialisation round trip

"Deserialising the bincode serialisation of any value succeeds and yields an equal value."

`Codec.encode (xVal x)` is the byte string `bincode::serialize(&x)` (checked byte for byte
against the real crate by the correspondence harness); `Codec.decode xTy` is the schema-directed
bincode reader and `xOfVal` rebuilds the structure from the serde data model.  For every
serialisable structure `X` of the crate:

  `roundtrip_X : xWF x → (decode xTy (encode (xVal x))).bind (fun p => xOfVal p.1) = some x`

where `xWF` states only what the Rust *types* already guarantee (every number fits its machine
width, `Box<[DataLine]>` consists of whole lines, fixed arrays have their fixed length).
The generic engine is `Codec.decode_encode` (`Qwt/Proofs/Codec.lean`).
-/
namespace Qwt.C11
open Qwt Qwt.Codec

theorem roundtrip_of {α : Type} (v : Val) (t : Ty) (ofV : Val → Option α) (x : α)
    (hty : HasTy v t) (hof : ofV v = some x) :
    (decode t (encode v)).bind (fun p => ofV p.1) = some x := by
  rw [decode_encode_nil v t hty]; exact hof

/-- the same with trailing bytes: exactly the bytes of the value are consumed -/
theorem roundtrip_of_rest {α : Type} (v : Val) (t : Ty) (ofV : Val → Option α) (x : α)
    (rest : List Nat) (hty : HasTy v t) (hof : ofV v = some x) :
    (decode t (encode v ++ rest)).bind (fun p => (ofV p.1).map (fun y => (y, p.2))) =
      some (x, rest) := by
  rw [decode_encode v t rest hty]; simp [hof]

theorem roundtrip_QVector (q : QV.QVector) (h : qvWF q) :
    (decode qvTy (encode (qvVal q))).bind (fun p => qvOfVal p.1) = some q :=
  roundtrip_of _ _ _ _ (qvVal_hasTy q h) (qv_ofVal_toVal q h)

theorem roundtrip_BitVector (b : BV.BitVector) (h : bvWF b) :
    (decode bvTy (encode (bvVal b))).bind (fun p => bvOfVal p.1) = some b :=
  roundtrip_of _ _ _ _ (bvVal_hasTy b h) (bv_ofVal_toVal b h)

theorem roundtrip_RSSupportPlain (rs : RSQ.RSSupportPlain) (h : rssWF rs) :
    (decode rssTy (encode (rsSupportVal rs))).bind (fun p => rssOfVal p.1) = some rs :=
  roundtrip_of _ _ _ _ (rsSupportVal_hasTy rs h) (rss_ofVal_toVal rs h)

theorem roundtrip_RSQVector (r : RSQ.RSQVector) (h : rsqWF r) :
    (decode rsqTy (encode (rsqVal r))).bind (fun p => rsqOfVal p.1) = some r :=
  roundtrip_of _ _ _ _ (rsqVal_hasTy r h) (rsq_ofVal_toVal r h)

theorem roundtrip_RSNarrow (r : RSN.RSNarrow) (h : rsnWF r) :
    (decode rsnTy (encode (rsnVal r))).bind (fun p => rsnOfVal p.1) = some r :=
  roundtrip_of _ _ _ _ (rsnVal_hasTy r h) (rsn_ofVal_toVal r h)

theorem roundtrip_RSWide (r : RSW.RSWide) (h : rswWF r) :
    (decode rswTy (encode (rswVal r))).bind (fun p => rswOfVal p.1) = some r :=
  roundtrip_of _ _ _ _ (rswVal_hasTy r h) (rsw_ofVal_toVal r h)

theorem roundtrip_Inventories (i : DA.Inventories) (h : invWF i) :
    (decode invTy (encode (invVal i))).bind (fun p => invOfVal p.1) = some i :=
  roundtrip_of _ _ _ _ (invVal_hasTy i h) (inv_ofVal_toVal i)

theorem roundtrip_DArray (d : DA.DArray) (h : daWF d) :
    (decode daTy (encode (daVal d))).bind (fun p => daOfVal p.1) = some d :=
  roundtrip_of _ _ _ _ (daVal_hasTy d h) (da_ofVal_toVal d h)

theorem roundtrip_PrefetchSupport (p : PFS.PrefetchSupport) (h : pfsWF p) :
    (decode pfsTy (encode (pfsVal p))).bind (fun q => pfsOfVal q.1) = some p :=
  roundtrip_of _ _ _ _ (pfsVal_hasTy p h) (pfs_ofVal_toVal p h)

/-- `wbytes` stands for `size_of::<T>()` of the symbol type `T` -/
theorem roundtrip_QWT (wbytes : Nat) (t : QWTree.QWT) (h : qwtWF wbytes t) :
    (decode (qwtTy wbytes) (encode (qwtVal wbytes t))).bind (fun p => qwtOfVal p.1) = some t :=
  roundtrip_of _ _ _ _ (qwtVal_hasTy wbytes t h) (qwt_ofVal_toVal wbytes t h)

theorem roundtrip_HQWT (wbytes : Nat) (t : Huff.HQWT) (h : hqwtWF wbytes t) :
    (decode (hqwtTy wbytes) (encode (hqwtVal wbytes t))).bind (fun p => hqwtOfVal p.1) = some t :=
  roundtrip_of _ _ _ _ (hqwtVal_hasTy wbytes t h) (hqwt_ofVal_toVal wbytes t h)

theorem roundtrip_WT (wbytes : Nat) (t : BinWT.WT) (h : wtWF wbytes t) :
    (decode (wtTy wbytes) (encode (wtVal wbytes t))).bind (fun p => wtOfVal p.1) = some t :=
  roundtrip_of _ _ _ _ (wtVal_hasTy wbytes t h) (wt_ofVal_toVal wbytes t h)

/-! ### "answers every query identically"

The decoded value is *equal* to the original model state, so every function of the state —
in particular every query of the model, with every argument — gives the same result. -/

theorem same_answers {α β : Type} {r : Option α} {x : α} (h : r = some x) (f : α → β) :
    r.map f = some (f x) := by rw [h]; rfl

theorem queries_QWT (wbytes : Nat) (t : QWTree.QWT) (h : qwtWF wbytes t) {β : Type}
    (query : QWTree.QWT → β) :
    ((decode (qwtTy wbytes) (encode (qwtVal wbytes t))).bind (fun p => qwtOfVal p.1)).map query =
      some (query t) :=
  same_answers (roundtrip_QWT wbytes t h) query

theorem queries_HQWT (wbytes : Nat) (t : Huff.HQWT) (h : hqwtWF wbytes t) {β : Type}
    (query : Huff.HQWT → β) :
    ((decode (hqwtTy wbytes) (encode (hqwtVal wbytes t))).bind (fun p => hqwtOfVal p.1)).map query =
      some (query t) :=
  same_answers (roundtrip_HQWT wbytes t h) query

theorem queries_WT (wbytes : Nat) (t : BinWT.WT) (h : wtWF wbytes t) {β : Type}
    (query : BinWT.WT → β) :
    ((decode (wtTy wbytes) (encode (wtVal wbytes t))).bind (fun p => wtOfVal p.1)).map query =
      some (query t) :=
  same_answers (roundtrip_WT wbytes t h) query

theorem queries_RSQVector (r : RSQ.RSQVector) (h : rsqWF r) {β : Type} (query : RSQ.RSQVector → β) :
    ((decode rsqTy (encode (rsqVal r))).bind (fun p => rsqOfVal p.1)).map query = some (query r) :=
  same_answers (roundtrip_RSQVector r h) query

theorem queries_RSNarrow (r : RSN.RSNarrow) (h : rsnWF r) {β : Type} (query : RSN.RSNarrow → β) :
    ((decode rsnTy (encode (rsnVal r))).bind (fun p => rsnOfVal p.1)).map query = some (query r) :=
  same_answers (roundtrip_RSNarrow r h) query

theorem queries_RSWide (r : RSW.RSWide) (h : rswWF r) {β : Type} (query : RSW.RSWide → β) :
    ((decode rswTy (encode (rswVal r))).bind (fun p => rswOfVal p.1)).map query = some (query r) :=
  same_answers (roundtrip_RSWide r h) query

theorem queries_DArray (d : DA.DArray) (h : daWF d) {β : Type} (query : DA.DArray → β) :
    ((decode daTy (encode (daVal d))).bind (fun p => daOfVal p.1)).map query = some (query d) :=
  same_answers (roundtrip_DArray d h) query

theorem serialize_injective_QWT (wbytes : Nat) (s t : QWTree.QWT) (hs : qwtWF wbytes s)
    (ht : qwtWF wbytes t) (h : encode (qwtVal wbytes s) = encode (qwtVal wbytes t)) : s = t := by
  have hv := encode_injective _ _ _ (qwtVal_hasTy wbytes s hs) (qwtVal_hasTy wbytes t ht) h
  have e1 := qwt_ofVal_toVal wbytes s hs
  rw [hv, qwt_ofVal_toVal wbytes t ht] at e1
  exact (Option.some.inj e1).symm

example : qvWF {} := by decide +kernel
example : bvWF {} := by decide +kernel
example : rssWF {} := by decide +kernel
example : rsqWF {} := by decide +kernel
example : rsnWF {} := by decide +kernel
example : rswWF {} := by decide +kernel
example : invWF {} := by decide +kernel
example : daWF {} := by decide +kernel
example : pfsWF {} := by decide +kernel

theorem qwtWF_default (w : Nat) : qwtWF w {} :=
  ⟨by decide, by decide, Nat.pow_pos (by decide), by decide, by decide⟩

theorem hqwtWF_default (w : Nat) : hqwtWF w {} :=
  ⟨by decide, by decide, by decide, ⟨by decide, fun _ h => nomatch h⟩, by decide, by decide,
    by decide⟩

theorem wtWF_default (w : Nat) : wtWF w {} :=
  ⟨by decide, by decide, trivial, trivial, trivial, by decide, by decide⟩

def exQV : QV.QVector := { data := #[1, 2, 3, 340282366920938463463374607431768211455], position := 7 }
def exBV : BV.BitVector :=
  { data := #[18446744073709551615, 0, 5, 0, 0, 0, 0, 9], nBits := 512, nOnes := 68 }
def exRSQ : RSQ.RSQVector :=
  { qv := exQV,
    rs := { superblocks := #[0, 0, 0, 0], selectSamples := #[#[0], #[0, 1], #[], #[4294967295]] },
    nOccsSmaller := #[0, 1, 2, 3, 7] }
def exRSN : RSN.RSNarrow := { bv := exBV, blockRankPairs := #[0, 68], selectSamples := #[#[0], #[0]] }
def exRSW : RSW.RSWide :=
  { bv := exBV, superblockMetadata := #[0, 1208925819614629174706176], selectSamples := #[#[0], #[0]],
    nZeros := 444 }
def exDA : DA.DArray :=
  { bv := exBV,
    ones := { nSets := 68, blockInventory := #[0, -3], subblockInventory := #[0, 65535],
              overflowPositions := #[1, 2, 3] },
    zeroes := some {} }
def exQWT : QWTree.QWT :=
  { n := 7, nLevels := 1, sigma := 3, qvs := #[exRSQ],
    pfs := some #[{ samples := #[exRSN, {}], sampleRateShift := 11 }] }
def exHQWT : Huff.HQWT :=
  { n := 7, nLevels := 1, codesEncode := #[{ content := 1, len := 2 }],
    codesDecode := #[#[(1, 0)], #[]], qvs := #[exRSQ], lens := #[7], pfs := none }
def exWT : BinWT.WT :=
  { n := 7, nLevels := 1, sigma := some 2, codesEncode := some #[{ content := 1, len := 2 }],
    codesDecode := none, bvs := #[exRSW], lens := #[7] }

example : qvWF exQV := by decide +kernel
example : rsqWF exRSQ := by decide +kernel
example : qwtWF 1 exQWT := by decide +kernel
example : hqwtWF 2 exHQWT := by decide +kernel
example : wtWF 4 exWT := by decide +kernel
example : daWF exDA := by decide +kernel

example : (decode qvTy (encode (qvVal exQV))).bind (fun p => qvOfVal p.1) = some exQV := by
  decide +kernel
example : (decode bvTy (encode (bvVal exBV))).bind (fun p => bvOfVal p.1) = some exBV := by
  decide +kernel
example : (decode rsqTy (encode (rsqVal exRSQ))).bind (fun p => rsqOfVal p.1) = some exRSQ := by
  decide +kernel
example : (decode rsnTy (encode (rsnVal exRSN))).bind (fun p => rsnOfVal p.1) = some exRSN := by
  decide +kernel
example : (decode rswTy (encode (rswVal exRSW))).bind (fun p => rswOfVal p.1) = some exRSW := by
  decide +kernel
example : (decode daTy (encode (daVal exDA))).bind (fun p => daOfVal p.1) = some exDA := by
  decide +kernel
example : (decode (qwtTy 1) (encode (qwtVal 1 exQWT))).bind (fun p => qwtOfVal p.1) = some exQWT := by
  decide +kernel
example : (decode (hqwtTy 2) (encode (hqwtVal 2 exHQWT))).bind (fun p => hqwtOfVal p.1) =
    some exHQWT := by decide +kernel
example : (decode (wtTy 4) (encode (wtVal 4 exWT))).bind (fun p => wtOfVal p.1) = some exWT := by
  decide +kernel

/-- the byte string itself (bincode layout): `u64` line count, 4 × `u128` LE, `u64` position -/
example : encode (qvVal { data := #[1, 2, 3, 4], position := 7 }) =
    [1,0,0,0,0,0,0,0,
     1,0,0,0,0,0,0,0,0,0,0,0,0,0,0,0,  2,0,0,0,0,0,0,0,0,0,0,0,0,0,0,0,
     3,0,0,0,0,0,0,0,0,0,0,0,0,0,0,0,  4,0,0,0,0,0,0,0,0,0,0,0,0,0,0,0,
     7,0,0,0,0,0,0,0] := by decide +kernel

/-- a value that is *not* well-formed (half a line) does not survive: `WF` is necessary -/
example : (decode qvTy (encode (qvVal { data := #[1, 2], position := 0 }))).bind
    (fun p => qvOfVal p.1) ≠ some { data := #[1, 2], position := 0 } := by decide +kernel

/-- truncated input is rejected, not mis-decoded -/
example : decode qvTy ((encode (qvVal exQV)).take 50) = none := by decide +kernel

end Qwt.C11
