import Qwt.Proofs.Space

/-! C16 — reported space usage matches the memory retained.

`Space.*` gives, for every structure of the model, `heap` (bytes requested from the
allocator by the construction path), `self_` (`size_of_val`) and `usage` (transcription of
the hand-written `space_usage_byte`).  The theorems say how far `usage` is from
`heap + self_`: exactly equal for the vectors, a constant per level for the trees.  The
`space` requests of the check compare all three numbers with the real crate on every
generated case (exact equality), which is what ties these statements to the code. -/
namespace Qwt.Props.C16
open Qwt Qwt.Space

theorem qv_exact (q : QV.QVector) : (qv q).usage = (qv q).heap + (qv q).self_ := qv_usage q
theorem bv_exact (b : BV.BitVector) : (bv b).usage = (bv b).heap + (bv b).self_ := bv_usage b
theorem rsq_exact (r : RSQ.RSQVector) (h4 : r.rs.selectSamples.size = 4) :
    (rsq r).usage = (rsq r).heap + (rsq r).self_ := rsq_usage r h4
theorem rsn_exact (r : RSN.RSNarrow) (h2 : r.selectSamples.size = 2) :
    (rsn r).usage = (rsn r).heap + (rsn r).self_ := rsn_usage r h2
/-- `RSWide` forgets its 8-byte `n_zeros` field -/
theorem rsw_off_by_8 (r : RSW.RSWide) (h2 : r.selectSamples.size = 2) :
    (rsw r).usage + 8 = (rsw r).heap + (rsw r).self_ := rsw_usage r h2
theorem inv_exact (i : DA.Inventories) : (inv i).usage = (inv i).heap + (inv i).self_ := inv_usage i

/-- `DArray`: exact for its parts; an absent zero inventory is counted in `size_of_val` only -/
theorem da_exact (d : DA.DArray) :
    (da d).usage + (match d.zeroes with | some _ => 0 | none => 56) = (da d).heap + (da d).self_ := by
  have ha : (bv d.bv).usage = (bv d.bv).heap + 32 := bv_usage d.bv
  have ho : (inv d.ones).usage = (inv d.ones).heap + 56 := inv_usage d.ones
  cases hz : d.zeroes with
  | none => simp only [da, hz]; omega
  | some z =>
    have hz' : (inv z).usage = (inv z).heap + 56 := inv_usage z
    simp only [da, hz]; omega

theorem sum_rsq (l : List RSQ.RSQVector) (h : ∀ r ∈ l, r.rs.selectSamples.size = 4) :
    ((l.map rsq).map (·.usage)).sum = ((l.map rsq).map (·.heap)).sum + 144 * l.length := by
  have := sum_usage rsq 144 0 l (fun r hr => rsq_usage r (h r hr))
  rwa [Nat.zero_mul, Nat.add_zero] at this

/-- plain quad tree without prefetch support: `usage` is the retained heap plus the 16 bytes
    it counts for `n` and `n_levels` (`self_` of a tree depends on `T`: the harness adds it) -/
theorem qwt_close (t : QWTree.QWT) (h : ∀ r ∈ t.qvs.toList, r.rs.selectSamples.size = 4)
    (hp : t.pfs = none) : (qwt t).usage = (qwt t).heap + 16 := by
  have := sum_rsq t.qvs.toList h
  rw [qwt_usage, qwt_heap, hp, this, Array.length_toList]
  show _ + 0 = _ + 0 + 16
  ac_rfl

theorem sum_rsw (l : List RSW.RSWide) (h : ∀ r ∈ l, r.selectSamples.size = 2) :
    ((l.map rsw).map (·.usage)).sum + 8 * l.length = ((l.map rsw).map (·.heap)).sum + 88 * l.length :=
  sum_usage rsw 88 8 l (fun r hr => rsw_usage r (h r hr))

/-- plain binary tree: 8 bytes per level short (the `n_zeros` of each `RSWide`) -/
theorem wt_close (t : BinWT.WT) (h : ∀ r ∈ t.bvs.toList, r.selectSamples.size = 2) :
    (wt false t).usage + 8 * t.bvs.size = (wt false t).heap + 16 := by
  have := sum_rsw t.bvs.toList h
  rw [Array.length_toList] at this
  rw [wt_usage, wt_heap]
  omega

-- non-vacuity: the empty quad vector and an empty tree satisfy the hypotheses
example : (rsq {}).usage = (rsq {}).heap + (rsq {}).self_ := rsq_exact {} (by decide)
example : (qwt {}).usage = (qwt {}).heap + 16 := qwt_close {} (by simp) rfl

end Qwt.Props.C16
