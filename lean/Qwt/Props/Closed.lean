import Qwt.Props.C01
import Qwt.Props.C03
import Qwt.Props.C05
import Qwt.Props.C06
import Qwt.Props.C07
import Qwt.Props.C17
import Qwt.Props.C02Craft
import Qwt.Props.C02
import Qwt.Props.C09
import Qwt.Props.C09Huff
import Qwt.Proofs.DArrayBridge
import Qwt.Proofs.RSQHolds
import Qwt.Proofs.WordBits

/-!
# Closed compositions

The layered theorems of `Props/C01`, `C03`, `C05`, `C06`, `C07` take the lower layer's contract
(`LevelLaw`, `BinLevelLaw`, the word-level `select_in_word` lemma) as a hypothesis.  Here
every contract is discharged, so that the statements below mention only the model, the
specification and hypotheses about the *input* (element width, length limit, and — for the
Huffman-shaped trees — the code-length table handed over by the external crate).
-/
namespace Qwt.Props.Closed
open Qwt

/-! ## the word-level lemmas instantiate the three `select` hypotheses -/

theorem selHyp : Qwt.RSQP.SelHyp :=
  fun w k hw hk => C17.select_in_word_u128_ok w k hw hk

theorem selSpec : BV.SelSpec :=
  fun w k hw hk => C17.select_in_word_ok w k hw hk

theorem selectInWordSpec : DAProofs.SelectInWordSpec :=
  fun w k hw hk => C17.select_in_word_ok w k hw hk

/-! ## C05 / C06: the level contracts hold unconditionally -/

/-- every quad level built by the tree constructors represents its digits (both block
    sizes, both build profiles, every length below the documented 2^43 limit) -/
theorem levelLaw (dbg : Bool) {B : Nat} (hB : B = 256 ∨ B = 512) : LevelLaw dbg B :=
  C05.levelLaw selHyp dbg hB

theorem binLevelLaw : BinLevelLaw := C06.binLevelLaw selSpec

/-- C05: the rank/select quad vector built from any well-formed quad vector represents it -/
theorem rsq_represents {B : Nat} (dbg : Bool) (hB : B = 256 ∨ B = 512) {qv : QV.QVector}
    (h : QV.Inv qv) (hs : ∀ x ∈ QV.abs qv, x < 4) (hl : (QV.abs qv).length < 2 ^ 43) :
    ∃ r, RSQ.fromQV dbg B qv = .ok r ∧ RSQ.Represents B r (QV.abs qv) :=
  C05.fromQV_represents selHyp dbg hB (Qwt.RSQP.holds_of_inv h) hs hl

/-- C06: RSWide / RSNarrow built from any well-formed bit vector represent it -/
theorem rsw_represents {b : BV.BitVector} (h : BV.Inv b) (hl : (BV.abs b).length < 2 ^ 43) :
    ∃ r, RSW.new b = .ok r ∧ RSW.Represents r (BV.abs b) :=
  C06.rsw_represents selSpec (C06.holds_of_inv h) hl

theorem rsn_represents {b : BV.BitVector} (h : BV.Inv b) :
    ∃ r, RSN.new b = .ok r ∧ RSN.Represents r (BV.abs b) :=
  C06.rsn_represents selSpec (C06.holds_of_inv h)

/-! ## C07: DArray select, every distribution of ones -/

theorem darray_select1 (s0 : Bool) {b : BV.BitVector} (h : BV.Inv b) (k : Nat) :
    DA.select1 (DA.new s0 b) k = .ok (Spec.select true k (BV.abs b)) :=
  C07.select1_ok_inv s0 h selectInWordSpec k

theorem darray_select0 {b : BV.BitVector} (h : BV.Inv b) (k : Nat) :
    DA.select0 true (DA.new true b) k = .ok (Spec.select false k (BV.abs b)) :=
  C07.select0_ok_inv h selectInWordSpec k

/-! ## C01: the plain quad wavelet tree (types without prefetch support) -/

section qwt
variable {c : Cfg} {S : List Nat} {t : QWTree.QWT}
  (hB : c.B = 256 ∨ c.B = 512) (hpfs : c.pfs = false) (hW : 0 < c.W)
  (hS : ∀ x ∈ S, x < 2 ^ c.W) (hlen : S.length < 2 ^ 43)
include hB hpfs hW hS hlen

theorem qwt_new : ∃ t, QWTree.new c S.toArray = .ok t ∧ t.n = S.length ∧ t.pfs = none ∧
    (S ≠ [] → t.sigma = Spec.maxNat S ∧ t.nLevels = (Spec.bitlen (Spec.maxNat S) + 1) / 2) := by
  obtain ⟨t, h1, h2, h3, h4, _⟩ := C01.new_ok_nopfs c S hpfs hW hS hlen (levelLaw c.dbg hB)
  exact ⟨t, h1, h2, h3, h4⟩

variable (hnew : QWTree.new c S.toArray = .ok t)
include hnew

theorem qwt_get (i : Nat) : QWTree.get c t i = .ok S[i]? :=
  C01.get_ok hW hS hlen (levelLaw c.dbg hB) (C01.pfsTotal_of_false hpfs) hnew i

theorem qwt_rank (sym i : Nat) : QWTree.rank c t sym i =
    .ok (if S ≠ [] ∧ sym ≤ Spec.maxNat S ∧ i ≤ S.length then some (Spec.rank sym i S) else none) :=
  C01.rank_ok hW hS hlen (levelLaw c.dbg hB) (C01.pfsTotal_of_false hpfs) hnew sym i

theorem qwt_select (sym k : Nat) : QWTree.select c t sym k =
    .ok (if S ≠ [] ∧ sym ≤ Spec.maxNat S then Spec.select sym k S else none) :=
  C01.select_ok hW hS hlen (levelLaw c.dbg hB) (C01.pfsTotal_of_false hpfs) hnew sym k

theorem qwt_rankPrefetch (sym i : Nat) : QWTree.rankPrefetch c t sym i = QWTree.rank c t sym i :=
  C01.rankPrefetch_eq_rank hpfs hW hS hlen (levelLaw c.dbg hB) hnew sym i

end qwt

/-! ## C03: the plain binary wavelet tree -/

section wt
variable (c : Cfg) (hW : 0 < c.W) (S : List Nat) (hb : ∀ x ∈ S, x < 2 ^ c.W)
  (hS : S.length < 2 ^ 43)
include hW hb hS

theorem wt_new : ∃ t, BinWT.new c false S.toArray [] = .ok t ∧ t.n = S.length ∧
    (S ≠ [] → t.sigma = some (Spec.maxNat S) ∧ t.nLevels = Spec.bitlen (Spec.maxNat S)) := by
  obtain ⟨t, h1, _, h3, h4⟩ := C03.wt_new_ok c hW binLevelLaw S hb hS
  exact ⟨t, h1, h3, h4⟩

variable {t : BinWT.WT} (ht : BinWT.new c false S.toArray [] = .ok t)
include ht

theorem wt_get (i : Nat) : BinWT.get c false t i = .ok S[i]? :=
  C03.wt_get_ok c hW binLevelLaw S hb hS ht i

theorem wt_rank (sym i : Nat) : BinWT.rank c false t sym i =
    .ok (if S ≠ [] ∧ sym ≤ Spec.maxNat S ∧ i ≤ S.length then some (Spec.rank sym i S) else none) :=
  C03.wt_rank_ok c hW binLevelLaw S hb hS ht sym i

theorem wt_select (sym k : Nat) : BinWT.select c false t sym k =
    .ok (if S ≠ [] ∧ sym ≤ Spec.maxNat S then Spec.select sym k S else none) :=
  C03.wt_select_ok c hW binLevelLaw S hb hS ht sym k

end wt

theorem maxNat_lt_two64' (W : Nat) (hW : W ≤ 64) (S : List Nat) (hb : ∀ x ∈ S, x < 2 ^ W) :
    Spec.maxNat S < two64 :=
  Nat.lt_of_lt_of_le (Spec.maxNat_lt (Nat.two_pow_pos W) hb) (Nat.pow_le_pow_right (by decide) hW)

theorem le_maxNat' (S : List Nat) (x : Nat) (hx : x ∈ S) : x ≤ Spec.maxNat S :=
  Spec.le_maxNat hx

/-! ## C03: the Huffman-shaped binary tree, for every admissible length table and tie order -/

section hwt
open Qwt.Props.C02 (LensOK WMValid)
variable (c : Cfg) (hW : c.W ≤ 64) (S : List Nat) (hne : S ≠ [])
  (hb : ∀ x ∈ S, x < 2 ^ c.W) (hS : S.length < 2 ^ 43)
  (lens : List (Nat × Nat))
  /- what is assumed about `minimum_redundancy::code_lengths()`: one entry per occurring
     symbol (in any order) and near-complete Kraft lengths of at most 32 bits -/
  (hlens : LensOK 2 lens) (hocc : ∀ s, s ∈ lens.map (·.1) ↔ s ∈ S)
include hW hne hb hS hlens hocc

/-- the crafted table exists and is valid, whatever the order of `lens` -/
theorem hwt_codes : ∃ codes, Huff.craftWmCodes 2 lens (Utils.asUsize (Spec.maxNat S)) = .ok codes ∧
    WMValid 2 codes (lens.map (·.1)) := by
  have hsig : Utils.asUsize (Spec.maxNat S) = Spec.maxNat S :=
    Nat.mod_eq_of_lt (maxNat_lt_two64' c.W hW S hb)
  rw [hsig]
  apply C02.craft_ok_valid (Or.inr rfl) hlens
  intro p hp
  have : p.1 ∈ lens.map (·.1) := List.mem_map.mpr ⟨p, hp, rfl⟩
  exact le_maxNat' S p.1 ((hocc p.1).mp this)

theorem hwt_new : ∃ t, BinWT.new c true S.toArray lens = .ok t ∧ t.n = S.length := by
  obtain ⟨codes, hc, hv⟩ := hwt_codes c hW S hne hb hS lens hlens hocc
  obtain ⟨t, h1, _, h3, _⟩ := C03.hwt_new_ok c hW binLevelLaw S hne hb hS lens codes hc _ hv hocc
  exact ⟨t, h1, h3⟩

variable {t : BinWT.WT} (ht : BinWT.new c true S.toArray lens = .ok t)
include ht

theorem hwt_get (i : Nat) : BinWT.get c true t i = .ok S[i]? := by
  obtain ⟨codes, hc, hv⟩ := hwt_codes c hW S hne hb hS lens hlens hocc
  exact C03.hwt_get_ok c hW binLevelLaw S hne hb hS lens codes hc _ hv hocc ht i

theorem hwt_rank (sym i : Nat) : BinWT.rank c true t sym i =
    .ok (if sym ∈ S ∧ i ≤ S.length then some (Spec.rank sym i S) else none) := by
  obtain ⟨codes, hc, hv⟩ := hwt_codes c hW S hne hb hS lens hlens hocc
  exact C03.hwt_rank_ok c hW binLevelLaw S hne hb hS lens codes hc _ hv hocc ht sym i

theorem hwt_select (sym k : Nat) : BinWT.select c true t sym k =
    .ok (if sym ∈ S then Spec.select sym k S else none) := by
  obtain ⟨codes, hc, hv⟩ := hwt_codes c hW S hne hb hS lens hlens hocc
  exact C03.hwt_select_ok c hW binLevelLaw S hne hb hS lens codes hc _ hv hocc ht sym k

end hwt

/-! ## C02: the Huffman-shaped quad tree (all four aliases: both block sizes, with and
without prefetch support), for every admissible length table and every tie order -/

theorem hqwt_correct (c : Cfg) (hB : c.B = 256 ∨ c.B = 512) (hW : c.W ≤ 64)
    (S : List Nat) (hne : S ≠ []) (hb : ∀ x ∈ S, x < 2 ^ c.W) (hS : S.length < 2 ^ 43)
    (lens : List (Nat × Nat)) (hlens : C02.LensOK 4 lens)
    (hsyms : ∀ s, s ∈ lens.map (·.1) ↔ s ∈ S) :
    ∃ codes t, Huff.craftWmCodes 4 lens (Utils.asUsize (Spec.maxNat S)) = .ok codes ∧
      C02.WMValid 4 codes (lens.map (·.1)) ∧
      Huff.new c S.toArray lens = .ok t ∧
      (∀ i, Huff.get c t i = .ok S[i]?) ∧
      (∀ sym i, Huff.rank c t sym i =
        .ok (if sym ∈ S ∧ i ≤ S.length then some (Spec.rank sym i S) else none)) ∧
      (∀ sym k, Huff.select c t sym k = .ok (if sym ∈ S then Spec.select sym k S else none)) ∧
      (∀ p ∈ lens, codes[p.1]!.len = 2 * p.2) ∧
      2 * t.lens.toList.sum = (S.map (fun x => codes[x]!.len)).sum := by
  obtain ⟨codes, t, h1, h2, h3, _, h5, h6, h7, h8, h9⟩ :=
    C02.hqwt_correct c hW (levelLaw c.dbg hB) (Qwt.HQWM.pfsTotalH c) S hne hb hS lens hlens hsyms
  exact ⟨codes, t, h1, h2, h3, h5, h6, h7, h8, h9⟩

/-! ## C01 / C09: the plain quad tree on all four aliases (with and without prefetch support)

The statements of the C01 section without `c.pfs = false`, from the C09 layer. -/

section qwt_all
variable {c : Cfg} {S : List Nat} {t : QWTree.QWT}
  (hB : c.B = 256 ∨ c.B = 512) (hW : 0 < c.W)
  (hS : ∀ x ∈ S, x < 2 ^ c.W) (hlen : S.length < 2 ^ 43)
  (hnew : QWTree.new c S.toArray = .ok t)
include hB hW hS hlen hnew

theorem qwt_get_all (i : Nat) : QWTree.get c t i = .ok S[i]? :=
  C09.get_ok hB hW hS hlen hnew i

theorem qwt_rank_all (sym i : Nat) : QWTree.rank c t sym i =
    .ok (if S ≠ [] ∧ sym ≤ Spec.maxNat S ∧ i ≤ S.length then some (Spec.rank sym i S) else none) :=
  C09.rank_ok hB hW hS hlen hnew sym i

theorem qwt_select_all (sym k : Nat) : QWTree.select c t sym k =
    .ok (if S ≠ [] ∧ sym ≤ Spec.maxNat S then Spec.select sym k S else none) :=
  C09.select_ok hB hW hS hlen hnew sym k

theorem qwt_rankPrefetch_all (sym i : Nat) :
    QWTree.rankPrefetch c t sym i = QWTree.rank c t sym i :=
  C09.rankPrefetch_eq_rank hB hW hS hlen hnew sym i

end qwt_all

end Qwt.Props.Closed
