import Qwt.Proofs.CraftMain
import Qwt.Proofs.CraftDecode

/-!
C02 — correctness of `craft_wm_codes` (`Qwt.Huff.craftWmCodes`), the prefix-code construction
of the Huffman-shaped wavelet matrices.

The theorems quantify over EVERY input list `lens` (every `HashMap` iteration order, hence
every tie order of the stable sort).  `D = 4` is the quad routine (`huffqwt.rs`), `D = 2` the
binary one (`binwt/mod.rs`).
-/
namespace Qwt.Props.C02
open Qwt Qwt.Huff Qwt.Proofs.Craft

/-- binary, lengths `1,2,…,33,33` (a caterpillar of depth 33): `1 << 32` on `u32` -/
theorem craft_overflow_witness :
    craftWmCodes 2 (((List.range 33).map fun i => (i, i + 1)) ++ [(33, 33)]) 33
      = .error .overflow := by decide +kernel

theorem ok_of_toBool {α} {x : M α} (h : x.toBool = true) : ∃ a, x = .ok a := by
  cases x with
  | ok a => exact ⟨a, rfl⟩
  | error e => simp [Except.toBool] at h

/-- the same profile one level shallower (depth 32) is still fine -/
theorem craft_depth32_ok :
    ∃ codes, craftWmCodes 2 (((List.range 32).map fun i => (i, i + 1)) ++ [(32, 32)]) 32
      = .ok codes := ok_of_toBool (by decide +kernel)

/-- quad, the 52-symbol caterpillar of depth 17 (three leaves per level, four at the bottom):
    the confirmed `HQWT` defect (code longer than 32 bits) -/
theorem craft_overflow_witness_quad :
    craftWmCodes 4 (((List.range 48).map fun i => (i, i / 3 + 1)) ++
        [(48, 17), (49, 17), (50, 17), (51, 17)]) 51 = .error .overflow := by decide +kernel

/-- the binary routine (`alph + 1` slots) on a one-symbol alphabet -/
theorem craft_binary_one_symbol :
    craftWmCodes 2 [(5, 1)] 5 = .ok #[{}, {}, {}, {}, {}, ⟨1, 1⟩] := by decide +kernel

/-- `craftWmCodes` with the scratch-array size as a parameter -/
def craftWmCodesSlots (D : Nat) (lens : List (Nat × Nat)) (sigma slots : Nat) :
    M (Array PrefixCode) := do
  let alph := lens.length
  let bitsPer := if D == 4 then 2 else 1
  let f := sortByKey (fun x => x.2) (lens.map (fun x => (x.1, x.2 * bitsPer)))
  let init : CraftSt := { c := Array.replicate slots 0, assignments := Array.replicate (sigma + 1) {} }
  let st ← (List.range alph).foldlM (fun (st : CraftSt) j => do
      let (sym, tlen) := f.getD j (0, 0)
      let st ← grow D j tlen (tlen + 1) st
      let cj ← idx st.c j
      let rev ← reverseCode D cj st.l
      if sym ≥ st.assignments.size then throw Fault.indexPanic
      pure { st with assignments := st.assignments.set! sym { content := rev, len := st.l } }) init
  return st.assignments

theorem craftWmCodesSlots_eq (D : Nat) (lens : List (Nat × Nat)) (sigma : Nat) :
    craftWmCodesSlots D lens sigma (if D == 4 then lens.length * 4 else lens.length + 1)
      = craftWmCodes D lens sigma := rfl

/-- with `alph` slots the binary routine index-panics on a one-symbol alphabet -/
theorem craft_binary_one_symbol_unrepaired :
    craftWmCodesSlots 2 [(5, 1)] 5 1 = .error .indexPanic := by decide +kernel

theorem sorted_index {D : Nat} {lens : List (Nat × Nat)} {sigma slack : Nat} {p : Nat × Nat}
    (hp : p ∈ lens) : ∃ i, i < (mkCtx D lens sigma slack).f.length ∧
      (mkCtx D lens sigma slack).sy i = p.1 ∧ (mkCtx D lens sigma slack).tl i = p.2 * bitsOf D := by
  obtain ⟨i, hi, he⟩ := List.mem_iff_getElem.mp (mem_sortedLens.mpr ⟨p, hp, rfl⟩)
  have he : (mkCtx D lens sigma slack).f[i] = (p.1, p.2 * bitsOf D) := he
  exact ⟨i, hi, by rw [Ctx.sy_eq _ hi, he], by rw [Ctx.tl_eq _ hi, he]⟩

theorem occ_iff {D : Nat} {lens : List (Nat × Nat)} {sigma slack : Nat} (s : Nat) :
    s ∈ lens.map (·.1) ↔ ∃ i, i < (mkCtx D lens sigma slack).f.length ∧
      (mkCtx D lens sigma slack).sy i = s := by
  constructor
  · intro hs
    obtain ⟨p, hp, rfl⟩ := List.mem_map.mp hs
    obtain ⟨i, hi, h1, _⟩ := sorted_index (D := D) (sigma := sigma) (slack := slack) hp
    exact ⟨i, hi, h1⟩
  · rintro ⟨i, hi, rfl⟩
    obtain ⟨x, hx, h1, _⟩ := mkCtx_get hi
    exact List.mem_map.mpr ⟨x, hx, h1.symm⟩

theorem craft_no_fault_adm {D : Nat} (hD : D = 4 ∨ D = 2) {lens : List (Nat × Nat)} {sigma slack : Nat}
    (h : LensAdm D lens slack) (hs : ∀ p ∈ lens, p.1 ≤ sigma) :
    ∃ codes, craftWmCodes D lens sigma = .ok codes := by
  obtain ⟨codes, h1, _⟩ := craft_core hD h hs
  exact ⟨codes, h1⟩

theorem craft_lens_adm {D : Nat} (hD : D = 4 ∨ D = 2) {lens : List (Nat × Nat)} {sigma slack : Nat}
    (h : LensAdm D lens slack) (hs : ∀ p ∈ lens, p.1 ≤ sigma) {codes : Array PrefixCode}
    (hc : craftWmCodes D lens sigma = .ok codes) :
    codes.size = sigma + 1 ∧ (∀ p ∈ lens, codes[p.1]!.len = bitsOf D * p.2) ∧
    (∀ s : Nat, s ∉ lens.map (·.1) → codes[s]! = {}) := by
  obtain ⟨v, h2⟩ := of_exists_ok (craft_core hD h hs) hc
  have hX := mkCtx_ok hD h hs
  refine ⟨h2.size, ?_, ?_⟩
  · intro p hp
    obtain ⟨i, hi, e1, e2⟩ := sorted_index (D := D) (sigma := sigma) (slack := slack) hp
    have := (h2.code_at hX hi).1
    rw [e1, e2] at this
    rw [this, Nat.mul_comm]
  · intro s hs'
    rw [getElem!_eq_getD]
    exact h2.other s (fun i hi e => hs' ((occ_iff s).mpr ⟨i, hi, e⟩))

theorem craft_valid_adm {D : Nat} (hD : D = 4 ∨ D = 2) {lens : List (Nat × Nat)} {sigma slack : Nat}
    (h : LensAdm D lens slack) (hs : ∀ p ∈ lens, p.1 ≤ sigma) {codes : Array PrefixCode}
    (hc : craftWmCodes D lens sigma = .ok codes) :
    WMValid D codes (lens.map (·.1)) := by
  obtain ⟨v, h2⟩ := of_exists_ok (craft_core hD h hs) hc
  have hX := mkCtx_ok hD h hs
  refine wmvalid_of_crafted hX ?_ h2 _ occ_iff
  intro i hi
  obtain ⟨x, hx, _, he⟩ := mkCtx_get hi
  rw [he]
  exact Nat.mul_pos (h.pos x hx) hX.b_pos

/-- `craft_wm_codes` never faults on near-complete lengths of at most 32 bits, when the caller's
    `sigma` bounds every symbol -/
theorem craft_no_fault {D : Nat} (hD : D = 4 ∨ D = 2) {lens : List (Nat × Nat)} {sigma : Nat}
    (h : LensOK D lens) (hs : ∀ p ∈ lens, p.1 ≤ sigma) :
    ∃ codes, craftWmCodes D lens sigma = .ok codes :=
  craft_no_fault_adm hD (h.adm hD) hs

/-- the loop expression in the statement of `craft_accounting` is the loop of `craftWmCodes` -/
theorem craftWmCodes_unfold (D : Nat) (lens : List (Nat × Nat)) (sigma : Nat) :
    craftWmCodes D lens sigma =
      (do let st ← (List.range lens.length).foldlM (craftStep D (sortedLens D lens))
            { c := Array.replicate (slotsOf D lens.length) 0,
              assignments := Array.replicate (sigma + 1) {} }
          pure st.assignments) := rfl

/-- Sharp accounting after `n` symbols, in the names of the Rust code (`f` sorted, lengths in bits,
    `T` the maximal one, `l` the current depth, `c[n..m)` the free nodes): the free nodes and the
    assigned symbols together make a complete Kraft sum, so at most `alph + (D − 1)` nodes are ever
    alive, which is what the scratch array must hold. -/
theorem craft_accounting {D : Nat} (hD : D = 4 ∨ D = 2) {lens : List (Nat × Nat)} {sigma : Nat}
    (h : LensOK D lens) (hs : ∀ p ∈ lens, p.1 ≤ sigma) (n : Nat) (hn : n ≤ lens.length) :
    ∃ st, (List.range n).foldlM (craftStep D (sortedLens D lens))
        { c := Array.replicate (slotsOf D lens.length) 0,
          assignments := Array.replicate (sigma + 1) {} } = .ok st ∧
      n ≤ st.m ∧ st.m ≤ lens.length + (D - 1) ∧ st.c.size = slotsOf D lens.length ∧
      (lens ≠ [] → st.m ≤ st.c.size) ∧
      (st.m - n) * 2 ^ (lmax lens * bitsOf D - st.l) + ksum (lmax lens * bitsOf D) ((sortedLens D lens).take n)
        = 2 ^ (lmax lens * bitsOf D) ∧
      (∀ i, n ≤ i → i < lens.length → st.l ≤ ((sortedLens D lens).getD i (0, 0)).2) ∧
      (∀ i, n ≤ i → i < st.m → st.c.getD i 0 < 2 ^ st.l) ∧
      (∀ i i', n ≤ i → i < i' → i' < st.m → st.c.getD i' 0 < st.c.getD i 0) := by
  have hadm := h.adm hD
  have hX := mkCtx_ok hD hadm hs
  have hlen : (mkCtx D lens sigma (D - 1)).f.length = lens.length := sortedLens_length D lens
  obtain ⟨st, h1, h2⟩ := craft_loop_inv hX n (by rw [hlen]; exact hn)
  refine ⟨st, h1, h2.jm, hlen ▸ h2.mle, h2.csize, ?_, h2.count, ?_, h2.free_lt, h2.free_decr⟩
  · intro hne
    have := hadm.fits hne
    have hm : st.m ≤ lens.length + (D - 1) := hlen ▸ h2.mle
    rw [h2.csize]
    show st.m ≤ slotsOf D lens.length
    omega
  · intro i h3 h4
    exact h2.l_le i h3 (hlen ▸ h4)

theorem craft_lens {D : Nat} (hD : D = 4 ∨ D = 2) {lens : List (Nat × Nat)} {sigma : Nat}
    (h : LensOK D lens) (hs : ∀ p ∈ lens, p.1 ≤ sigma) {codes : Array PrefixCode}
    (hc : craftWmCodes D lens sigma = .ok codes) :
    codes.size = sigma + 1 ∧ (∀ p ∈ lens, codes[p.1]!.len = bitsOf D * p.2) ∧
    (∀ s : Nat, s ∉ lens.map (·.1) → codes[s]! = {}) :=
  craft_lens_adm hD (h.adm hD) hs hc

theorem craft_valid {D : Nat} (hD : D = 4 ∨ D = 2) {lens : List (Nat × Nat)} {sigma : Nat}
    (h : LensOK D lens) (hs : ∀ p ∈ lens, p.1 ≤ sigma) {codes : Array PrefixCode}
    (hc : craftWmCodes D lens sigma = .ok codes) :
    WMValid D codes (lens.map (·.1)) :=
  craft_valid_adm hD (h.adm hD) hs hc

theorem craft_ok_valid {D : Nat} (hD : D = 4 ∨ D = 2) {lens : List (Nat × Nat)} {sigma : Nat}
    (h : LensOK D lens) (hs : ∀ p ∈ lens, p.1 ≤ sigma) :
    ∃ codes, craftWmCodes D lens sigma = .ok codes ∧ WMValid D codes (lens.map (·.1)) := by
  obtain ⟨codes, hc⟩ := craft_no_fault hD h hs
  exact ⟨codes, hc, craft_valid hD h hs hc⟩

/-- exact lookup: the table of length `len` maps `content` to `sym` iff that is `sym`'s code -/
theorem decode_tables_ok {D : Nat} {codes : Array PrefixCode} {occ : List Nat} {maxLen : Nat}
    (hv : WMValid D codes occ) (hmax : ∀ s : Nat, codes[s]!.len ≤ maxLen) (len content sym : Nat) :
    tableFind ((decodeTables codes maxLen)[len]!) content = some sym ↔
      codes[sym]! = ⟨content, len⟩ ∧ len ≠ 0 :=
  decode_tables_find (wmvalid_inj hv) hmax len content sym

/-- with `max_len` as `HuffQWaveletTree::new` computes it -/
theorem decode_tables_ok_new {D : Nat} {codes : Array PrefixCode} {occ : List Nat}
    (hv : WMValid D codes occ) (len content sym : Nat) :
    tableFind ((decodeTables codes (codes.foldl (fun m x => max m x.len) 0))[len]!) content = some sym ↔
      codes[sym]! = ⟨content, len⟩ ∧ len ≠ 0 :=
  decode_tables_ok hv (len_le_maxLen codes) len content sym

/-- an incomplete quad tree (alphabet size 6 ≢ 1 mod 3): lengths 1,1,1,2,2,2 -/
example : LensOK 4 [(0,1),(1,2),(2,1),(3,2),(4,2),(5,1)] :=
  ⟨by decide +kernel, by decide +kernel, by decide +kernel, by decide +kernel, by decide +kernel⟩

example : craftWmCodes 4 [(0,1),(1,2),(2,1),(3,2),(4,2),(5,1)] 5
    = .ok #[⟨3,2⟩, ⟨3,4⟩, ⟨2,2⟩, ⟨2,4⟩, ⟨1,4⟩, ⟨1,2⟩] := by decide +kernel

/-- lengths 1,1,2,2,2,2 are NOT near-complete (Kraft deficit 4 > 3: not a quad Huffman
    profile), the routine nevertheless succeeds; such inputs are covered by the slack
    versions of the theorems above (`LensAdm`) -/
example : ¬ LensOK 4 [(0,1),(1,1),(2,2),(3,2),(4,2),(5,2)] :=
  fun h => absurd h.near (by decide +kernel)

example : craftWmCodes 4 [(0,1),(1,1),(2,2),(3,2),(4,2),(5,2)] 5
    = .ok #[⟨3,2⟩, ⟨2,2⟩, ⟨7,4⟩, ⟨3,4⟩, ⟨6,4⟩, ⟨2,4⟩] := by decide +kernel

example : craftWmCodes 4 [(0,1),(1,1),(2,2),(3,2)] 3
    = .ok #[⟨3,2⟩, ⟨2,2⟩, ⟨7,4⟩, ⟨3,4⟩] := by decide +kernel

/-- five symbols (5 ≢ 1 mod 3) -/
example : LensOK 4 [(0,1),(1,1),(2,2),(3,2),(4,1)] :=
  ⟨by decide +kernel, by decide +kernel, by decide +kernel, by decide +kernel, by decide +kernel⟩

example : LensOK 2 [(7,2),(1,1),(4,2)] :=
  ⟨by decide +kernel, by decide +kernel, by decide +kernel, by decide +kernel, by decide +kernel⟩

/-- the non-Huffman profile 1,1,2,2,2,2 is admissible with slack 4 -/
example : LensAdm 4 [(0,1),(1,1),(2,2),(3,2),(4,2),(5,2)] 4 :=
  ⟨by decide +kernel, by decide +kernel, by decide +kernel, by decide +kernel, by decide +kernel,
    by decide +kernel⟩

example : LensAdm 4 [(0,1),(1,1),(2,2),(3,2)] 6 :=
  ⟨by decide +kernel, by decide +kernel, by decide +kernel, by decide +kernel, by decide +kernel,
    by decide +kernel⟩

example : LensOK 2 [(5,1)] :=
  ⟨by decide +kernel, by decide +kernel, by decide +kernel, by decide +kernel, by decide +kernel⟩

example : LensOK 4 [(5,1)] :=
  ⟨by decide +kernel, by decide +kernel, by decide +kernel, by decide +kernel, by decide +kernel⟩

example : WMValid 4 #[⟨3,2⟩, ⟨3,4⟩, ⟨2,2⟩, ⟨2,4⟩, ⟨1,4⟩, ⟨1,2⟩] [0, 1, 2, 3, 4, 5] :=
  craft_valid (lens := [(0,1),(1,2),(2,1),(3,2),(4,2),(5,1)]) (sigma := 5) (Or.inl rfl)
    ⟨by decide +kernel, by decide +kernel, by decide +kernel, by decide +kernel, by decide +kernel⟩
    (by decide +kernel) (by decide +kernel)

/-- `digits` / `revLex` on that table: symbol 1 has code `03`, symbol 0 has code `3` -/
example : digits 4 ⟨3, 4⟩ = [0, 3] ∧ digits 4 ⟨3, 2⟩ = [3] ∧ revLex 4 [0, 3] = 12 := by
  decide +kernel

end Qwt.Props.C02
