import Qwt.Proofs.Word

/-!
# C17 — the word-level utilities of `src/utils/mod.rs`

Every theorem is about the executable model (`Qwt.Utils.*`, `Qwt.popc`) and the extracted
constants (`Qwt.Extracted.*`), stated against the list specification `Qwt.Spec`.
-/
namespace Qwt.Props.C17
open Qwt Qwt.Proofs.Word

theorem getD_eq_match (o : Option Nat) (d : Nat) :
    o.getD d = (match o with | some p => p | none => d) := by
  cases o <;> rfl

/-- entry `k*256+b` of `kSelectInByte` is the position of the `(k+1)`-th one of byte `b`
    (8 when there is none) -/
theorem table_ok : ∀ k, k < 8 → ∀ b, b < 256 →
    Extracted.kSelectInByte[k * 256 + b]! =
      (match Spec.select true k (Spec.bitsOf b 8) with | some p => p | none => 8) := by
  intro k hk b hb
  obtain ⟨hi, hv⟩ := Array.getElem?_eq_some_iff.1 (table_get k b hk hb)
  rw [getElem!_pos Extracted.kSelectInByte _ hi, hv, getD_eq_match]

example : Extracted.kSelectInByte[2 * 256 + 0b10110100]! = 5 := by
  have h := table_ok 2 (by decide) 0b10110100 (by decide)
  exact h

theorem select_in_word_ok (w k : Nat) (hw : w < 2 ^ 64) (hk : k < 128) :
    Utils.selectInWord w k =
      .ok (match Spec.select true k (Spec.bitsOf w 64) with | some p => p | none => 64) :=
  (selectInWord_ok w k hw hk).trans (congrArg Except.ok (getD_eq_match _ _))

example : Utils.selectInWord 0xF0F0F0F0F0F0F0F0 9 = .ok 21 := by
  have h := select_in_word_ok 0xF0F0F0F0F0F0F0F0 9 (by decide) (by decide)
  rw [h]; exact congrArg Except.ok (by decide +kernel)

example : Utils.selectInWord 0xFF 8 = .ok 64 := by
  have h := select_in_word_ok 0xFF 8 (by decide) (by decide)
  rw [h]; exact congrArg Except.ok (by decide +kernel)

theorem select_in_word_u128_ok (w k : Nat) (hw : w < 2 ^ 128) (hk : k < 128) :
    Utils.selectInWordU128 w k =
      .ok (match Spec.select true k (Spec.bitsOf w 128) with | some p => p | none => 128) :=
  (selectInWordU128_ok w k hw hk).trans (congrArg Except.ok (getD_eq_match _ _))

example : Utils.selectInWordU128 (2 ^ 100 + 2 ^ 70 + 5) 3 = .ok 100 := by
  have h := select_in_word_u128_ok (2 ^ 100 + 2 ^ 70 + 5) 3 (by decide) (by decide)
  rw [h]; exact congrArg Except.ok (by decide +kernel)

theorem popc_eq_spec (w : Nat) : Qwt.popc w = Spec.popc w := Qwt.Proofs.Word.popc_eq_spec w

theorem popc_eq_count (n w : Nat) (hw : w < 2 ^ n) :
    Spec.popc w = (Spec.bitsOf w n).count true :=
  (Qwt.Proofs.Word.popc_eq_spec w).symm.trans (Qwt.Proofs.Word.popc_eq_count n w hw)

theorem popcnt_wide_ok (n : Nat) (data : Array Nat) :
    Utils.popcntWide n data = ((data.toList.take n).map Spec.popc).sum := by
  unfold Utils.popcntWide
  rw [foldl_add_popc]; omega

/-- `popcnt_wide` counts the set bits of the first `n` words (each a `W`-bit word) -/
theorem popcnt_wide_count (n W : Nat) (data : Array Nat) (hd : ∀ w ∈ data.toList, w < 2 ^ W) :
    Utils.popcntWide n data =
      ((data.toList.take n).map (fun w => (Spec.bitsOf w W).count true)).sum := by
  rw [popcnt_wide_ok]
  congr 1
  apply List.map_congr_left
  intro w hw
  exact popc_eq_count W w (hd w (List.mem_of_mem_take hw))

example : Utils.popcntWide 2 #[0xFF, 0x101, 0xFFFF] = 10 := by
  rw [popcnt_wide_count 2 16 _ (by decide)]; decide +kernel

theorem msb_ok (W v : Nat) (hW : 0 < W) (hv : v < 2 ^ W) : Utils.msb W v = .ok (Nat.log2 v) :=
  Qwt.Proofs.Word.msb_ok W v hW hv

example : Utils.msb 64 0x12345 = .ok 16 := by
  rw [msb_ok 64 0x12345 (by decide) (by decide)]; exact congrArg Except.ok (by decide)
example : Utils.msb 8 0 = .ok 0 := by
  rw [msb_ok 8 0 (by decide) (by decide)]; exact congrArg Except.ok (by decide)

theorem part4_ok (W shift : Nat) (seq : Array Nat) (hs : shift < W) :
    Utils.stablePartitionOf4 W seq shift =
      .ok (Spec.stablePart (fun x => (x >>> shift) % 4) 4 seq.toList).toArray :=
  stablePartitionOf4_eq W shift seq hs

theorem part2_ok (W shift : Nat) (seq : Array Nat) (hs : shift < W) :
    Utils.stablePartitionOf2 W seq shift =
      .ok (Spec.stablePart (fun x => (x >>> shift) % 2) 2 seq.toList).toArray :=
  stablePartitionOf2_eq W shift seq hs

/-- shifting by the full width (or more) is a fault, as soon as there is an element -/
theorem part4_fault (W shift : Nat) (seq : Array Nat) (hs : W ≤ shift) (hn : 0 < seq.size) :
    Utils.stablePartitionOf4 W seq shift = .error .overflow := by
  unfold Utils.stablePartitionOf4
  rw [if_pos ⟨hs, hn⟩]

theorem part2_fault (W shift : Nat) (seq : Array Nat) (hs : W ≤ shift) (hn : 0 < seq.size) :
    Utils.stablePartitionOf2 W seq shift = .error .overflow := by
  unfold Utils.stablePartitionOf2
  rw [if_pos ⟨hs, hn⟩]

/-- the result is a permutation of the input -/
theorem part4_perm (W shift : Nat) (seq r : Array Nat) (hs : shift < W)
    (h : Utils.stablePartitionOf4 W seq shift = .ok r) : r.toList.Perm seq.toList := by
  rw [part4_ok W shift seq hs] at h
  injection h with h
  subst h
  exact stablePart_perm _ 4 _ (fun x _ => Nat.mod_lt _ (by decide))

theorem part2_perm (W shift : Nat) (seq r : Array Nat) (hs : shift < W)
    (h : Utils.stablePartitionOf2 W seq shift = .ok r) : r.toList.Perm seq.toList := by
  rw [part2_ok W shift seq hs] at h
  injection h with h
  subst h
  exact stablePart_perm _ 2 _ (fun x _ => Nat.mod_lt _ (by decide))

/-- every group keeps the relative order it had in the input -/
theorem part4_stable (W shift : Nat) (seq r : Array Nat) (hs : shift < W)
    (h : Utils.stablePartitionOf4 W seq shift = .ok r) (d : Nat) :
    r.toList.filter (fun x => (x >>> shift) % 4 == d) =
      seq.toList.filter (fun x => (x >>> shift) % 4 == d) := by
  rw [part4_ok W shift seq hs] at h
  injection h with h
  subst h
  exact stablePart_filter_all _ 4 _ (fun x _ => Nat.mod_lt _ (by decide)) d

theorem part2_stable (W shift : Nat) (seq r : Array Nat) (hs : shift < W)
    (h : Utils.stablePartitionOf2 W seq shift = .ok r) (d : Nat) :
    r.toList.filter (fun x => (x >>> shift) % 2 == d) =
      seq.toList.filter (fun x => (x >>> shift) % 2 == d) := by
  rw [part2_ok W shift seq hs] at h
  injection h with h
  subst h
  exact stablePart_filter_all _ 2 _ (fun x _ => Nat.mod_lt _ (by decide)) d

/-- the groups come in increasing order of the key -/
theorem part4_groups (W shift : Nat) (seq : Array Nat) (hs : shift < W) :
    Utils.stablePartitionOf4 W seq shift = .ok
      (seq.toList.filter (fun x => (x >>> shift) % 4 == 0) ++
       seq.toList.filter (fun x => (x >>> shift) % 4 == 1) ++
       seq.toList.filter (fun x => (x >>> shift) % 4 == 2) ++
       seq.toList.filter (fun x => (x >>> shift) % 4 == 3)).toArray := by
  rw [part4_ok W shift seq hs, stablePart4]

example : Utils.stablePartitionOf4 8 #[0x1F, 0x05, 0x3A, 0x04, 0x2B, 0x10] 2 =
    .ok #[0x10, 0x05, 0x04, 0x3A, 0x2B, 0x1F] := by
  rw [part4_ok 8 2 _ (by decide)]; exact congrArg Except.ok (by decide +kernel)

example : Utils.stablePartitionOf2 8 #[7, 2, 5, 8, 1] 0 = .ok #[2, 8, 7, 5, 1] := by
  rw [part2_ok 8 0 _ (by decide)]; exact congrArg Except.ok (by decide +kernel)

example : Utils.stablePartitionOf4 8 #[1] 8 = .error .overflow :=
  part4_fault 8 8 #[1] (by decide) (by decide)

/-- `text_remap` against any duplicate-free enumeration `d` of the values of the input:
    the alphabet size is the number of distinct values and every symbol is replaced by the
    number of distinct values smaller than it. -/
theorem text_remap_ok (input : Array Nat) (d : List Nat) (hd : d.Nodup)
    (hm : ∀ x, x ∈ d ↔ x ∈ input.toList) :
    (Utils.textRemap input).2 = d.length ∧
    (Utils.textRemap input).1 = input.map (fun c => (d.filter (· < c)).length) := by
  have hp : (uniqOf input.toList).Perm d :=
    (List.perm_ext_iff_of_nodup (uniqOf_nodup _) hd).2 fun x => by rw [hm, mem_uniqOf]
  rw [textRemap_eq]
  refine ⟨hp.length_eq, ?_⟩
  simp only
  congr 1
  funext c
  exact (hp.filter _).length_eq

/-- the same with the canonical enumeration `eraseDups` -/
theorem text_remap_eraseDups (input : Array Nat) :
    (Utils.textRemap input).2 = input.toList.eraseDups.length ∧
    (Utils.textRemap input).1 =
      input.map (fun c => (input.toList.eraseDups.filter (· < c)).length) :=
  text_remap_ok input _ (nodup_eraseDups _) (fun _ => List.mem_eraseDups)

theorem text_remap_size (input : Array Nat) : (Utils.textRemap input).1.size = input.size := by
  rw [textRemap_eq]; simp

/-- the remapping preserves the order of the symbols (hence also equality) -/
theorem text_remap_order (input : Array Nat) (i j : Nat) (hi : i < input.size)
    (hj : j < input.size) :
    (input[i] < input[j] ↔
      (Utils.textRemap input).1[i]'(by rw [text_remap_size]; exact hi) <
        (Utils.textRemap input).1[j]'(by rw [text_remap_size]; exact hj)) := by
  have hmi : input[i] ∈ uniqOf input.toList := by rw [mem_uniqOf]; simp
  have hmj : input[j] ∈ uniqOf input.toList := by rw [mem_uniqOf]; simp
  simp only [textRemap_eq, Array.getElem_map]
  constructor
  · exact length_filter_lt_mono _ _ _ hmi
  · intro h
    by_cases hlt : input[i] < input[j]
    · exact hlt
    · exfalso
      by_cases he : input[i] = input[j]
      · rw [he] at h; omega
      · have := length_filter_lt_mono (uniqOf input.toList) _ _ hmj (by omega : input[j] < input[i])
        omega

/-- the image of the remapping is exactly `0 .. alphabet size` -/
theorem text_remap_image (input : Array Nat) (v : Nat) :
    v ∈ (Utils.textRemap input).1.toList ↔ v < (Utils.textRemap input).2 := by
  simp only [textRemap_eq, Array.toList_map, List.mem_map]
  constructor
  · rintro ⟨c, hc, rfl⟩
    exact length_filter_lt_lt_length _ c ((mem_uniqOf _ _).2 hc)
  · intro hv
    refine ⟨(uniqOf input.toList)[v], ?_, length_filter_lt_getElem _ (uniqOf_sorted _) v hv⟩
    rw [← mem_uniqOf]
    exact List.getElem_mem hv

example : Utils.textRemap #[30, 10, 30, 99, 10, 42] = (#[1, 0, 1, 3, 0, 2], 4) := by decide +kernel

example : (Utils.textRemap #[30, 10, 30, 99, 10, 42]).1 =
    #[30, 10, 30, 99, 10, 42].map (fun c => ([30, 10, 99, 42].filter (· < c)).length) :=
  (text_remap_ok #[30, 10, 30, 99, 10, 42] [30, 10, 99, 42] (by decide) fun x => by
    rw [← (by decide +kernel : #[30, 10, 30, 99, 10, 42].toList.eraseDups = [30, 10, 99, 42]),
      List.mem_eraseDups]).2

example : (Utils.textRemap #[30, 10, 30, 99, 10, 42]).2 = 4 := by
  rw [(text_remap_eraseDups _).1]; decide +kernel

example : 2 ∈ (Utils.textRemap #[30, 10, 30, 99, 10, 42]).1.toList :=
  (text_remap_image _ 2).2 (by decide +kernel)

example (h0 h3) : (Utils.textRemap #[30, 10, 30, 99, 10, 42]).1[0]'h0 <
    (Utils.textRemap #[30, 10, 30, 99, 10, 42]).1[3]'h3 :=
  (text_remap_order #[30, 10, 30, 99, 10, 42] 0 3 (by decide) (by decide)).1 (by decide +kernel)

end Qwt.Props.C17
