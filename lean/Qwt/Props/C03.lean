import Qwt.Proofs.Basic
import Qwt.Proofs.BinWMNew
import Qwt.Proofs.BinHWMInv

/-!
# C03 — the binary wavelet trees `WT` (`compressed = false`) and `HWT` (`compressed = true`)

## The plain variant

`BinWT.new` succeeds on every sequence of `W`-bit values shorter than `2^43` and the tree it
returns answers `get` / `rank` / `select` exactly like the list specifications
`S[i]?`, `Spec.rank`, `Spec.select`; a symbol outside the alphabet (`> max S`) is never
confused with another one; on the empty sequence every query is `.ok none`.

All theorems are under the hypothesis `BinLevelLaw` ("the level constructor `RSW.mkLevel`
yields a rank/select structure representing its bits", discharged by C06/C08) and go through
the representation invariant `BinWM.WMb c S t`, which `wt_new_ok` establishes for the tree
built by `BinWT.new`.

Proof structure (`Qwt/Proofs/BinWM*.lean`, `BinHWM*.lean`): one list-level theory serves both
variants, the plain matrix being the Huffman-shaped one whose codes all have `nLevels` bits
(`BinWM.hok_const`): block invariant and walks (`blkH`, `walkPos_eq`, `selUp_spec`,
`track_get`), simulation of the model loops (`rankWalk_ok`, `selectDown_ok`, `selectUp_ok`,
`go_ok`), construction (`levels_loop`, `new_ok`).

## The Huffman-shaped variant

Section `huffman` below: under the explicit hypothesis that the code table returned by
`craftWmCodes` is valid (`C02.WMValid 2 codes occ`, with `occ` listing exactly the symbols of
`S`; definition shared with C02, `Qwt/Proofs/CraftDefs.lean`) and `W ≤ 64`, `new` succeeds and
`get` / `rank` / `select` agree with the list specification, with `none` for every symbol
without a code (= not occurring in `S`).  Besides the shared theory: `hok_of_valid`
(WMValid ⇒ HOK via sortedness of every level under the bit-reversed prefix), decode tables
(`decOK_of_valid`), construction (`levelStepH_ok`, `new_okH`).
-/
namespace Qwt.Props.C03
open Qwt Qwt.BinWT Qwt.BinWM

/-! ## construction -/

/-- `new` succeeds and establishes the invariant; size, alphabet bound and number of levels
    are the specified ones -/
theorem wt_new_ok (c : Cfg) (hW : 0 < c.W) (hL : BinLevelLaw) (S : List Nat)
    (hb : ∀ x ∈ S, x < 2 ^ c.W) (hS : S.length < 2 ^ 43) :
    ∃ t, BinWT.new c false S.toArray [] = .ok t ∧ WMb c S t ∧ t.n = S.length ∧
      (S ≠ [] → t.sigma = some (Spec.maxNat S) ∧ t.nLevels = Spec.bitlen (Spec.maxNat S)) := by
  obtain ⟨t, h1, h2⟩ := new_ok c hW hL S hb hS
  exact ⟨t, h1, h2, h2.n_eq, fun hne => ⟨h2.sigma_eq hne, h2.nLevels_eq hne⟩⟩

/-- the invariant holds for *the* tree returned by `new` -/
theorem wt_inv (c : Cfg) (hW : 0 < c.W) (hL : BinLevelLaw) (S : List Nat)
    (hb : ∀ x ∈ S, x < 2 ^ c.W) (hS : S.length < 2 ^ 43) {t : WT}
    (ht : BinWT.new c false S.toArray [] = .ok t) : WMb c S t :=
  of_exists_ok (new_ok c hW hL S hb hS) ht

/-! ## queries, from the invariant -/

section inv
variable {c : Cfg} {S : List Nat} {t : WT}

theorem lt_pow_levels (h : WMb c S t) (hne : S ≠ []) {x : Nat} (hx : x ≤ Spec.maxNat S) :
    x < 2 ^ t.nLevels := by
  rw [h.nLevels_eq hne]
  exact Nat.lt_of_le_of_lt hx (lt_two_pow_bitlen _)

theorem mem_lt_pow_levels (h : WMb c S t) {x : Nat} (hx : x ∈ S) : x < 2 ^ t.nLevels :=
  lt_pow_levels h (List.ne_nil_of_mem hx) (Spec.le_maxNat hx)

theorem empty_sigma (h : WMb c S t) (he : S = []) : t.sigma = none ∧ t.n = 0 := by
  rw [h.empty he]; exact ⟨rfl, rfl⟩

theorem levels_pos (h : WMb c S t) (hne : S ≠ []) : 0 < t.nLevels := by
  rw [h.nLevels_eq hne]; exact Nat.succ_pos _

/-- the plain matrix is the matrix whose codes are the `nLevels` bits of the values -/
theorem hok_levels (h : WMb c S t) (hne : S ≠ []) :
    HOK (bitAt t.nLevels) (fun _ => t.nLevels) S :=
  hok_const (levels_pos h hne) (fun _ hx _ hy hb =>
    eq_of_bitAt (mem_lt_pow_levels h hx) (mem_lt_pow_levels h hy) hb)

/-! ### get -/

theorem inv_getUnchecked (h : WMb c S t) (i : Nat) (hi : i < S.length) :
    BinWT.getUnchecked c false t i = .ok S[i] := by
  have hne : S ≠ [] := by intro e; rw [e] at hi; simp at hi
  have hmem : S[i] ∈ S := List.getElem_mem hi
  exact getUnchecked_ok c (hok_levels h hne) (h.levels hne) rfl S[i] i
    (List.getElem?_eq_getElem hi) (h.bound _ hmem) (mem_lt_pow_levels h hmem)

theorem inv_get (h : WMb c S t) (i : Nat) : BinWT.get c false t i = .ok S[i]? := by
  unfold BinWT.get
  rw [h.n_eq]
  by_cases hi : i < S.length
  · rw [if_neg (Nat.not_le.mpr hi), inv_getUnchecked h i hi, List.getElem?_eq_getElem hi]; rfl
  · rw [if_pos (Nat.le_of_not_lt hi), List.getElem?_eq_none (Nat.le_of_not_lt hi)]; rfl

/-! ### rank -/

theorem agree_levels (h : WMb c S t) {sym : Nat} (hsym : sym < 2 ^ t.nLevels) :
    ∀ x ∈ S, agree (bitAt t.nLevels) sym t.nLevels x = (x == sym) :=
  fun _ hx => agree_eq_beq _ _ _ hsym (mem_lt_pow_levels h hx)

/-- any `sym` that fits in the `nLevels` bits is a key of the matrix, in `S` or not -/
theorem agR_levels (h : WMb c S t) {sym : Nat} (hsym : sym < 2 ^ t.nLevels) :
    ∀ x ∈ S, agR (bitAt t.nLevels) (fun _ => t.nLevels) sym t.nLevels x = (x == sym) := by
  intro x hx
  rw [agR, agree_levels h hsym x hx]
  simp

theorem reprOf_plain (h : WMb c S t) (sym : Nat) :
    reprOf false t sym =
      .ok (if S ≠ [] ∧ sym ≤ Spec.maxNat S then some (sym, t.nLevels) else none) := by
  unfold reprOf
  simp only [Bool.false_eq_true, if_false]
  by_cases hne : S ≠ []
  · by_cases hs : sym ≤ Spec.maxNat S
    · have hs' : ¬ sym > Spec.maxNat S := Nat.not_lt.mpr hs
      simp only [h.sigma_eq hne, if_neg hs', if_pos (And.intro hne hs)]
      rfl
    · have hs' : sym > Spec.maxNat S := Nat.lt_of_not_le hs
      simp only [h.sigma_eq hne, if_pos hs', if_neg (fun h' : S ≠ [] ∧ _ => hs h'.2)]
      rfl
  · simp only [(empty_sigma h (by simpa using hne)).1, if_neg (fun h' : S ≠ [] ∧ _ => hne h'.1)]
    rfl

theorem inv_rankWalk (h : WMb c S t) (hne : S ≠ []) {sym : Nat} (hsym : sym < 2 ^ t.nLevels)
    (i : Nat) (hi : i ≤ S.length) :
    ∃ p, rankWalk t sym t.nLevels t.nLevels 0 i 0 = .ok (p + Spec.rank sym i S, p) :=
  rankWalk_spec (len := fun _ => t.nLevels) (hok_levels h hne) (h.levels hne).reprH
    (Or.inr ⟨hne, fun _ _ => Nat.le_refl _⟩) (agR_levels h hsym)
    (Nat.le_of_eq (h.levels hne).size_eq.symm) (fun _ => rfl) i hi

/-- `rank_unchecked` for any symbol that fits in the `nLevels` bits of the tree -/
theorem inv_rankUnchecked (h : WMb c S t) (hne : S ≠ []) (sym i : Nat)
    (hsym : sym < 2 ^ Spec.bitlen (Spec.maxNat S)) (hi : i ≤ S.length) :
    BinWT.rankUnchecked c false t sym i = .ok (Spec.rank sym i S) := by
  rw [← h.nLevels_eq hne] at hsym
  obtain ⟨p, hp⟩ := inv_rankWalk h hne hsym i hi
  unfold BinWT.rankUnchecked
  simp only [Bool.false_eq_true, if_false, pure_bind', hp, ok_bind]
  rw [sub_ok (Nat.le_add_right _ _), Nat.add_sub_cancel_left]

theorem inv_rank (h : WMb c S t) (sym i : Nat) :
    BinWT.rank c false t sym i =
      .ok (if S ≠ [] ∧ sym ≤ Spec.maxNat S ∧ i ≤ S.length then some (Spec.rank sym i S)
           else none) := by
  rw [rank_of_walk c h.n_eq (reprOf_plain h sym)
    (fun hv i hi => inv_rankWalk h hv.1 (lt_pow_levels h hv.1 hv.2) i hi) i]
  simp only [and_assoc]

/-! ### select -/

theorem inv_select (h : WMb c S t) (sym k : Nat) :
    BinWT.select c false t sym k =
      .ok (if S ≠ [] ∧ sym ≤ Spec.maxNat S then Spec.select sym k S else none) :=
  select_of_walk c (reprOf_plain h sym) (fun hv k =>
    select_spec (len := fun _ => t.nLevels) (hok_levels h hv.1) (h.levels hv.1).reprH
      (Or.inr ⟨hv.1, fun _ _ => Nat.le_refl _⟩) (agR_levels h (lt_pow_levels h hv.1 hv.2))
      (Nat.le_of_eq (h.levels hv.1).size_eq.symm) (fun _ => rfl) (levels_pos h hv.1)
      (Nat.lt_trans h.len_lt (by decide)) k) k

end inv

/-! ## the theorems for the tree built by `new` -/

section main
variable (c : Cfg) (hW : 0 < c.W) (hL : BinLevelLaw) (S : List Nat)
  (hb : ∀ x ∈ S, x < 2 ^ c.W) (hS : S.length < 2 ^ 43) {t : WT}
  (ht : BinWT.new c false S.toArray [] = .ok t)
include hW hL hb hS ht

theorem wt_get_ok (i : Nat) : BinWT.get c false t i = .ok S[i]? :=
  inv_get (wt_inv c hW hL S hb hS ht) i

theorem wt_getUnchecked_ok (i : Nat) (hi : i < S.length) :
    BinWT.getUnchecked c false t i = .ok S[i] :=
  inv_getUnchecked (wt_inv c hW hL S hb hS ht) i hi

/-- `rank` answers `none` for every symbol above the largest one, of whatever size -/
theorem wt_rank_ok (sym i : Nat) :
    BinWT.rank c false t sym i =
      .ok (if S ≠ [] ∧ sym ≤ Spec.maxNat S ∧ i ≤ S.length then some (Spec.rank sym i S)
           else none) :=
  inv_rank (wt_inv c hW hL S hb hS ht) sym i

/-- `rank_unchecked` under its precondition (valid symbol, `i ≤ n`) -/
theorem wt_rankUnchecked_ok (sym i : Nat) (hsym : sym ≤ Spec.maxNat S) (hi : i ≤ S.length)
    (hne : S ≠ []) : BinWT.rankUnchecked c false t sym i = .ok (Spec.rank sym i S) :=
  inv_rankUnchecked (wt_inv c hW hL S hb hS ht) hne sym i
    (Nat.lt_of_le_of_lt hsym (lt_two_pow_bitlen _)) hi

/-- `rank_unchecked` is even safe for every symbol that fits in the `nLevels` bits -/
theorem wt_rankUnchecked_ok' (sym i : Nat) (hsym : sym < 2 ^ Spec.bitlen (Spec.maxNat S))
    (hi : i ≤ S.length) (hne : S ≠ []) :
    BinWT.rankUnchecked c false t sym i = .ok (Spec.rank sym i S) :=
  inv_rankUnchecked (wt_inv c hW hL S hb hS ht) hne sym i hsym hi

theorem wt_select_ok (sym k : Nat) :
    BinWT.select c false t sym k =
      .ok (if S ≠ [] ∧ sym ≤ Spec.maxNat S then Spec.select sym k S else none) :=
  inv_select (wt_inv c hW hL S hb hS ht) sym k

/-- `select` of a symbol above the largest one is `none`: it is not taken for the symbol with the
    same low bits -/
theorem wt_no_confusion (sym k : Nat) (hsym : sym > Spec.maxNat S) :
    BinWT.select c false t sym k = .ok none := by
  have hc : ¬ (S ≠ [] ∧ sym ≤ Spec.maxNat S) := fun h => Nat.not_le.mpr hsym h.2
  rw [wt_select_ok c hW hL S hb hS ht, if_neg hc]

theorem wt_selectUnchecked_ok (sym k p : Nat) (hsym : sym ≤ Spec.maxNat S)
    (hp : Spec.select sym k S = some p) : BinWT.selectUnchecked c false t sym k = .ok p := by
  have hne : S ≠ [] := by intro e; rw [e] at hp; simp [Spec.select] at hp
  unfold BinWT.selectUnchecked
  rw [wt_select_ok c hW hL S hb hS ht, if_pos ⟨hne, hsym⟩, hp]; rfl

end main

/-! ## the empty sequence -/

theorem rank_empty (c : Cfg) (comp : Bool) (sym i : Nat) :
    BinWT.rank c comp {} sym i = .ok none := by
  unfold BinWT.rank
  by_cases hi : i > ({} : WT).n
  · rw [if_pos hi]; rfl
  · rw [if_neg hi]; cases comp <;> rfl

section empty
variable (c : Cfg) {t : WT} (ht : BinWT.new c false #[] [] = .ok t)
include ht

theorem wt_empty_eq : t = {} := by cases ht; rfl

theorem wt_empty_get (i : Nat) : BinWT.get c false t i = .ok none := by
  cases ht; rfl

theorem wt_empty_rank (sym i : Nat) : BinWT.rank c false t sym i = .ok none := by
  cases ht; exact rank_empty c false sym i

theorem wt_empty_select (sym k : Nat) : BinWT.select c false t sym k = .ok none := by
  cases ht; rfl

end empty

/-! ## the Huffman-shaped variant -/

section huffman
open Qwt.Huff (PrefixCode)
open Qwt.Props.C02 (WMValid)

variable (c : Cfg) (hW : c.W ≤ 64) (hL : BinLevelLaw) (S : List Nat) (hne : S ≠ [])
  (hb : ∀ x ∈ S, x < 2 ^ c.W) (hS : S.length < 2 ^ 43) (lens : List (Nat × Nat))
  (codes : Array PrefixCode)
  (hcraft : Huff.craftWmCodes 2 lens (Utils.asUsize (Spec.maxNat S)) = .ok codes)
  (occ : List Nat) (hv : WMValid 2 codes occ) (hocc : ∀ s, s ∈ occ ↔ s ∈ S)
include hW hL hne hb hS hcraft hv hocc

/-- construction succeeds whenever the table `craftWmCodes` returns is valid; the tree stores it -/
theorem hwt_new_ok :
    ∃ t, BinWT.new c true S.toArray lens = .ok t ∧ HWMb c S codes t ∧ t.n = S.length ∧
      t.codesEncode = some codes ∧ t.sigma = none := by
  obtain ⟨t, h1, h2⟩ := new_okH c hW hL S hne hb hS lens codes hcraft occ hv hocc
  exact ⟨t, h1, h2, h2.n_eq, h2.codes_eq, h2.sigma_eq⟩

variable {t : WT} (ht : BinWT.new c true S.toArray lens = .ok t)
include ht

theorem hwt_inv : HWMb c S codes t :=
  of_exists_ok (new_okH c hW hL S hne hb hS lens codes hcraft occ hv hocc) ht

theorem hwt_get_ok (i : Nat) : BinWT.get c true t i = .ok S[i]? :=
  invH_get (hwt_inv c hW hL S hne hb hS lens codes hcraft occ hv hocc ht) i

theorem hwt_getUnchecked_ok (i : Nat) (hi : i < S.length) :
    BinWT.getUnchecked c true t i = .ok S[i] :=
  invH_getUnchecked (hwt_inv c hW hL S hne hb hS lens codes hcraft occ hv hocc ht) i hi

/-- `rank`: `none` for every symbol that does not occur (it has no code) -/
theorem hwt_rank_ok (sym i : Nat) :
    BinWT.rank c true t sym i =
      .ok (if sym ∈ S ∧ i ≤ S.length then some (Spec.rank sym i S) else none) :=
  invH_rank (hwt_inv c hW hL S hne hb hS lens codes hcraft occ hv hocc ht) sym i

theorem hwt_rankUnchecked_ok (sym i : Nat) (hs : sym ∈ S) (hi : i ≤ S.length) :
    BinWT.rankUnchecked c true t sym i = .ok (Spec.rank sym i S) :=
  invH_rankUnchecked (hwt_inv c hW hL S hne hb hS lens codes hcraft occ hv hocc ht) sym i hs hi

theorem hwt_select_ok (sym k : Nat) :
    BinWT.select c true t sym k = .ok (if sym ∈ S then Spec.select sym k S else none) :=
  invH_select (hwt_inv c hW hL S hne hb hS lens codes hcraft occ hv hocc ht) sym k

/-- `select` of a symbol that does not occur is `none`, whatever its size -/
theorem hwt_no_confusion (sym k : Nat) (hs : sym ∉ S) :
    BinWT.select c true t sym k = .ok none := by
  rw [hwt_select_ok c hW hL S hne hb hS lens codes hcraft occ hv hocc ht, if_neg hs]

end huffman

/-- the empty sequence, Huffman-shaped variant -/
theorem hwt_empty (c : Cfg) (lens : List (Nat × Nat)) {t : WT}
    (ht : BinWT.new c true #[] lens = .ok t) (sym i : Nat) :
    t = {} ∧ BinWT.get c true t i = .ok none ∧ BinWT.rank c true t sym i = .ok none ∧
      BinWT.select c true t sym i = .ok none := by
  cases ht
  exact ⟨rfl, rfl, rank_empty c true sym i, rfl⟩

/-! ## non-vacuity and concrete evaluation -/

section examples

/-- a 3-level sequence (`max = 7`, `bitlen 7 = 3`) over `u8` -/
def exS : List Nat := [5, 1, 4, 1, 7, 2]
def exC : Cfg := { W := 8 }

/-- the hypotheses of the theorems (other than `BinLevelLaw`) hold for it -/
example : 0 < exC.W ∧ (∀ x ∈ exS, x < 2 ^ exC.W) ∧ exS.length < 2 ^ 43 ∧
    Spec.bitlen (Spec.maxNat exS) = 3 := by decide

/-- the theorems instantiate on it -/
example (hL : BinLevelLaw) : ∃ t, BinWT.new exC false exS.toArray [] = .ok t ∧
    t.nLevels = 3 ∧ t.sigma = some 7 ∧
    BinWT.get exC false t 4 = .ok (some 7) ∧
    BinWT.rank exC false t 1 5 = .ok (some 2) ∧
    BinWT.select exC false t 1 1 = .ok (some 3) ∧
    BinWT.select exC false t 6 0 = .ok none ∧
    BinWT.select exC false t 8 0 = .ok none := by
  have hW : 0 < exC.W := by decide
  have hb : ∀ x ∈ exS, x < 2 ^ exC.W := by decide
  have hS : exS.length < 2 ^ 43 := by decide
  obtain ⟨t, ht, -, -, hs⟩ := wt_new_ok exC hW hL exS hb hS
  have hne : exS ≠ [] := by decide
  refine ⟨t, ht, (hs hne).2, (hs hne).1, ?_, ?_, ?_, ?_, ?_⟩
  · rw [wt_get_ok exC hW hL exS hb hS ht]; rfl
  · rw [wt_rank_ok exC hW hL exS hb hS ht]; exact congrArg Except.ok (by decide)
  · rw [wt_select_ok exC hW hL exS hb hS ht]; exact congrArg Except.ok (by decide)
  · rw [wt_select_ok exC hW hL exS hb hS ht]; exact congrArg Except.ok (by decide)
  · exact wt_no_confusion exC hW hL exS hb hS ht 8 0 (by decide)

/-- the model itself, evaluated (no hypothesis): every `get`, `rank`, `select` on the tiny
    tree agrees with the list specification, including out-of-alphabet symbols -/
example : (List.range 8).all (fun i =>
    Out.ofOpt (do let t ← BinWT.new exC false exS.toArray []; BinWT.get exC false t i)
      == Out.ofOpt (.ok exS[i]?)) = true := by decide +kernel

example : (List.range 10).all (fun sym => (List.range 8).all (fun i =>
    Out.ofOpt (do let t ← BinWT.new exC false exS.toArray []; BinWT.rank exC false t sym i)
      == Out.ofOpt (.ok (if exS ≠ [] ∧ sym ≤ Spec.maxNat exS ∧ i ≤ exS.length
            then some (Spec.rank sym i exS) else none)))) = true := by decide +kernel

example : (List.range 10).all (fun sym => (List.range 8).all (fun k =>
    Out.ofOpt (do let t ← BinWT.new exC false exS.toArray []; BinWT.select exC false t sym k)
      == Out.ofOpt (.ok (if exS ≠ [] ∧ sym ≤ Spec.maxNat exS
            then Spec.select sym k exS else none)))) = true := by decide +kernel

/-! ### Huffman-shaped variant -/

open Qwt.Huff (PrefixCode) in
open Qwt.Props.C02 (WMValid digits revLex) in
/-- a decidable criterion for `WMValid 2` (the quantifiers over all naturals are bounded by
    the table size, the level `L` is determined by the length of the ending code) -/
theorem wmvalid_of_check (codes : Array PrefixCode) (occ : List Nat)
    (h1 : ∀ s ∈ occ, s < codes.size ∧ codes[s]!.len ≠ 0)
    (h2 : ∀ s, s < codes.size → s ∉ occ → codes[s]!.len = 0)
    (h3 : ∀ x ∈ occ, ∀ y ∈ occ, x ≠ y → ¬ (digits 2 codes[x]! <+: digits 2 codes[y]!))
    (h4 : ∀ x ∈ occ, ∀ y ∈ occ, codes[y]!.len < codes[x]!.len →
      revLex 2 ((digits 2 codes[x]!).take codes[y]!.len) < revLex 2 (digits 2 codes[y]!))
    (h5 : ∀ s, s < codes.size → codes[s]!.len ≤ 32 ∧ codes[s]!.content < 2 ^ codes[s]!.len) :
    WMValid 2 codes occ := by
  have hout : ∀ s, ¬ s < codes.size → codes[s]! = default := by
    intro s hs
    rw [getElem!_def, Array.getElem?_eq_none (Nat.le_of_not_lt hs)]
  refine ⟨h1, ?_, h3, ?_, ?_⟩
  · intro s hs
    by_cases hlt : s < codes.size
    · exact h2 s hlt hs
    · rw [hout s hlt]; rfl
  · intro x hx y hy L hy1 hx1
    rw [digits_length] at hy1 hx1
    have := h4 x hx y hy (by omega)
    rw [hy1] at this; exact this
  · intro s
    by_cases hlt : s < codes.size
    · exact ⟨(h5 s hlt).1, by rw [bitsOf_two]; exact Nat.one_dvd _, (h5 s hlt).2⟩
    · rw [hout s hlt]
      exact ⟨by decide, by rw [bitsOf_two]; exact Nat.one_dvd _, by decide⟩

/-- a 3-level Huffman-shaped example: symbols 1..4 with code lengths 1, 2, 3, 3 -/
def exHS : List Nat := [1, 2, 1, 3, 1, 4, 2, 1]
def exLens : List (Nat × Nat) := [(4, 3), (2, 2), (1, 1), (3, 3)]
def exCodes : Array Huff.PrefixCode := #[⟨0, 0⟩, ⟨1, 1⟩, ⟨1, 2⟩, ⟨0, 3⟩, ⟨1, 3⟩]

theorem ok_of_check {α : Type} [DecidableEq α] {x : M α} {v : α}
    (h : (match x with | .ok a => decide (a = v) | .error _ => false) = true) : x = .ok v := by
  cases x with
  | ok a => simp only [decide_eq_true_eq] at h; rw [h]
  | error e => cases h

theorem exCraft : Huff.craftWmCodes 2 exLens (Utils.asUsize (Spec.maxNat exHS)) = .ok exCodes :=
  ok_of_check (by decide +kernel)

/-- the code table that `craftWmCodes` returns for it is valid -/
theorem exCodes_valid : C02.WMValid 2 exCodes [1, 2, 3, 4] :=
  wmvalid_of_check exCodes [1, 2, 3, 4] (by decide +kernel) (by decide +kernel) (by decide +kernel)
    (by decide +kernel) (by decide +kernel)

/-- all hypotheses of the Huffman theorems (other than `BinLevelLaw`) are satisfiable -/
example (hL : BinLevelLaw) : ∃ t, BinWT.new exC true exHS.toArray exLens = .ok t ∧
    t.codesEncode = some exCodes ∧
    BinWT.get exC true t 5 = .ok (some 4) ∧
    BinWT.rank exC true t 2 7 = .ok (some 2) ∧
    BinWT.select exC true t 1 3 = .ok (some 7) ∧
    BinWT.select exC true t 0 0 = .ok none ∧
    BinWT.select exC true t 5 0 = .ok none := by
  have hW : exC.W ≤ 64 := by decide
  have hne : exHS ≠ [] := by decide
  have hb : ∀ x ∈ exHS, x < 2 ^ exC.W := by decide
  have hS : exHS.length < 2 ^ 43 := by decide
  have hocc : ∀ s, s ∈ [1, 2, 3, 4] ↔ s ∈ exHS := fun s =>
    ⟨(by decide : ∀ x ∈ [1, 2, 3, 4], x ∈ exHS) s, (by decide : ∀ x ∈ exHS, x ∈ [1, 2, 3, 4]) s⟩
  obtain ⟨t, ht, -, -, hc, -⟩ :=
    hwt_new_ok exC hW hL exHS hne hb hS exLens exCodes exCraft _ exCodes_valid hocc
  refine ⟨t, ht, hc, ?_, ?_, ?_, ?_, ?_⟩
  · rw [hwt_get_ok exC hW hL exHS hne hb hS exLens exCodes exCraft _ exCodes_valid hocc ht]; rfl
  · rw [hwt_rank_ok exC hW hL exHS hne hb hS exLens exCodes exCraft _ exCodes_valid hocc ht]
    exact congrArg Except.ok (by decide)
  · rw [hwt_select_ok exC hW hL exHS hne hb hS exLens exCodes exCraft _ exCodes_valid hocc ht]
    exact congrArg Except.ok (by decide)
  · exact hwt_no_confusion exC hW hL exHS hne hb hS exLens exCodes exCraft _ exCodes_valid hocc ht
      0 0 (by decide)
  · exact hwt_no_confusion exC hW hL exHS hne hb hS exLens exCodes exCraft _ exCodes_valid hocc ht
      5 0 (by decide)

/-- the model itself, evaluated: the Huffman-shaped tree agrees with the specification -/
example : (List.range 10).all (fun i =>
    Out.ofOpt (do let t ← BinWT.new exC true exHS.toArray exLens; BinWT.get exC true t i)
      == Out.ofOpt (.ok exHS[i]?)) = true := by decide +kernel

example : (List.range 7).all (fun sym => (List.range 10).all (fun i =>
    Out.ofOpt (do let t ← BinWT.new exC true exHS.toArray exLens; BinWT.rank exC true t sym i)
      == Out.ofOpt (.ok (if sym ∈ exHS ∧ i ≤ exHS.length
            then some (Spec.rank sym i exHS) else none)))) = true := by decide +kernel

example : (List.range 7).all (fun sym => (List.range 6).all (fun k =>
    Out.ofOpt (do let t ← BinWT.new exC true exHS.toArray exLens; BinWT.select exC true t sym k)
      == Out.ofOpt (.ok (if sym ∈ exHS then Spec.select sym k exHS else none)))) = true := by
  decide +kernel

/-- the empty tree -/
example : BinWT.new exC false #[] [] = .ok {} := rfl
example : BinWT.select exC false {} 0 0 = .ok none := rfl

end examples

end Qwt.Props.C03
