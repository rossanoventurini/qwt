import Qwt.Props.Closed
import Qwt.Props.C08
import Qwt.Props.C13
import Qwt.Proofs.QVector
import Qwt.Proofs.Basic

/-!
# C10 — unchecked variants equal the checked ones on valid arguments, in every build

"Whenever the documented precondition of an unchecked method holds (index in range, valid
symbol, occurrence exists), `get_unchecked`, `rank_unchecked`, `select_unchecked`,
`rank1/rank0_unchecked`, `select1/select0_unchecked`, `occs_unchecked`,
`occs_smaller_unchecked`, `rank_prefetch_unchecked` and `get_bits_unchecked` return exactly the
value the corresponding checked method returns, in builds with and without debug assertions."

The theorems named after a method (`qwt_get`, `rsq_rank`, …) have the form

  `precondition → unchecked … = .ok v ∧ checked … = .ok (some v)`

for the SAME `v` (the value of the list specification), i.e. no fault on either side and equal
values.  The build profile is the flag `dbg` (`Cfg.dbg` for the trees): it is universally
quantified in every statement, so each theorem covers the optimised build (`dbg = false`) and
the build with debug assertions and overflow checks (`dbg = true`); `qwt_both` writes the flag
out as a field of the configuration.  `BitVector`, `RSWide`, `RSNarrow` and `DArray` contain no debug
assertion in the model (their model functions do not take `dbg`: the Rust code has no
`debug_assert!` there and every arithmetic operation is modelled with its overflow check in
both profiles), so their statements hold verbatim in both builds.

All statements are closed: the hypotheses are about the configuration (`B ∈ {256, 512}`,
element width), the input (elements fit, length `< 2^43`) and — for the Huffman-shaped trees —
the length table handed over by the external crate (`LensOK`), plus the precondition itself.
-/
namespace Qwt.Props.C10
open Qwt

def Agree {α : Type} (unchecked : M α) (checked : M (Option α)) (v : α) : Prop :=
  unchecked = .ok v ∧ checked = .ok (some v)

theorem Agree.same {α : Type} {u : M α} {ck : M (Option α)} {v : α} (h : Agree u ck v) :
    (u.map some) = ck := by
  rw [h.1, h.2]; rfl

theorem Agree.no_fault {α : Type} {u : M α} {ck : M (Option α)} {v : α} (h : Agree u ck v) :
    (∀ f, u ≠ .error f) ∧ (∀ f, ck ≠ .error f) :=
  ⟨Cor.no_fault h.1, Cor.no_fault h.2⟩

/-! The checked methods are specified on every argument, as `S[i]?` or as
`if precondition then some v else none`; the unchecked ones inside their precondition.  The ways
the two meet: -/

theorem Agree.of_getElem? {α : Type} {u : M α} {ck : M (Option α)} {S : List α} {i : Nat}
    (hi : i < S.length) (hu : u = .ok S[i]) (hck : ck = .ok S[i]?) : Agree u ck S[i] :=
  ⟨hu, by rw [hck, List.getElem?_eq_getElem hi]⟩

theorem Agree.of_ite {α : Type} {u : M α} {ck : M (Option α)} {v : α} {p : Prop} [Decidable p]
    (hu : u = .ok v) (hck : ck = .ok (if p then some v else none)) (hp : p) : Agree u ck v :=
  ⟨hu, by rw [hck, if_pos hp]⟩

/-- an unchecked method that is `checked(..).unwrap()` (every `select_unchecked` of the trees and
    of `DArray`) -/
theorem Agree.unwrap {α : Type} {ck : M (Option α)} {v : α} (h : ck = .ok (some v)) :
    Agree (ck >>= unwrap) ck v :=
  ⟨by rw [h]; rfl, h⟩

/-- the form in which `Props/C06.lean` states `select_unchecked` of the binary rank/select
    structures: it returns some `p'` that the specification also gives -/
theorem Agree.of_select {u : M Nat} {ck : M (Option Nat)} {sel : Option Nat} {p : Nat}
    (hp : sel = some p) (hu : ∃ p', u = .ok p' ∧ sel = some p') (hck : ck = .ok sel) :
    Agree u ck p := by
  obtain ⟨p', h1, h2⟩ := hu
  cases hp.symm.trans h2
  exact ⟨h1, hck.trans (congrArg _ hp)⟩

theorem select_some_lt {α : Type} [BEq α] [LawfulBEq α] {c : α} {k p : Nat} {s : List α}
    (h : Spec.select c k s = some p) : k < s.count c := by
  apply Nat.lt_of_not_le
  intro hle
  rw [Proofs.Word.select_none _ _ _ hle] at h
  cases h

theorem select_some_valid {S : List Nat} {sym k p : Nat} (h : Spec.select sym k S = some p) :
    S ≠ [] ∧ sym ∈ S ∧ sym ≤ Spec.maxNat S :=
  have hmem : sym ∈ S := List.count_pos_iff.mp (Nat.zero_lt_of_lt (select_some_lt h))
  ⟨List.ne_nil_of_mem hmem, hmem, Spec.le_maxNat hmem⟩

section qwt
variable {c : Cfg} {S : List Nat} {t : QWTree.QWT}
  (hB : c.B = 256 ∨ c.B = 512) (hW : 0 < c.W)
  (hS : ∀ x ∈ S, x < 2 ^ c.W) (hlen : S.length < 2 ^ 43)
  (hnew : QWTree.new c S.toArray = .ok t)
include hB hW hS hlen hnew

theorem qwt_getUnchecked_ok (i : Nat) (hi : i < S.length) :
    QWTree.getUnchecked c t i = .ok S[i] :=
  (C09.wmp_of_new hB hW hS hlen hnew).wm.getUnchecked_eq hS i hi

theorem qwt_rankUnchecked_ok (sym i : Nat) (hne : S ≠ []) (hsym : sym ≤ Spec.maxNat S)
    (hi : i ≤ S.length) : QWTree.rankUnchecked c t sym i = .ok (Spec.rank sym i S) :=
  (C09.wmp_of_new hB hW hS hlen hnew).wm.rankUnchecked_eq hW hS sym i hne hsym hi

theorem qwt_get (i : Nat) (hi : i < S.length) :
    Agree (QWTree.getUnchecked c t i) (QWTree.get c t i) S[i] :=
  .of_getElem? hi (qwt_getUnchecked_ok hB hW hS hlen hnew i hi) (C09.get_ok hB hW hS hlen hnew i)

theorem qwt_rank (sym i : Nat) (hne : S ≠ []) (hsym : sym ≤ Spec.maxNat S) (hi : i ≤ S.length) :
    Agree (QWTree.rankUnchecked c t sym i) (QWTree.rank c t sym i) (Spec.rank sym i S) :=
  .of_ite (qwt_rankUnchecked_ok hB hW hS hlen hnew sym i hne hsym hi)
    (C09.rank_ok hB hW hS hlen hnew sym i) ⟨hne, hsym, hi⟩

theorem qwt_select (sym k p : Nat) (hsel : Spec.select sym k S = some p) :
    Agree (QWTree.selectUnchecked c t sym k) (QWTree.select c t sym k) p := by
  obtain ⟨hne, _, hsym⟩ := select_some_valid hsel
  exact .unwrap (by rw [C09.select_ok hB hW hS hlen hnew, if_pos ⟨hne, hsym⟩, hsel])

theorem qwt_selectUnchecked_ok (sym k p : Nat) (hsel : Spec.select sym k S = some p) :
    QWTree.selectUnchecked c t sym k = .ok p :=
  (qwt_select hB hW hS hlen hnew sym k p hsel).1

theorem qwt_rankPrefetch (sym i : Nat) (hne : S ≠ []) (hsym : sym ≤ Spec.maxNat S)
    (hi : i ≤ S.length) :
    Agree (QWTree.rankPrefetchUnchecked c t sym i) (QWTree.rankPrefetch c t sym i)
      (Spec.rank sym i S) :=
  .of_ite (C09.rankPrefetchUnchecked_ok hB hW hS hlen hnew sym i hne hsym hi)
    (C09.rankPrefetch_ok hB hW hS hlen hnew sym i) ⟨hne, hsym, hi⟩

theorem qwt_rankPrefetchUnchecked_eq (sym i : Nat) (hne : S ≠ []) (hsym : sym ≤ Spec.maxNat S)
    (hi : i ≤ S.length) :
    QWTree.rankPrefetchUnchecked c t sym i = QWTree.rankUnchecked c t sym i := by
  rw [C09.rankPrefetchUnchecked_ok hB hW hS hlen hnew sym i hne hsym hi,
    qwt_rankUnchecked_ok hB hW hS hlen hnew sym i hne hsym hi]

end qwt

/-- both build profiles, spelled out: whatever the flag `d`, on the tree built in that profile
    the unchecked and the checked methods return the same (specified) values -/
theorem qwt_both (c : Cfg) {S : List Nat} (hB : c.B = 256 ∨ c.B = 512) (hW : 0 < c.W)
    (hS : ∀ x ∈ S, x < 2 ^ c.W) (hlen : S.length < 2 ^ 43) (d : Bool) {t : QWTree.QWT}
    (hnew : QWTree.new { c with dbg := d } S.toArray = .ok t) :
    (∀ i (hi : i < S.length),
      Agree (QWTree.getUnchecked { c with dbg := d } t i) (QWTree.get { c with dbg := d } t i) S[i]) ∧
    (∀ sym i, S ≠ [] → sym ≤ Spec.maxNat S → i ≤ S.length →
      Agree (QWTree.rankUnchecked { c with dbg := d } t sym i)
        (QWTree.rank { c with dbg := d } t sym i) (Spec.rank sym i S)) ∧
    (∀ sym i, S ≠ [] → sym ≤ Spec.maxNat S → i ≤ S.length →
      Agree (QWTree.rankPrefetchUnchecked { c with dbg := d } t sym i)
        (QWTree.rankPrefetch { c with dbg := d } t sym i) (Spec.rank sym i S)) ∧
    (∀ sym k p, Spec.select sym k S = some p →
      Agree (QWTree.selectUnchecked { c with dbg := d } t sym k)
        (QWTree.select { c with dbg := d } t sym k) p) :=
  ⟨qwt_get (c := { c with dbg := d }) hB hW hS hlen hnew,
   qwt_rank (c := { c with dbg := d }) hB hW hS hlen hnew,
   qwt_rankPrefetch (c := { c with dbg := d }) hB hW hS hlen hnew,
   qwt_select (c := { c with dbg := d }) hB hW hS hlen hnew⟩

section hqwt
open Qwt.Props.C02 (WMValid LensOK)
variable (c : Cfg) (hB : c.B = 256 ∨ c.B = 512) (hW : c.W ≤ 64) (S : List Nat)
  (hne : S ≠ []) (hb : ∀ x ∈ S, x < 2 ^ c.W) (hS : S.length < 2 ^ 43) (lens : List (Nat × Nat))

section codes
variable (codes : Array Huff.PrefixCode)
  (hcraft : Huff.craftWmCodes 4 lens (Utils.asUsize (Spec.maxNat S)) = .ok codes)
  (occ : List Nat) (hv : WMValid 4 codes occ) (hocc : ∀ s, s ∈ occ ↔ s ∈ S)
  {t : Huff.HQWT} (ht : Huff.new c S.toArray lens = .ok t)
include hB hW hne hb hS hcraft hv hocc ht

theorem hqwt_rankPrefetchUnchecked_ok' (sym i : Nat) (hs : sym ∈ S) (hi : i ≤ S.length) :
    Huff.rankPrefetchUnchecked c t sym i = .ok (Spec.rank sym i S) := by
  have h := C09.hqwt_inv c hB hW S hne hb hS lens codes hcraft occ hv hocc ht
  have h1 := C09.hqwt_pfsPhase1_ok c hB hW S hne hb hS lens codes hcraft occ hv hocc ht sym i hs hi
  have h2 := HQWM.inv_phase2 h hs i hi
  have h3 := HQWM.inv_rankUnchecked h sym i hs hi
  unfold Huff.rankPrefetchUnchecked
  rw [HQWM.lookupQ h hs, ok_bind, h1, h2, h3]
  cases c.pfs <;> rfl

end codes

variable (hlens : LensOK 4 lens) (hsyms : ∀ s, s ∈ lens.map (·.1) ↔ s ∈ S)
include hB hW hne hb hS hlens hsyms

theorem hqwt_codes : ∃ codes, Huff.craftWmCodes 4 lens (Utils.asUsize (Spec.maxNat S)) = .ok codes ∧
    WMValid 4 codes (lens.map (·.1)) := by
  obtain ⟨codes, _, h1, h2, _⟩ := Closed.hqwt_correct c hB hW S hne hb hS lens hlens hsyms
  exact ⟨codes, h1, h2⟩

variable {t : Huff.HQWT} (ht : Huff.new c S.toArray lens = .ok t)
include ht

/-- the tree satisfies the invariant of `Proofs/HQWMInv.lean` for the crafted table: every statement
    about the checked and unchecked methods below is one of the `HQWM.inv_*` theorems -/
theorem hqwt_inv : ∃ codes, HQWM.HWM c S codes t := by
  obtain ⟨codes, hc, hv⟩ := hqwt_codes c hB hW S hne hb hS lens hlens hsyms
  exact ⟨codes, C09.hqwt_inv c hB hW S hne hb hS lens codes hc _ hv hsyms ht⟩

theorem hqwt_getUnchecked_ok (i : Nat) (hi : i < S.length) :
    Huff.getUnchecked c t i = .ok S[i] := by
  obtain ⟨_, h⟩ := hqwt_inv c hB hW S hne hb hS lens hlens hsyms ht
  exact HQWM.inv_getUnchecked h i hi

theorem hqwt_rankUnchecked_ok (sym i : Nat) (hs : sym ∈ S) (hi : i ≤ S.length) :
    Huff.rankUnchecked c t sym i = .ok (Spec.rank sym i S) := by
  obtain ⟨_, h⟩ := hqwt_inv c hB hW S hne hb hS lens hlens hsyms ht
  exact HQWM.inv_rankUnchecked h sym i hs hi

theorem hqwt_rankPrefetchUnchecked_ok (sym i : Nat) (hs : sym ∈ S) (hi : i ≤ S.length) :
    Huff.rankPrefetchUnchecked c t sym i = .ok (Spec.rank sym i S) := by
  obtain ⟨codes, hc, hv⟩ := hqwt_codes c hB hW S hne hb hS lens hlens hsyms
  exact hqwt_rankPrefetchUnchecked_ok' c hB hW S hne hb hS lens codes hc _ hv hsyms ht sym i hs hi

theorem hqwt_get_ok (i : Nat) : Huff.get c t i = .ok S[i]? := by
  obtain ⟨_, h⟩ := hqwt_inv c hB hW S hne hb hS lens hlens hsyms ht
  exact HQWM.inv_get h i

theorem hqwt_rank_ok (sym i : Nat) : Huff.rank c t sym i =
    .ok (if sym ∈ S ∧ i ≤ S.length then some (Spec.rank sym i S) else none) := by
  obtain ⟨_, h⟩ := hqwt_inv c hB hW S hne hb hS lens hlens hsyms ht
  exact HQWM.inv_rank h sym i

theorem hqwt_select_ok (sym k : Nat) : Huff.select c t sym k =
    .ok (if sym ∈ S then Spec.select sym k S else none) := by
  obtain ⟨_, h⟩ := hqwt_inv c hB hW S hne hb hS lens hlens hsyms ht
  exact HQWM.inv_select h sym k

theorem hqwt_rankPrefetch_ok (sym i : Nat) : Huff.rankPrefetch c t sym i =
    .ok (if sym ∈ S ∧ i ≤ S.length then some (Spec.rank sym i S) else none) := by
  obtain ⟨codes, hc, hv⟩ := hqwt_codes c hB hW S hne hb hS lens hlens hsyms
  exact C09.hqwt_rankPrefetch_ok c hB hW S hne hb hS lens codes hc _ hv hsyms ht sym i

theorem hqwt_get (i : Nat) (hi : i < S.length) :
    Agree (Huff.getUnchecked c t i) (Huff.get c t i) S[i] :=
  .of_getElem? hi (hqwt_getUnchecked_ok c hB hW S hne hb hS lens hlens hsyms ht i hi)
    (hqwt_get_ok c hB hW S hne hb hS lens hlens hsyms ht i)

/-- valid symbol = a symbol that occurs (the only ones with a code) -/
theorem hqwt_rank (sym i : Nat) (hs : sym ∈ S) (hi : i ≤ S.length) :
    Agree (Huff.rankUnchecked c t sym i) (Huff.rank c t sym i) (Spec.rank sym i S) :=
  .of_ite (hqwt_rankUnchecked_ok c hB hW S hne hb hS lens hlens hsyms ht sym i hs hi)
    (hqwt_rank_ok c hB hW S hne hb hS lens hlens hsyms ht sym i) ⟨hs, hi⟩

theorem hqwt_rankPrefetch (sym i : Nat) (hs : sym ∈ S) (hi : i ≤ S.length) :
    Agree (Huff.rankPrefetchUnchecked c t sym i) (Huff.rankPrefetch c t sym i)
      (Spec.rank sym i S) :=
  .of_ite (hqwt_rankPrefetchUnchecked_ok c hB hW S hne hb hS lens hlens hsyms ht sym i hs hi)
    (hqwt_rankPrefetch_ok c hB hW S hne hb hS lens hlens hsyms ht sym i) ⟨hs, hi⟩

theorem hqwt_select (sym k p : Nat) (hp : Spec.select sym k S = some p) :
    Agree (Huff.selectUnchecked c t sym k) (Huff.select c t sym k) p :=
  .unwrap (by
    rw [hqwt_select_ok c hB hW S hne hb hS lens hlens hsyms ht, if_pos (select_some_valid hp).2.1,
      hp])

theorem hqwt_selectUnchecked_ok (sym k p : Nat) (hp : Spec.select sym k S = some p) :
    Huff.selectUnchecked c t sym k = .ok p :=
  (hqwt_select c hB hW S hne hb hS lens hlens hsyms ht sym k p hp).1

end hqwt

section wt
variable (c : Cfg) (hW : 0 < c.W) (S : List Nat) (hb : ∀ x ∈ S, x < 2 ^ c.W)
  (hS : S.length < 2 ^ 43) {t : BinWT.WT} (ht : BinWT.new c false S.toArray [] = .ok t)
include hW hb hS ht

theorem wt_get (i : Nat) (hi : i < S.length) :
    Agree (BinWT.getUnchecked c false t i) (BinWT.get c false t i) S[i] :=
  .of_getElem? hi (C03.wt_getUnchecked_ok c hW Closed.binLevelLaw S hb hS ht i hi)
    (Closed.wt_get c hW S hb hS ht i)

theorem wt_rank (sym i : Nat) (hne : S ≠ []) (hsym : sym ≤ Spec.maxNat S) (hi : i ≤ S.length) :
    Agree (BinWT.rankUnchecked c false t sym i) (BinWT.rank c false t sym i)
      (Spec.rank sym i S) :=
  .of_ite (C03.wt_rankUnchecked_ok c hW Closed.binLevelLaw S hb hS ht sym i hsym hi hne)
    (Closed.wt_rank c hW S hb hS ht sym i) ⟨hne, hsym, hi⟩

theorem wt_select (sym k p : Nat) (hp : Spec.select sym k S = some p) :
    Agree (BinWT.selectUnchecked c false t sym k) (BinWT.select c false t sym k) p := by
  obtain ⟨hne, _, hsym⟩ := select_some_valid hp
  exact .unwrap (by rw [Closed.wt_select c hW S hb hS ht, if_pos ⟨hne, hsym⟩, hp])

end wt

section hwt
open Qwt.Props.C02 (LensOK WMValid)
variable (c : Cfg) (hW : c.W ≤ 64) (S : List Nat) (hne : S ≠ [])
  (hb : ∀ x ∈ S, x < 2 ^ c.W) (hS : S.length < 2 ^ 43) (lens : List (Nat × Nat))
  (hlens : LensOK 2 lens) (hocc : ∀ s, s ∈ lens.map (·.1) ↔ s ∈ S)
  {t : BinWT.WT} (ht : BinWT.new c true S.toArray lens = .ok t)
include hW hne hb hS hlens hocc ht

theorem hwt_getUnchecked_ok (i : Nat) (hi : i < S.length) :
    BinWT.getUnchecked c true t i = .ok S[i] := by
  obtain ⟨codes, hc, hv⟩ := Closed.hwt_codes c hW S hne hb hS lens hlens hocc
  exact C03.hwt_getUnchecked_ok c hW Closed.binLevelLaw S hne hb hS lens codes hc _ hv hocc ht i hi

theorem hwt_rankUnchecked_ok (sym i : Nat) (hs : sym ∈ S) (hi : i ≤ S.length) :
    BinWT.rankUnchecked c true t sym i = .ok (Spec.rank sym i S) := by
  obtain ⟨codes, hc, hv⟩ := Closed.hwt_codes c hW S hne hb hS lens hlens hocc
  exact C03.hwt_rankUnchecked_ok c hW Closed.binLevelLaw S hne hb hS lens codes hc _ hv hocc ht
    sym i hs hi

theorem hwt_get (i : Nat) (hi : i < S.length) :
    Agree (BinWT.getUnchecked c true t i) (BinWT.get c true t i) S[i] :=
  .of_getElem? hi (hwt_getUnchecked_ok c hW S hne hb hS lens hlens hocc ht i hi)
    (Closed.hwt_get c hW S hne hb hS lens hlens hocc ht i)

theorem hwt_rank (sym i : Nat) (hs : sym ∈ S) (hi : i ≤ S.length) :
    Agree (BinWT.rankUnchecked c true t sym i) (BinWT.rank c true t sym i) (Spec.rank sym i S) :=
  .of_ite (hwt_rankUnchecked_ok c hW S hne hb hS lens hlens hocc ht sym i hs hi)
    (Closed.hwt_rank c hW S hne hb hS lens hlens hocc ht sym i) ⟨hs, hi⟩

theorem hwt_select (sym k p : Nat) (hp : Spec.select sym k S = some p) :
    Agree (BinWT.selectUnchecked c true t sym k) (BinWT.select c true t sym k) p :=
  .unwrap (by
    rw [Closed.hwt_select c hW S hne hb hS lens hlens hocc ht, if_pos (select_some_valid hp).2.1,
      hp])

theorem hwt_selectUnchecked_ok (sym k p : Nat) (hp : Spec.select sym k S = some p) :
    BinWT.selectUnchecked c true t sym k = .ok p :=
  (hwt_select c hW S hne hb hS lens hlens hocc ht sym k p hp).1

end hwt

/-! ## `RSQVector`

From the representation invariant `RepInv B r s` (what `RSQVector::from` establishes), for the
query flag `dbg` arbitrary — independent of the flag the structure was built with. -/

section rsq
open Qwt.RSQP (RepInv)
variable {B : Nat} {r : RSQ.RSQVector} {s : List Nat} (h : RepInv B r s) (dbg : Bool)
include h

theorem rsq_get (i : Nat) (hi : i < s.length) :
    Agree (RSQ.getUnchecked dbg r i) (RSQ.get dbg r i) s[i] :=
  .of_getElem? hi (by rw [C05.getU_ok h dbg i hi, getD_of_lt hi]) (C05.get_ok h dbg i)

theorem rsq_rank (c i : Nat) (hc : c ≤ 3) (hi : i ≤ s.length) :
    Agree (RSQ.rankUnchecked dbg B r c i) (RSQ.rank dbg B r c i) (Spec.rank c i s) :=
  .of_ite (C05.rankU_ok h dbg c i hc hi) (C05.rank_ok h dbg c i) ⟨hc, hi⟩

theorem rsq_select (c k p : Nat) (hc : c ≤ 3) (hp : Spec.select c k s = some p) :
    Agree (RSQ.selectUnchecked dbg B r c k) (RSQ.select dbg B r c k) p :=
  ⟨C05.selectU_ok Closed.selHyp h dbg c k p hc hp, by
    rw [C05.select_ok Closed.selHyp h dbg c k, if_pos hc, hp]⟩

theorem rsq_occs (c : Nat) (hc : c ≤ 3) :
    Agree (RSQ.occsUnchecked dbg r c) (RSQ.occs dbg r c) (s.count c) :=
  .of_ite (C05.occsU_ok h dbg c hc) (C05.occs_ok h dbg c) hc

theorem rsq_occsSmaller (c : Nat) (hc : c ≤ 3) :
    Agree (RSQ.occsSmallerUnchecked dbg r c) (RSQ.occsSmaller dbg r c)
      (Spec.occsSmaller id c s) :=
  .of_ite (C05.occsSmallerU_ok h dbg c hc) (C05.occsSmaller_ok h dbg c) hc

end rsq

/-- below the `2^43` length limit the length arithmetic of `collect` stays inside `usize` -/
theorem two_mul_lt_two64 {n : Nat} (h : n < 2 ^ 43) : 2 * n < two64 :=
  Nat.lt_of_lt_of_le (Nat.mul_lt_mul_of_pos_left h (by decide)) (by decide)

theorem rsq_fromQV_repInv {B : Nat} (dbg0 : Bool) (hB : B = 256 ∨ B = 512) {qv : QV.QVector}
    (hq : QV.Inv qv) (hl : (QV.abs qv).length < 2 ^ 43) {r : RSQ.RSQVector}
    (hr : RSQ.fromQV dbg0 B qv = .ok r) : RSQP.RepInv B r (QV.abs qv) :=
  of_exists_ok (C05.fromQV_repInv (B := B) dbg0 hB (RSQP.holds_of_inv hq) (QV.abs_lt_four qv) hl) hr

theorem rsq_new_repInv {B : Nat} (dbg0 : Bool) (hB : B = 256 ∨ B = 512) (vals : List Int)
    (hl : vals.length < 2 ^ 43) {r : RSQ.RSQVector} (hr : RSQ.new dbg0 B vals = .ok r) :
    RSQP.RepInv B r (vals.map (fun v => (v % 4).toNat)) := by
  obtain ⟨q, e, hq, a⟩ := C13.fromIter_ok vals (two_mul_lt_two64 hl)
  unfold RSQ.new at hr
  rw [e] at hr
  rw [← a]
  exact rsq_fromQV_repInv dbg0 hB hq (by rw [a, List.length_map]; exact hl) hr

/-- the closed statement: structure built in profile `dbg0`, queried in profile `dbg` (in
    particular `dbg = dbg0 = false` and `dbg = dbg0 = true`) -/
theorem rsq_all {B : Nat} (dbg0 dbg : Bool) (hB : B = 256 ∨ B = 512) {qv : QV.QVector}
    (hq : QV.Inv qv) (hl : (QV.abs qv).length < 2 ^ 43) {r : RSQ.RSQVector}
    (hr : RSQ.fromQV dbg0 B qv = .ok r) :
    (∀ i (hi : i < (QV.abs qv).length),
      Agree (RSQ.getUnchecked dbg r i) (RSQ.get dbg r i) (QV.abs qv)[i]) ∧
    (∀ c i, c ≤ 3 → i ≤ (QV.abs qv).length →
      Agree (RSQ.rankUnchecked dbg B r c i) (RSQ.rank dbg B r c i) (Spec.rank c i (QV.abs qv))) ∧
    (∀ c k p, c ≤ 3 → Spec.select c k (QV.abs qv) = some p →
      Agree (RSQ.selectUnchecked dbg B r c k) (RSQ.select dbg B r c k) p) ∧
    (∀ c, c ≤ 3 → Agree (RSQ.occsUnchecked dbg r c) (RSQ.occs dbg r c) ((QV.abs qv).count c)) ∧
    (∀ c, c ≤ 3 → Agree (RSQ.occsSmallerUnchecked dbg r c) (RSQ.occsSmaller dbg r c)
      (Spec.occsSmaller id c (QV.abs qv))) := by
  have h := rsq_fromQV_repInv dbg0 hB hq hl hr
  exact ⟨rsq_get h dbg, rsq_rank h dbg, rsq_select h dbg, rsq_occs h dbg, rsq_occsSmaller h dbg⟩

/-! ## `RSWide` and `RSNarrow` (no debug assertion in either: one statement for both builds) -/

section rsw
variable {r : RSW.RSWide} {s : List Bool} (hv : RSW.Inv r s)
include hv

theorem rsw_get (i : Nat) (hi : i < s.length) :
    Agree (RSW.getUnchecked r i) (RSW.get r i) s[i] :=
  .of_getElem? hi (by rw [C06.rsw_getUnchecked hv i hi, getD_of_lt hi]) (C06.rsw_get hv i)

theorem rsw_rank1 (i : Nat) (hne : s ≠ []) (hi : i ≤ s.length) :
    Agree (RSW.rank1Unchecked r i) (RSW.rank1 r i) (Spec.rank true i s) :=
  .of_ite (C06.rsw_rank1Unchecked hv i hi) (C06.rsw_rank1 hv i) ⟨hne, hi⟩

theorem rsw_rank0 (i : Nat) (hne : s ≠ []) (hi : i ≤ s.length) :
    Agree (RSW.rank0Unchecked r i) (RSW.rank0 r i) (Spec.rank false i s) :=
  .of_ite (C06.rsw_rank0Unchecked hv i hi) (C06.rsw_rank0 hv i) ⟨hne, hi⟩

theorem rsw_select1 (k p : Nat) (hp : Spec.select true k s = some p) :
    Agree (RSW.selectUnchecked r true k) (RSW.select1 r k) p :=
  .of_select hp (C06.rsw_selectUnchecked Closed.selSpec hv true k (select_some_lt hp))
    (C06.rsw_select1 Closed.selSpec hv k)

theorem rsw_select0 (k p : Nat) (hp : Spec.select false k s = some p) :
    Agree (RSW.selectUnchecked r false k) (RSW.select0 r k) p :=
  .of_select hp (C06.rsw_selectUnchecked Closed.selSpec hv false k (select_some_lt hp))
    (C06.rsw_select0 Closed.selSpec hv k)

end rsw

theorem rsw_new_inv {b : BV.BitVector} (hb : BV.Inv b) (hl : (BV.abs b).length < 2 ^ 43)
    {r : RSW.RSWide} (hr : RSW.new b = .ok r) : RSW.Inv r (BV.abs b) :=
  (of_exists_ok (C06.rsw_new_inv (C06.holds_of_inv hb) hl) hr).2

theorem rsw_all {b : BV.BitVector} (hb : BV.Inv b) (hl : (BV.abs b).length < 2 ^ 43)
    {r : RSW.RSWide} (hr : RSW.new b = .ok r) :
    (∀ i (hi : i < (BV.abs b).length), Agree (RSW.getUnchecked r i) (RSW.get r i) (BV.abs b)[i]) ∧
    (∀ i, BV.abs b ≠ [] → i ≤ (BV.abs b).length →
      Agree (RSW.rank1Unchecked r i) (RSW.rank1 r i) (Spec.rank true i (BV.abs b))) ∧
    (∀ i, BV.abs b ≠ [] → i ≤ (BV.abs b).length →
      Agree (RSW.rank0Unchecked r i) (RSW.rank0 r i) (Spec.rank false i (BV.abs b))) ∧
    (∀ k p, Spec.select true k (BV.abs b) = some p →
      Agree (RSW.selectUnchecked r true k) (RSW.select1 r k) p) ∧
    (∀ k p, Spec.select false k (BV.abs b) = some p →
      Agree (RSW.selectUnchecked r false k) (RSW.select0 r k) p) := by
  have h := rsw_new_inv hb hl hr
  exact ⟨rsw_get h, rsw_rank1 h, rsw_rank0 h, rsw_select1 h, rsw_select0 h⟩

section rsn
variable {r : RSN.RSNarrow} {s : List Bool} (hv : RSN.Inv r s)
include hv

theorem rsn_rank1 (i : Nat) (hne : s ≠ []) (hi : i ≤ s.length) :
    Agree (RSN.rank1Unchecked r i) (RSN.rank1 r i) (Spec.rank true i s) :=
  .of_ite (C06.rsn_rank1Unchecked hv i hi) (C06.rsn_rank1 hv i) ⟨hne, hi⟩

theorem rsn_select1 (k p : Nat) (hp : Spec.select true k s = some p) :
    Agree (RSN.selectUnchecked r true k) (RSN.select1 r k) p :=
  .of_select hp (C06.rsn_selectUnchecked Closed.selSpec hv true k (select_some_lt hp))
    (C06.rsn_select1 Closed.selSpec hv k)

theorem rsn_select0 (k p : Nat) (hp : Spec.select false k s = some p) :
    Agree (RSN.selectUnchecked r false k) (RSN.select0 r k) p :=
  .of_select hp (C06.rsn_selectUnchecked Closed.selSpec hv false k (select_some_lt hp))
    (C06.rsn_select0 Closed.selSpec hv k)

end rsn

theorem rsn_new_inv {b : BV.BitVector} (hb : BV.Inv b) {r : RSN.RSNarrow}
    (hr : RSN.new b = .ok r) : RSN.Inv r (BV.abs b) :=
  (of_exists_ok (C06.rsn_new_inv (C06.holds_of_inv hb)) hr).2

theorem rsn_all {b : BV.BitVector} (hb : BV.Inv b) {r : RSN.RSNarrow} (hr : RSN.new b = .ok r) :
    (∀ i, BV.abs b ≠ [] → i ≤ (BV.abs b).length →
      Agree (RSN.rank1Unchecked r i) (RSN.rank1 r i) (Spec.rank true i (BV.abs b))) ∧
    (∀ k p, Spec.select true k (BV.abs b) = some p →
      Agree (RSN.selectUnchecked r true k) (RSN.select1 r k) p) ∧
    (∀ k p, Spec.select false k (BV.abs b) = some p →
      Agree (RSN.selectUnchecked r false k) (RSN.select0 r k) p) := by
  have h := rsn_new_inv hb hr
  exact ⟨rsn_rank1 h, rsn_select1 h, rsn_select0 h⟩

/-! ## `BitVector` / `BitVectorMut` and `QVector`

`b` is any bit vector satisfying the C08 invariant — in particular every vector reachable by
the constructors and mutators (`C08.reachable_inv`). -/

section bv
variable (b : BV.BitVector) (hb : BV.Inv b)
include hb

theorem bv_get (i : Nat) (hi : i < (BV.abs b).length) :
    Agree (BV.getUnchecked b i) (BV.get b i) (BV.abs b)[i] :=
  .of_getElem? hi
    (by rw [C08.getUnchecked_ok b hb i (BV.abs_length b ▸ hi), getD_of_lt hi]) (C08.get_ok b hb i)

theorem bv_getBits (i len : Nat) (h1 : 1 ≤ len) (h2 : len ≤ 64) (h3 : i + len ≤ b.nBits) :
    Agree (BV.getBitsUnchecked b i len) (BV.getBits b i len)
      (Spec.ofBits (((BV.abs b).drop i).take len)) :=
  .of_ite (C08.getBitsUnchecked_ok b hb i len h1 h2 h3) (C08.getBits_ok b hb i len) ⟨h1, h2, h3⟩

/-- the same against `BitVectorMut::get_bits`, whose range test is the strict one -/
theorem bv_getBitsMut (i len : Nat) (h1 : 1 ≤ len) (h2 : len ≤ 64) (h3 : i + len < b.nBits) :
    Agree (BV.getBitsUnchecked b i len) (BV.getBitsMut b i len)
      (Spec.ofBits (((BV.abs b).drop i).take len)) :=
  .of_ite (C08.getBitsUnchecked_ok b hb i len h1 h2 (Nat.le_of_lt h3))
    (C08.getBitsMut_pinned b hb i len) ⟨h1, h2, h3⟩

end bv

theorem bv_reachable (h : List BV.Op) (hp : BV.HistPre h []) {b : BV.BitVector}
    (hr : BV.run h {} = .ok b) :
    (∀ i (hi : i < (BV.abs b).length), Agree (BV.getUnchecked b i) (BV.get b i) (BV.abs b)[i]) ∧
    (∀ i len, 1 ≤ len → len ≤ 64 → i + len ≤ b.nBits →
      Agree (BV.getBitsUnchecked b i len) (BV.getBits b i len)
        (Spec.ofBits (((BV.abs b).drop i).take len))) := by
  have hb := (C08.reachable_inv h hp b hr).1
  exact ⟨bv_get b hb, bv_getBits b hb⟩

/-- `QVector::get_unchecked(i)` = `get(i)` for `i < len`, with and without the debug assertion
    `i < len` inside `get_unchecked` -/
theorem qv_get (dbg : Bool) (q : QV.QVector) (h : QV.Inv q) (i : Nat) (hi : i < (QV.abs q).length) :
    Agree (QV.getUnchecked dbg q i) (QV.get dbg q i) (QV.abs q)[i] :=
  .of_getElem? hi (C13.getUnchecked_ok dbg q h i hi) (C13.get_ok dbg q h i)

theorem qv_fromIter (dbg : Bool) (vals : List Int) (hn : 2 * vals.length < two64) {q : QV.QVector}
    (hq : QV.fromIter vals = .ok q) (i : Nat) (hi : i < vals.length) :
    Agree (QV.getUnchecked dbg q i) (QV.get dbg q i) ((vals[i] % 4).toNat) := by
  obtain ⟨hinv, a⟩ := of_exists_ok (C13.fromIter_ok vals hn) hq
  have hi' : i < (QV.abs q).length := by rw [a, List.length_map]; exact hi
  have hv : (QV.abs q)[i] = (vals[i] % 4).toNat := by simp only [a, List.getElem_map]
  exact hv ▸ qv_get dbg q hinv i hi'

/-! ## `DArray`: `select1_unchecked` / `select0_unchecked`

In Rust both are `self.select1(i).unwrap()` / `self.select0(i).unwrap()`
(`src/darray/mod.rs`); the model has no separate definition, so they are defined here, as that
composition.  `da_select1` / `da_select0` therefore say only that `select` returns `Some` inside the
precondition; that the Rust methods are this composition is part of the correspondence check. -/

def daSelect1Unchecked (d : DA.DArray) (k : Nat) : M Nat := do
  let v ← DA.select1 d k
  unwrap v

def daSelect0Unchecked (s0 : Bool) (d : DA.DArray) (k : Nat) : M Nat := do
  let v ← DA.select0 s0 d k
  unwrap v

theorem da_select1 (s0 : Bool) {b : BV.BitVector} (hb : BV.Inv b) (k p : Nat)
    (hp : Spec.select true k (BV.abs b) = some p) :
    Agree (daSelect1Unchecked (DA.new s0 b) k) (DA.select1 (DA.new s0 b) k) p :=
  .unwrap (by rw [Closed.darray_select1 s0 hb k, hp])

theorem da_select0 {b : BV.BitVector} (hb : BV.Inv b) (k p : Nat)
    (hp : Spec.select false k (BV.abs b) = some p) :
    Agree (daSelect0Unchecked true (DA.new true b) k) (DA.select0 true (DA.new true b) k) p :=
  .unwrap (by rw [Closed.darray_select0 hb k, hp])

/-- outside the precondition the unchecked variant is the `unwrap` panic, not undefined
    behaviour (sharpness of the precondition) -/
theorem da_select1_unchecked_none (s0 : Bool) {b : BV.BitVector} (hb : BV.Inv b) (k : Nat)
    (hp : Spec.select true k (BV.abs b) = none) :
    daSelect1Unchecked (DA.new s0 b) k = .error .unwrapNone := by
  unfold daSelect1Unchecked
  rw [Closed.darray_select1 s0 hb k, hp]; rfl

/-- without `SELECT0_SUPPORT` both `select0` and `select0_unchecked` are the documented panic -/
theorem da_select0_unsupported (d : DA.DArray) (k : Nat) :
    daSelect0Unchecked false d k = .error .assertDoc ∧ DA.select0 false d k = .error .assertDoc :=
  ⟨rfl, rfl⟩

/-! The `HWT` example of `Props/C03.lean` satisfies the hypotheses on the length table (used in the
examples below and in `Props/C12Closed.lean`). -/

theorem exLensOK2 : C02.LensOK 2 C03.exLens := ⟨by decide, by decide, by decide, by decide, by decide⟩

theorem exOcc2 : ∀ s, s ∈ C03.exLens.map (·.1) ↔ s ∈ C03.exHS := fun s =>
  ⟨(by decide : ∀ x ∈ C03.exLens.map (·.1), x ∈ C03.exHS) s,
    (by decide : ∀ x ∈ C03.exHS, x ∈ C03.exLens.map (·.1)) s⟩

/-! ## non-vacuity: the hypotheses are satisfiable, the theorems instantiate, and the model
itself evaluates to the same values in both build profiles -/

section examples

example (t : QWTree.QWT)
    (h : QWTree.new { pfs := true, W := 8 } [1, 0, 1, 0, 2, 4, 5, 3].toArray = .ok t) :
    QWTree.getUnchecked { pfs := true, W := 8 } t 5 = .ok 4 ∧
      QWTree.get { pfs := true, W := 8 } t 5 = .ok (some 4) :=
  qwt_get (Or.inl rfl) (by decide) (by decide) (by decide) h 5 (by decide)

example (d : Bool) (t : QWTree.QWT)
    (h : QWTree.new { B := 512, W := 16, dbg := d } [1, 0, 1, 0, 2, 4, 5, 300].toArray = .ok t) :
    QWTree.selectUnchecked { B := 512, W := 16, dbg := d } t 1 1 = .ok 2 ∧
      QWTree.select { B := 512, W := 16, dbg := d } t 1 1 = .ok (some 2) :=
  qwt_select (Or.inr rfl) (show 0 < 16 by decide) (show ∀ x ∈ [1, 0, 1, 0, 2, 4, 5, 300], x < 2 ^ 16 by decide)
    (by decide) h 1 1 2 (by decide)

example (t : QWTree.QWT)
    (h : QWTree.new { pfs := true, W := 8 } [1, 0, 1, 0, 2, 4, 5, 3].toArray = .ok t) :
    QWTree.rankPrefetchUnchecked { pfs := true, W := 8 } t 1 4 = .ok 2 ∧
      QWTree.rankPrefetch { pfs := true, W := 8 } t 1 4 = .ok (some 2) :=
  qwt_rankPrefetch (Or.inl rfl) (by decide) (by decide) (by decide) h 1 4 (by decide) (by decide)
    (by decide)

example : ∀ d : Bool,
    (do let t ← QWTree.new { pfs := true, W := 8, dbg := d } #[1, 0, 1, 0, 2, 4, 5, 3]
        let u ← QWTree.rankPrefetchUnchecked { pfs := true, W := 8, dbg := d } t 1 4
        let k ← QWTree.rankPrefetch { pfs := true, W := 8, dbg := d } t 1 4
        pure (some u == k)) = .ok true := by decide +kernel

example : ∀ d : Bool,
    (do let t ← QWTree.new { W := 8, dbg := d } #[1, 0, 1, 0, 2, 4, 5, 3]
        let u ← QWTree.selectUnchecked { W := 8, dbg := d } t 1 1
        let k ← QWTree.select { W := 8, dbg := d } t 1 1
        pure (u, k)) = .ok (2, some 2) := by decide +kernel

/-- outside the precondition the unchecked variant may fault (here: the `unwrap`) -/
example : (do let t ← QWTree.new { W := 8 } #[1, 0, 1, 0, 2, 4, 5, 3]
              QWTree.selectUnchecked { W := 8 } t 1 2) = .error .unwrapNone := by decide +kernel

example (t : Huff.HQWT) (h : Huff.new C02.exC C02.exS.toArray C02.exLens = .ok t) :
    Huff.rankPrefetchUnchecked C02.exC t 3 12 = .ok 2 ∧
      Huff.rankPrefetch C02.exC t 3 12 = .ok (some 2) :=
  hqwt_rankPrefetch C02.exC (Or.inl rfl) (by decide) C02.exS (by decide) (by decide) (by decide)
    C02.exLens C02.exLensOK C02.exSyms h 3 12 (by decide) (by decide)

example (t : Huff.HQWT) (h : Huff.new C02.exC C02.exS.toArray C02.exLens = .ok t) :
    Huff.getUnchecked C02.exC t 8 = .ok 8 ∧ Huff.get C02.exC t 8 = .ok (some 8) :=
  hqwt_get C02.exC (Or.inl rfl) (by decide) C02.exS (by decide) (by decide) (by decide)
    C02.exLens C02.exLensOK C02.exSyms h 8 (by decide)

example : ∀ d : Bool,
    (do let t ← Huff.new { W := 8, pfs := true, dbg := d } C02.exS.toArray C02.exLens
        let u ← Huff.rankPrefetchUnchecked { W := 8, pfs := true, dbg := d } t 3 12
        let k ← Huff.rankPrefetch { W := 8, pfs := true, dbg := d } t 3 12
        let s ← Huff.selectUnchecked { W := 8, pfs := true, dbg := d } t 9 1
        pure (u, k, s)) = .ok (2, some 2, 15) := by decide +kernel

example (t : BinWT.WT) (h : BinWT.new C03.exC false C03.exS.toArray [] = .ok t) :
    BinWT.rankUnchecked C03.exC false t 1 5 = .ok 2 ∧
      BinWT.rank C03.exC false t 1 5 = .ok (some 2) :=
  wt_rank C03.exC (by decide) C03.exS (by decide) (by decide) h 1 5 (by decide) (by decide)
    (by decide)

example (t : BinWT.WT) (h : BinWT.new C03.exC true C03.exHS.toArray C03.exLens = .ok t) :
    BinWT.selectUnchecked C03.exC true t 1 3 = .ok 7 ∧
      BinWT.select C03.exC true t 1 3 = .ok (some 7) :=
  hwt_select C03.exC (by decide) C03.exHS (by decide) (by decide) (by decide) C03.exLens exLensOK2
    exOcc2 h 1 3 7 (by decide)

example (dbg0 dbg : Bool) (r : RSQ.RSQVector) (h : RSQ.new dbg0 512 [0, 1, 2, 3, 1, -3] = .ok r) :
    RSQ.selectUnchecked dbg 512 r 1 2 = .ok 5 ∧ RSQ.select dbg 512 r 1 2 = .ok (some 5) :=
  rsq_select (rsq_new_repInv dbg0 (Or.inr rfl) _ (by decide) h) dbg 1 2 5 (by decide) (by decide)

example : ∀ d : Bool,
    (do let r ← RSQ.new d 256 [0, 1, 2, 3, 1, -3]
        let a ← RSQ.selectUnchecked d 256 r 1 2
        let b ← RSQ.occsUnchecked d r 1
        let c ← RSQ.occsSmallerUnchecked d r 3
        let e ← RSQ.rankUnchecked d 256 r 1 6
        let g ← RSQ.getUnchecked d r 5
        pure [a, b, c, e, g]) = .ok [5, 3, 5, 3, 1] := by decide +kernel

/-- … and the debug assertion of `select_unchecked` fires outside the precondition only in the
    debug build (the optimised build reaches the `unwrap`) -/
example : (do let r ← RSQ.new true 256 [0, 1, 2, 3, 1]; RSQ.selectUnchecked true 256 r 1 2)
    = .error .debugAssert := by decide +kernel
example : (do let r ← RSQ.new false 256 [0, 1, 2, 3, 1]; RSQ.selectUnchecked false 256 r 1 2)
    = .error .unwrapNone := by decide +kernel

example : ∃ b r, BV.fromBools [true, false, true, true] = .ok b ∧ RSW.new b = .ok r ∧
    RSW.rank0Unchecked r 3 = .ok 1 ∧ RSW.rank0 r 3 = .ok (some 1) ∧
    RSW.selectUnchecked r true 2 = .ok 3 ∧ RSW.select1 r 2 = .ok (some 3) := by
  obtain ⟨b, h1, h2, h3⟩ := C08.fromBools_ok [true, false, true, true] (by decide)
  obtain ⟨r, hr, _⟩ := Closed.rsw_represents h2 (by rw [h3]; decide)
  obtain ⟨_, _, g0, g1, _⟩ := rsw_all h2 (by rw [h3]; decide) hr
  rw [h3] at g0 g1
  exact ⟨b, r, h1, hr, (g0 3 (by decide) (by decide)).1, (g0 3 (by decide) (by decide)).2,
    (g1 2 3 (by decide)).1, (g1 2 3 (by decide)).2⟩

example : ∃ b, BV.fromBools [true, false, true, true] = .ok b ∧
    daSelect0Unchecked true (DA.new true b) 0 = .ok 1 ∧
    DA.select0 true (DA.new true b) 0 = .ok (some 1) ∧
    BV.getBitsUnchecked b 1 3 = .ok 6 ∧ BV.getBits b 1 3 = .ok (some 6) := by
  obtain ⟨b, h1, h2, h3⟩ := C08.fromBools_ok [true, false, true, true] (by decide)
  have g := da_select0 h2 0 1 (by rw [h3]; decide)
  have hn : b.nBits = 4 := by rw [← BV.abs_length, h3]; rfl
  have g' := bv_getBits b h2 1 3 (by decide) (by decide) (by rw [hn]; decide)
  rw [h3] at g'
  exact ⟨b, h1, g.1, g.2, g'.1, g'.2⟩

example : (do let q ← QV.fromIter [5, -1, 2, 7]; QV.getUnchecked true q 2) = .ok 2 ∧
    (do let q ← QV.fromIter [5, -1, 2, 7]; QV.get true q 2) = .ok (some 2) := by decide +kernel

end examples

end Qwt.Props.C10
