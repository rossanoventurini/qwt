import Qwt.Model.QWT
import Qwt.Model.Huff
import Qwt.Model.BinWT
import Qwt.Model.Codec

/-! C18 — queries are pure; structures can be shared across threads.

In the model every query is a *function* of the (immutable) state, so a system of threads
querying one shared value is the transition system below, whose state never changes.
`schedule_independent` says that under EVERY interleaving each thread obtains exactly the
answers a single thread obtains; `state_unchanged` says the value (hence its serialised
form) is the same after any batch.  What ties this to the Rust code is checked, not proved:
the harness' compile-time `Send + Sync` assertions, the source scan for interior mutability,
the byte-identical `bincode` form before/after query batches and the 16-thread stress run. -/
namespace Qwt.Props.C18
open Qwt

/-- an event of the concurrent system: thread `tid` issues query `q` -/
structure Ev (Q : Type) where
  tid : Nat
  q : Q

/-- run a schedule (any interleaving of the threads' queries) against a shared state whose
    queries are answered by the pure function `answer` -/
def runSched {S Q O : Type} (answer : S → Q → O) : S → List (Ev Q) → S × List (Nat × O)
  | s, [] => (s, [])
  | s, e :: es =>
    let r := runSched answer s es
    (r.1, (e.tid, answer s e.q) :: r.2)

theorem state_unchanged {S Q O : Type} (answer : S → Q → O) (s : S) (sched : List (Ev Q)) :
    (runSched answer s sched).1 = s := by
  induction sched with
  | nil => rfl
  | cons e es ih => simpa [runSched] using ih

/-- the answers thread `t` receives under an arbitrary schedule are the answers it would
    receive running alone on its own queries, in its own order -/
theorem schedule_independent {S Q O : Type} (answer : S → Q → O) (s : S) (sched : List (Ev Q))
    (t : Nat) :
    ((runSched answer s sched).2.filter (fun p => p.1 == t)).map (·.2) =
      ((sched.filter (fun e => e.tid == t)).map (fun e => answer s e.q)) := by
  induction sched with
  | nil => rfl
  | cons e es ih =>
    by_cases h : e.tid == t <;> simp [runSched, h, ih]

/-- two schedules that give thread `t` the same queries in the same order give it the same
    answers -/
theorem interleaving_irrelevant {S Q O : Type} (answer : S → Q → O) (s : S) (σ₁ σ₂ : List (Ev Q))
    (t : Nat)
    (h : (σ₁.filter (fun e => e.tid == t)).map (·.q) = (σ₂.filter (fun e => e.tid == t)).map (·.q)) :
    ((runSched answer s σ₁).2.filter (fun p => p.1 == t)).map (·.2) =
      ((runSched answer s σ₂).2.filter (fun p => p.1 == t)).map (·.2) := by
  have key : ∀ σ : List (Ev Q), σ.map (fun e => answer s e.q) = (σ.map (·.q)).map (answer s) :=
    fun _ => (List.map_map (f := Ev.q) (g := answer s)).symm
  rw [schedule_independent, schedule_independent, key, key, h]

/-- the queries of the quad wavelet tree, as one pure answer function -/
inductive TreeQ where
  | get (i : Nat) | rank (c i : Nat) | select (c k : Nat) | rankPrefetch (c i : Nat)

def answerQWT (c : Cfg) (t : QWTree.QWT) : TreeQ → Out
  | .get i => Out.ofOpt (QWTree.get c t i)
  | .rank s i => Out.ofOpt (QWTree.rank c t s i)
  | .select s k => Out.ofOpt (QWTree.select c t s k)
  | .rankPrefetch s i => Out.ofOpt (QWTree.rankPrefetch c t s i)

def answerHQWT (c : Cfg) (t : Huff.HQWT) : TreeQ → Out
  | .get i => Out.ofOpt (Huff.get c t i)
  | .rank s i => Out.ofOpt (Huff.rank c t s i)
  | .select s k => Out.ofOpt (Huff.select c t s k)
  | .rankPrefetch s i => Out.ofOpt (Huff.rankPrefetch c t s i)

-- the binary trees have no `rank_prefetch`: that query is answered as `rank`
def answerWT (c : Cfg) (comp : Bool) (t : BinWT.WT) : TreeQ → Out
  | .get i => Out.ofOpt (BinWT.get c comp t i)
  | .rank s i => Out.ofOpt (BinWT.rank c comp t s i)
  | .select s k => Out.ofOpt (BinWT.select c comp t s k)
  | .rankPrefetch s i => Out.ofOpt (BinWT.rank c comp t s i)

/-- C18 for the quad wavelet tree model: any interleaving, same answers; the second conjunct (same
    bytes) holds because `runSched` never touches the state -/
theorem qwt_shared (c : Cfg) (wbytes : Nat) (t : QWTree.QWT) (sched : List (Ev TreeQ))
    (tid : Nat) :
    ((runSched (answerQWT c) t sched).2.filter (fun p => p.1 == tid)).map (·.2)
      = ((sched.filter (fun e => e.tid == tid)).map (fun e => answerQWT c t e.q))
    ∧ Codec.encode (Codec.qwtVal wbytes (runSched (answerQWT c) t sched).1) =
        Codec.encode (Codec.qwtVal wbytes t) := by
  refine ⟨schedule_independent _ _ _ _, ?_⟩
  rw [state_unchanged]

theorem hqwt_shared (c : Cfg) (wbytes : Nat) (t : Huff.HQWT) (sched : List (Ev TreeQ))
    (tid : Nat) :
    ((runSched (answerHQWT c) t sched).2.filter (fun p => p.1 == tid)).map (·.2)
      = ((sched.filter (fun e => e.tid == tid)).map (fun e => answerHQWT c t e.q))
    ∧ Codec.encode (Codec.hqwtVal wbytes (runSched (answerHQWT c) t sched).1) =
        Codec.encode (Codec.hqwtVal wbytes t) := by
  refine ⟨schedule_independent _ _ _ _, ?_⟩
  rw [state_unchanged]

theorem wt_shared (c : Cfg) (comp : Bool) (wbytes : Nat) (t : BinWT.WT) (sched : List (Ev TreeQ))
    (tid : Nat) :
    ((runSched (answerWT c comp) t sched).2.filter (fun p => p.1 == tid)).map (·.2)
      = ((sched.filter (fun e => e.tid == tid)).map (fun e => answerWT c comp t e.q))
    ∧ Codec.encode (Codec.wtVal wbytes (runSched (answerWT c comp) t sched).1) =
        Codec.encode (Codec.wtVal wbytes t) := by
  refine ⟨schedule_independent _ _ _ _, ?_⟩
  rw [state_unchanged]

-- non-vacuity: two threads, three events, on a concrete answer function
example : (runSched (fun (s : Nat) (q : Nat) => s + q) 10 [⟨0, 1⟩, ⟨1, 5⟩, ⟨0, 2⟩]).2 = [(0, 11), (1, 15), (0, 12)] := by
  decide +kernel

end Qwt.Props.C18
