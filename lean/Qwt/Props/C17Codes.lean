import Qwt.Proofs.BinHWMNew
import Qwt.Proofs.HQWMPart

/-!
# C17 — the `_with_codes` stable partitions, called directly

`utils::stable_partition_of_2_with_codes` / `stable_partition_of_4_with_codes` are public functions of their
own (the harness calls them with arbitrary code tables, `u part2c` / `u part4c`).  For **every** table of
`(content, len)` pairs — prefix-free or not —, every shift `≥ 1` (binary) / every even shift `≥ 2` with even
code lengths (quad: the shifts and lengths the quad tree uses) and every input whose elements index the
table, the result is: the elements whose code is longer than the shift, grouped by the digit found at that
shift in increasing order, each group in input order, followed by the elements whose code has ended.
An element outside the table is an index panic in the crate and `Fault.indexPanic` in the model.
-/
namespace Qwt.Props.C17
open Qwt Qwt.Huff

theorem part2_with_codes_ok (codes : Array PrefixCode) (k : Nat) (l : List Nat)
    (hl : ∀ s ∈ l, s < codes.size ∧ s < two64) :
    Huff.partitionWithCodes 2 l.toArray (k + 1) codes =
      .ok ((l.filter (fun x => decide (k + 1 < BinWM.clen codes x) && !BinWM.cbit codes k x)) ++
           (l.filter (fun x => decide (k + 1 < BinWM.clen codes x) && BinWM.cbit codes k x)) ++
           (l.filter (fun x => decide (BinWM.clen codes x ≤ k + 1)))).toArray :=
  BinWM.partitionWithCodes_ok codes k l hl

theorem part4_with_codes_ok (codes : Array PrefixCode) (k : Nat) (l : List Nat)
    (hl : ∀ s ∈ l, s < codes.size ∧ s < two64) (hev : ∀ s : Nat, 2 ∣ codes[s]!.len) :
    Huff.partitionWithCodes 4 l.toArray (2 * (k + 1)) codes =
      .ok ((l.filter (fun x => decide (k + 1 < HQWM.qlen codes x) && (HQWM.qdig codes k x == 0))) ++
           (l.filter (fun x => decide (k + 1 < HQWM.qlen codes x) && (HQWM.qdig codes k x == 1))) ++
           (l.filter (fun x => decide (k + 1 < HQWM.qlen codes x) && (HQWM.qdig codes k x == 2))) ++
           (l.filter (fun x => decide (k + 1 < HQWM.qlen codes x) && (HQWM.qdig codes k x == 3))) ++
           (l.filter (fun x => decide (HQWM.qlen codes x ≤ k + 1)))).toArray :=
  HQWM.partitionWithCodesQ_ok codes k l hl hev

/-- an element that does not index the table faults (index panic), whatever the rest of the input -/
theorem part_with_codes_oob (D : Nat) (codes : Array PrefixCode) (shift a : Nat)
    (ha : codes.size ≤ a) (ha64 : a < two64) :
    Huff.partitionWithCodes D #[a] shift codes = .error Fault.indexPanic := by
  have h1 : Utils.asUsize a = a := by
    unfold Utils.asUsize; exact Nat.mod_eq_of_lt ha64
  have h2 : idx codes (Utils.asUsize a) = .error Fault.indexPanic := by
    unfold idx; rw [h1]; simp [Nat.not_lt.mpr ha]
  show Huff.partitionWithCodes D [a].toArray shift codes = _
  unfold Huff.partitionWithCodes
  simp only [List.foldlM_toArray', List.foldlM_cons, h2]
  rfl

/-! non-vacuity: a concrete table (three codes of 1, 2, 2 bits / 2, 4, 4 bits, one ended code) and inputs -/

private def exCodes2 : Array PrefixCode := #[{ content := 0, len := 1 }, { content := 2, len := 2 }, { content := 3, len := 2 }]
private def exCodes4 : Array PrefixCode := #[{ content := 1, len := 2 }, { content := 9, len := 4 }, { content := 14, len := 4 }]

example : Huff.partitionWithCodes 2 #[2, 0, 1, 2, 0, 1] 1 exCodes2 = .ok #[2, 1, 2, 1, 0, 0] := by decide +kernel
example : Huff.partitionWithCodes 4 #[2, 0, 1, 2, 0, 1] 2 exCodes4 = .ok #[1, 1, 2, 2, 0, 0] := by decide +kernel
example : (∀ s ∈ [2, 0, 1, 2, 0, 1], s < exCodes2.size ∧ s < two64) := by decide
example : (∀ s : Nat, 2 ∣ exCodes4[s]!.len) := by
  intro s
  match s with
  | 0 => decide
  | 1 => decide
  | 2 => decide
  | n + 3 => simp [exCodes4]; exact ⟨0, rfl⟩
example : Huff.partitionWithCodes 4 #[7] 2 exCodes4 = .error Fault.indexPanic :=
  part_with_codes_oob 4 exCodes4 2 7 (by decide) (by decide)

end Qwt.Props.C17
